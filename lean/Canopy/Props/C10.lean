import Canopy.Proof.StoreState
import Canopy.Proof.IndexerCache
import Canopy.Gen.Store
import Canopy.Props.C19
import Canopy.Model.SstFilter
/-!
# C10 — store read semantics and immutability of committed history

*Spec* (`Canopy/Model/Store.lean`; `specView` in `Canopy/Proof/StoreHist.lean`): a versioned map `m : VMap` = the set of committed writes
`(key, version, value?)`; `readAt m v k` = the write to `k` with the greatest version ≤ `v`
(`none` when absent or a deletion); `specView layers f` = the pending operations of every
transaction layer applied on top of `f` (own writes visible, deletes hide); `IsScan f p rev out` =
`out` is strictly ordered by key (ascending, or descending for `rev`) and contains exactly the pairs
`(k, x)` with `p` a byte-prefix of `k` and `f k = some x` — i.e. complete, ordered, duplicate-free.

*Implementation model* (`Canopy/Model/Store.lean`, executable, run against the real `store.Store` on every check):
the pebble key space as a sorted list of `userKey ++ ^version ↦ tombstone ++ value`;
`VersionedStore.getRaw`; the `VersionedIterator` with its four strategies on a pebble cursor;
`Txn` overlays nested arbitrarily with the `TxnIterator` merge; `Commit` (LSS at 2^64-1 + HSS at
`version+1` + tombstone purge) as ONE batch; `NewReadOnly`; `Copy`; `Rollback`.

*Hypothesis carried explicitly* — `WFKeys K`: every key the store is used with is non-empty,
length-prefix decodable, at most 245 bytes, and **no key is a proper byte-prefix of another**; and
`PfxOK K p`: no key is a *proper* prefix of an iteration prefix. This is exactly what makes all
versions of one user key contiguous in the key space; `iter_wrong_without_WFKeys` shows it is
necessary, `fsm_stored_keys_prefix_free` shows every stored FSM key family satisfies it.
-/
namespace Canopy.C10
open Canopy Canopy.Store

/-- Starting from the empty store, any sequence of operations over keys of `K` leads to a state whose
key space represents some versioned map `m` (`Inv`: under `h/` every committed write at its version,
under `s/` the live keys of the current version; all pending layers sorted overlays). -/
theorem reachable_inv (K : Bytes → Prop) (hK : WFKeys K) (ops : List Op) (hops : ∀ op ∈ ops, OpOK K op)
    (hb : ops.length + 1 < maxVer) : ∃ m, Inv K (runOps {} ops) m :=
  ⟨_, ((Inv.init K).run_reads hK ops hops (by simpa using hb)).1⟩

/-! ## point reads and iteration refine the versioned map -/

/-- **`get_refines`** — the store and any nesting of `NewTxn()` transactions above it: a point read
returns exactly the versioned map as of the current version with every pending layer applied. -/
theorem get_refines (K : Bytes → Prop) (hK : WFKeys K) (s : State) (m : VMap) (hi : Inv K s m)
    (k : Bytes) (hk : K k) :
    s.handle.get k = some (specView s.main (readAt m s.version) k) :=
  (hi.reads_main hK).get hK hk

/-- **`iter_refines`** — forward and reverse prefix iteration through any nesting of transactions
(merged `TxnIterator`s over whichever `VersionedIterator` strategy is in use) yields *the* scan of that
same view: strictly ordered, complete, duplicate-free. -/
theorem iter_refines (K : Bytes → Prop) (hK : WFKeys K) (s : State) (m : VMap) (hi : Inv K s m)
    (p : Bytes) (hp : PfxOK K p) (hpk : keyOK p = true) (reverse : Bool) :
    ∃ out, s.handle.iter p reverse = some out ∧
      KeysSorted reverse (out.map (·.1)) ∧
      ∀ k x, (k, x) ∈ out ↔ (hasPrefix p k = true ∧ specView s.main (readAt m s.version) k = some x) :=
  (hi.reads_main hK).iter hK hi.main hp hpk reverse

/-- the same for read-only views `NewReadOnly(v)`: they show the versioned map as of `v` -/
theorem readOnly_refines (K : Bytes → Prop) (hK : WFKeys K) (s : State) (m : VMap) (hi : Inv K s m)
    (v : Nat) (hv : v ≤ maxVer) :
    (∀ k, K k → (s.readOnly v).get k = some (readAt m v k)) ∧
    (∀ p reverse, PfxOK K p → keyOK p = true →
      ∃ out, (s.readOnly v).iter p reverse = some out ∧ IsScan (readAt m v) p reverse out) :=
  ⟨fun _ hk => hi.readOnly_get hK hv hk, fun _ reverse hp hpk => hi.readOnly_iter hK hv hp hpk reverse⟩

/-- the same for store copies (`Store.Copy()`, which drops the `seek` flag and therefore runs the
linear strategies) and held read-only views: each shows the versioned map of the snapshot it was
taken from, with its own pending operations applied. -/
theorem copy_refines (K : Bytes → Prop) (hK : WFKeys K) (s : State) (m : VMap) (hi : Inv K s m)
    (h : Handle) (hh : h ∈ s.copies ++ s.held) :
    ∃ m' v', (∀ k, K k → h.get k = some (specView h.layers (readAt m' v') k)) ∧
      (∀ p reverse, PfxOK K p → keyOK p = true →
        ∃ out, h.iter p reverse = some out ∧ IsScan (specView h.layers (readAt m' v')) p reverse out) := by
  obtain ⟨⟨m', v', hr⟩, hl⟩ := hi.side h hh
  exact ⟨m', v', fun _ hk => hr.get hK hk, fun _ reverse hp hpk => hr.iter hK hl hp hpk reverse⟩

/-! ## what the view is: own writes visible, deletes hide, flush transparent, discarded work vanishes -/

theorem own_write_visible (ov : Overlay) (rest : List Layer) (f : Bytes → Option Bytes) (k v : Bytes) (seek : Bool) :
    specView ({ ov := smSet ov k (.set v), seek := seek } :: rest) f k = some v := by
  simp [specView, applyOv_write, TOp.read]

theorem delete_hides (ov : Overlay) (rest : List Layer) (f : Bytes → Option Bytes) (k : Bytes) (seek : Bool) :
    specView ({ ov := smSet ov k .del, seek := seek } :: rest) f k = none := by
  simp [specView, applyOv_write, TOp.read]

theorem other_keys_untouched (ov : Overlay) (rest : List Layer) (f : Bytes → Option Bytes) (k k' : Bytes) (op : TOp)
    (seek : Bool) (h : k' ≠ k) :
    specView ({ ov := smSet ov k op, seek := seek } :: rest) f k' = specView ({ ov := ov, seek := seek } :: rest) f k' := by
  simp [specView, applyOv_write, h]

/-- writing the pending operations of a nested txn into its parent does not change what the nested txn shows
(and the parent then shows it too) -/
theorem flush_transparent {top below : Layer} {rest ls' : List Layer} (hs : SSorted top.ov)
    (hf : flushLayers (top :: below :: rest) = some ls') (f : Bytes → Option Bytes) :
    specView ls' f = specView (top :: below :: rest) f := by
  simp only [flushLayers, Option.some.injEq] at hf
  subst hf
  funext k
  simp only [specView, List.foldr_cons, applyOv, smGet]
  rw [smGet_foldl_smSet top.ov hs]
  cases smGet top.ov k <;> rfl

/-- an emptied layer shows its parent -/
theorem discarded_work_vanishes (top : Layer) (rest : List Layer) (f : Bytes → Option Bytes) :
    specView ({ top with ov := [] } :: rest) f = specView rest f := by
  funext k
  simp [specView, applyOv, smGet]

/-- a scan is determined by the view it scans -/
theorem scan_unique {f : Bytes → Option Bytes} {p : Bytes} {reverse : Bool} {o1 o2 : List (Bytes × Bytes)}
    (h1 : IsScan f p reverse o1) (h2 : IsScan f p reverse o2) : o1 = o2 := isScan_unique h1 h2

/-! ## the physical layer: `VersionedStore.get` and all four iterator strategies -/

/-- `VersionedStore.Get` on any well-formed key space (`WFL`: sorted, keys `userKey ++ ^version`, user
keys prefix-free): the newest version ≤ the read version, tombstones hidden. -/
theorem vget_refines (db : DB) (h : WFL db) (v : Nat) (hvm : v ≤ maxVer) (uk : Bytes) (hc : KeyCompat db uk) (x : Bytes) :
    (VS.mk db v).get uk = some x ↔ Sees db v uk x := VS.get_sees db h v hvm uk hc x

/-- **each of the four strategies** — `seek`/linear × forward/reverse — of the `VersionedIterator`
(`first`, `advanceToNextKey`, `rewindToLatestVersion`, `step` on a pebble cursor), for **every**
version layout: the output is strictly ordered and contains exactly the user keys under the prefix
whose newest version ≤ the read version is alive, each once. -/
theorem viter_refines (db : DB) (h : WFL db) (v : Nat) (hvm : v ≤ maxVer) (pfx : Bytes) (hq : PrefixCompat db pfx)
    (reverse seek : Bool) :
    KeysSorted reverse (((VS.mk db v).iter pfx reverse seek).map (·.1)) ∧
    ∀ uk x, (uk, x) ∈ (VS.mk db v).iter pfx reverse seek ↔ (hasPrefix pfx uk = true ∧ Sees db v uk x) :=
  VS.iter_sees db h v hvm pfx hq reverse seek

/-- in either direction, seek and linear give the same list -/
theorem strategies_agree (db : DB) (h : WFL db) (v : Nat) (hvm : v ≤ maxVer) (pfx : Bytes) (hq : PrefixCompat db pfx)
    (reverse : Bool) : (VS.mk db v).iter pfx reverse true = (VS.mk db v).iter pfx reverse false := by
  have a := VS.iter_sees db h v hvm pfx hq reverse true
  have b := VS.iter_sees db h v hvm pfx hq reverse false
  exact sorted_mem_unique reverse _ _ a.1 b.1 fun e => by obtain ⟨k, x⟩ := e; rw [a.2, b.2]

/-! ## committed history is immutable; LSS = HSS; a rollback erases the abandoned heights -/

/-- **`history_immutable`** — for every `v` ≤ the committed version and every later sequence of
writes, deletes, nested transactions, flushes, discards, copies, commits, and rollbacks to heights
≥ `v`: every point read and every forward/reverse prefix iteration of a read-only view at `v` returns
what it returned before. -/
theorem history_immutable (K : Bytes → Prop) (hK : WFKeys K) (s : State) (m : VMap) (hi : Inv K s m)
    (ops : List Op) (hops : ∀ op ∈ ops, OpOK K op) (hver : s.version + ops.length + 1 < maxVer)
    (v : Nat) (hv : v ≤ s.version) (hkeep : ∀ op ∈ ops, KeepsHistory v op) :
    (∀ k, K k → ((runOps s ops).readOnly v).get k = (s.readOnly v).get k) ∧
    (∀ p reverse, PfxOK K p → keyOK p = true →
      ((runOps s ops).readOnly v).iter p reverse = (s.readOnly v).iter p reverse) :=
  hi.history hK ops hops hver v hv hkeep

/-- the spec-level content of `history_immutable`: a commit adds only a newer version, a rollback to
`t ≥ v` removes only versions above `v` -/
theorem readAt_stable_commit {m : VMap} {ov : Overlay} {ver : Nat} (hu : Uniq m) (hb : VersBound m ver)
    (hs : SSorted ov) {v : Nat} (hv : v ≤ ver) (k : Bytes) :
    readAt (m.commit ov (ver + 1)) v k = readAt m v k := readAt_commit_old hu hb hs hv k

theorem readAt_stable_rollback {m : VMap} (hu : Uniq m) {t v : Nat} (hv : v ≤ t) (k : Bytes) :
    readAt (m.rollback t) v k = readAt m v k := readAt_rollback hu hv k

/-- **`lss_eq_hss`** — in every reachable state the latest-state partition (what the store itself and
`NewReadOnly(version)` read: `s/` at version 2^64-1, tombstones purged, patched by `Rollback`) shows
exactly what the historical partition shows at the current version (`h/` read at `version`): the two
stores never diverge. -/
theorem lss_eq_hss (K : Bytes → Prop) (hK : WFKeys K) (s : State) (m : VMap) (hi : Inv K s m) :
    let lss : Handle := { snap := s.db, rver := maxVer, pfx := lssPrefix, layers := [{}] }
    let hss : Handle := { snap := s.db, rver := s.version, pfx := hssPrefix, layers := [{}] }
    (∀ k x, Sees s.db maxVer (lssPrefix ++ k) x ↔ Sees s.db s.version (hssPrefix ++ k) x) ∧
    (∀ k, K k → lss.get k = hss.get k) ∧
    (∀ p reverse, PfxOK K p → keyOK p = true → lss.iter p reverse = hss.iter p reverse) := by
  have hvm : s.version ≤ maxVer := by have := hi.rep.ver_lt; omega
  have rl := hi.rep.reads_lss hK [{}]
  have rh := hi.rep.reads_hss hK hvm [{}]
  refine ⟨fun k x => by rw [hi.rep.sees_lss, hi.rep.sees_hss], ?_, ?_⟩
  · intro k hk
    rw [rl.get hK hk, rh.get hK hk]
  · intro p reverse hp hpk
    obtain ⟨o1, h1, s1⟩ := rl.iter hK (layersOK_empty K) hp hpk reverse
    obtain ⟨o2, h2, s2⟩ := rh.iter hK (layersOK_empty K) hp hpk reverse
    rw [h1, h2, isScan_unique s1 s2]

/-- **`rollback_erases_abandoned_heights`** — the complement of `history_immutable`. After `Rollback(t)` on a
store at a later version, and after ANY further operations (in particular re-committing the abandoned heights
with other writes):
* the versioned map is the old one cut to the versions ≤ `t` (`m.rollback t`) with the later operations
  applied (`specRun`) — it is a function of the cut map only, whatever the abandoned heights had written;
* right after the rollback a reader at any version `v` — also `v > t` — sees the map as of `min v t`;
* every read-only view, at every version `v` (below, at, or above the re-committed heights), returns for
  point reads and forward/reverse prefix scans exactly that new history. -/
theorem rollback_erases_abandoned_heights (K : Bytes → Prop) (hK : WFKeys K) (s : State) (m : VMap) (hi : Inv K s m)
    (l : Layer) (hmain : s.main = [l]) (t : Nat) (ht0 : 0 < t) (ht : t < s.version)
    (ops : List Op) (hops : ∀ op ∈ ops, OpOK K op) (hver : s.version + ops.length + 2 < maxVer) :
    let s1 := s.apply (.rollback t)
    let m' := specRun s1 (m.rollback t) ops
    let s' := runOps s1 ops
    s1.version = t ∧
    (∀ e, e ∈ m.rollback t ↔ (e ∈ m ∧ e.2.1 ≤ t)) ∧
    (∀ m₂ : VMap, m₂.rollback t = m.rollback t → specRun s1 (m₂.rollback t) ops = m') ∧
    (∀ v k, readAt (m.rollback t) v k = readAt m (min v t) k) ∧
    Inv K s' m' ∧
    ∀ v, v ≤ maxVer →
      (∀ k, K k → (s'.readOnly v).get k = some (readAt m' v k)) ∧
      (∀ p reverse, PfxOK K p → keyOK p = true →
        ∃ out, (s'.readOnly v).iter p reverse = some out ∧ IsScan (readAt m' v) p reverse out) := by
  simp only
  have hsp : specApply s m (.rollback t) = m.rollback t := by
    simp only [specApply, hmain]; rw [if_neg (by omega)]
  have hmv : maxVer = 18446744073709551615 := rfl
  obtain ⟨hi1, _, _⟩ := hi.apply_spec hK (.rollback t) trivial (by omega)
  rw [hsp] at hi1
  have hver1 : (s.apply (.rollback t)).version = t := by
    simp only [State.apply, hmain, State.rollback]
    rw [if_neg (by omega), if_neg (by omega), if_neg (by omega)]
    rfl
  have hrun := (hi1.run_reads hK ops hops (by rw [hver1]; omega)).1
  refine ⟨hver1, fun e => mem_rollback, fun m₂ h => by rw [h], fun v k => readAt_rollback_any hi.rep.uniq t v k, hrun, ?_⟩
  intro v hv
  exact readOnly_refines K hK _ _ hrun v hv

/-! ## the sstable version filter is transparent — because deletions count -/

open Canopy.SstFilter in
/-- which point keys the block-property collector maps to a version, read off `versionedCollector.MapPointKey`:
its only ignore-conditions are "shorter than a version" and "version 0 or the reserved version"; every other
point key — of every kind, physical deletions included — contributes `[version, version+1)`; readers ask for
`[low, high+1)` -/
def collectorOfSource : Collector :=
  if Gen.Store.mapPointKeyIgnores = ["len(userKey) < VersionSize", "version == 0 || version == maxVersion"] ∧
     Gen.Store.mapPointKeyShape = ["userKey := key.UserKey", "ignore-if", "version := parseVersion(userKey)", "ignore-if", "return"] ∧
     Gen.Store.mapPointKeyInterval = "sstable.BlockInterval{Lower: version, Upper: version + 1}" ∧
     Gen.Store.versionWindowFilters = [("store/store.go", "newTargetWindowFilter(minVersion, maxVersion)"),
       ("store/versioned_store.go", "newTargetWindowFilter(0, vs.version)"),
       ("store/versioned_store.go", "sstable.NewBlockIntervalFilter( blockPropertyName, low, high+1, nil, )")]
  then .everyKind else .skipsDeletions

theorem collector_counts_every_kind : collectorOfSource = .everyKind := if_pos ⟨rfl, rfl, rfl, rfl⟩

open Canopy.SstFilter in
/-- **`version_filter_transparent`** — with that collector, whatever the sstables are (however commits,
rollbacks, flushes and compactions have laid the records out), a reader at version `v` that skips the tables
whose version interval misses `[0, v+1)` takes into account exactly the records of versions `1 … v` it would
without the filter: the store model's unfiltered key space is what the filtered readers see. -/
theorem version_filter_transparent (v : Nat) (hv : v < maxVer) (ts : List Table) :
    visible collectorOfSource v ts = unfiltered v ts ∧ ∀ uk, SstFilter.read collectorOfSource v ts uk = readOf (unfiltered v ts) uk := by
  rw [collector_counts_every_kind]
  have h : visible .everyKind v ts = unfiltered v ts := by
    unfold visible unfiltered
    induction ts with
    | nil => rfl
    | cons t ts ih =>
      rw [List.filter_cons]
      by_cases ha : admitted .everyKind v t = true
      · rw [if_pos ha, List.flatten_cons, List.flatten_cons, List.filter_append, List.filter_append, ih]
      · rw [if_neg ha, List.flatten_cons, List.filter_append, ih]
        have : t.filter (inWindow v) = [] := by
          rw [List.filter_eq_nil_iff]
          intro r hr hw
          apply ha
          unfold admitted
          rw [List.any_eq_true]
          refine ⟨r, hr, ?_⟩
          simp only [inWindow, Bool.and_eq_true, decide_eq_true_eq] at hw
          have hc : contributes .everyKind r = some r.ver := by
            unfold contributes
            rw [if_neg (by omega)]
          rw [hc]
          simp [hw.2]
        rw [this, List.nil_append]
  exact ⟨h, fun uk => by unfold SstFilter.read; rw [h]⟩

open Canopy.SstFilter in
/-- the layout of the finding: sstable 1 holds heights 1 and 2 (`A=a1 B=b1`, `A=a2`); sstable 2 holds the
physical deletion `Rollback(1)` wrote for `A@2`; the re-committed heights 2 and 3 (`B=b2`, `C=c3`) follow -/
def rewoundTables : List SstFilter.Table :=
  [[⟨[1, 97], 1, 1, some [0xA1]⟩, ⟨[1, 98], 1, 2, some [0xB1]⟩, ⟨[1, 97], 2, 3, some [0xA2]⟩],
   [⟨[1, 97], 2, 4, none⟩],
   [⟨[1, 98], 2, 5, some [0xB2]⟩, ⟨[1, 99], 3, 6, some [0xC3]⟩]]

open Canopy.SstFilter in
/-- **were physical deletions not counted, the filter would not be transparent**: the table holding only the
rollback's deletion gets the empty interval, every historical reader skips it, and the rolled-back `A=a2` in
the older table is visible again as of height 2 — while with the real collector `A` reads `a1`. -/
theorem collector_skipping_deletions_resurrects_rolled_back_entry :
    SstFilter.read .skipsDeletions 2 rewoundTables [1, 97] = some [0xA2] ∧
    SstFilter.read collectorOfSource 2 rewoundTables [1, 97] = some [0xA1] ∧
    admitted .skipsDeletions 2 [⟨[1, 97], 2, 4, none⟩] = false ∧
    admitted collectorOfSource 2 [⟨[1, 97], 2, 4, none⟩] = true := by
  rw [collector_counts_every_kind]
  decide +kernel

/-! ## `WFKeys` is necessary, and the real key families satisfy it -/

/-- the witness replayed on the real store by the Go driver (`harness/c10`, case
`witness-key-is-prefix-of-key`): keys `0161`, `01610162`, `01610163` — the first a byte-prefix of the
others — written and committed. -/
def witnessDb : DB :=
  applyBatch [] (commitBatch
    (smSet (smSet (smSet [] [1, 97] (.set [0x11])) [1, 97, 1, 98] (.set [0x22])) [1, 97, 1, 99] (.set [0x33])) 1)

/-- **without `WFKeys` iteration is wrong**: forward seek iteration over the latest state yields only
`0161` (it seeks to `prefixEnd(0161)`, past every key that extends it); the historical view yields
the three keys out of byte order; reverse seek over the historical view yields only `0161`. A point
read still finds `01610162`. -/
theorem iter_wrong_without_WFKeys :
    (VS.mk witnessDb maxVer).iter (lssPrefix ++ [1, 97]) false true = [(lssPrefix ++ [1, 97], [0x11])] ∧
    ((VS.mk witnessDb 1).iter (hssPrefix ++ [1, 97]) false true).map (·.1) =
      [hssPrefix ++ [1, 97, 1, 98], hssPrefix ++ [1, 97, 1, 99], hssPrefix ++ [1, 97]] ∧
    (VS.mk witnessDb 1).iter (hssPrefix ++ [1, 97]) true true = [(hssPrefix ++ [1, 97], [0x11])] ∧
    (VS.mk witnessDb 1).get (hssPrefix ++ [1, 97, 1, 98]) = some [0x22] := by
  decide +kernel

/-- the FSM keys that are actually stored (single-segment families are stored under their prefix) -/
def Stored : C19.FsmKey → Prop
  | .supplyPrefix | .lastProposersPrefix | .committeesDataPrefix => True
  | .pool _ | .nonSigner _ | .order _ _ | .unstaking _ _ | .paused _ _ | .committee _ _ _
  | .delegate _ _ _ | .retiredCommittee _ | .account _ | .validator _ | .lockedBatch _ | .nextBatch _ => True
  | _ => False

/-- **the real key shapes guarantee `WFKeys`**: every stored FSM key family has a fixed number of
length-prefixed segments, so (over the builders regenerated from `fsm/key.go`) no stored key is a
proper byte-prefix of another. -/
theorem fsm_stored_keys_prefix_free (k1 k2 : C19.FsmKey) (h1 : Stored k1) (h2 : Stored k2)
    (w1 : k1.WF) (w2 : k2.WF) (hp : k1.encode <+: k2.encode) : k1.encode = k2.encode := by
  have hs := C19.FsmKey.prefix_range k1 k2 w1 w2 hp
  rw [C19.FsmKey.encode_eq, C19.FsmKey.encode_eq]
  congr 1
  -- among the stored families the first segment fixes the number of segments
  let n : Bytes → Nat := fun t =>
    if t ∈ [[10], [9], [12]] then 1 else if t ∈ [[4], [11]] then 4 else if t ∈ [[13], [5], [6], [15]] then 3 else 2
  have hn : ∀ k : C19.FsmKey, Stored k → ∃ t rest, k.segs = t :: rest ∧ rest.length + 1 = n t := by
    intro k h
    cases k <;> first | exact h.elim | exact ⟨_, _, rfl, rfl⟩
  obtain ⟨t1, r1, e1, l1⟩ := hn k1 h1
  obtain ⟨t2, r2, e2, l2⟩ := hn k2 h2
  rw [e1, e2] at hs ⊢
  obtain ⟨rfl, hr⟩ := List.cons_prefix_cons.mp hs
  rw [hr.eq_of_length (by omega)]

/-! ## blocks, QCs and transactions: the indexer partition and the process-wide block cache

`Canopy/Model/Indexer.lean`: `IndexBlock` (which indexes the block's transactions: `IndexTx`) and `IndexQC` into
the `i/` partition of the same versioned key space (committed in the same batch, pruned by `Rollback`), the reads
`GetBlockByHeight` / `GetBlockHeaderByHeight` / `GetBlockByHash` / `GetQCByHeight` / `GetTxByHash` /
`GetTxsByHeight` on the store object and on read-only views, and `blockCache` — one LRU of 64 entries
for the whole process, keyed by the block's hash key (by the height before commit fbabcb4).
`IInv K IK s m`: the state invariant of C10 plus: every entry of the indexer partition is a key of `IK`
(prefix-free, `WFKeys IK`) committed at a version in `[1, version]`, and every pending index operation is on a
key of `IK`. -/

/-- the block cache as the source has it: created with a `string` key; `IndexBlock` adds under the
block's hash key; each of the three by-height readers FIRST resolves `height → hashKey` through its own
view (`t.db.Get(t.blockHeightKey(height))`) and only then touches the cache, always under
`string(hashKey)`; only `GetBlockByHeight` adds (full blocks); `GetBlockByHash` bypasses the cache and
`GetQCByHeight` goes through `GetBlockByHeight`; the one `Add` of a reader is guarded by
`!t.hasPendingWrites()` (no pending operation in the indexer txn). -/
theorem block_cache_keyed_by_hash_key :
    Gen.Store.blockCacheDecl = "lru.New[string, *lib.BlockResult](64)" ∧
    (Gen.Store.blockCacheUse.filter (·.1 = "IndexBlock")).map (·.2) =
      ["blockCache.Add(string(t.blockHashKey(b.BlockHeader.Hash)), b)"] ∧
    (Gen.Store.blockCacheUse.filter (·.1 = "GetBlockByHeight")).map (·.2) =
      ["t.db.Get(t.blockHeightKey(height))", "t.getBlock(hashKey, true)", "blockCache.Get(string(hashKey))",
       "t.getBlock(hashKey, true)", "blockCache.Add(string(hashKey), block)"] ∧
    (Gen.Store.blockCacheUse.filter (·.1 = "GetBlockHeaderByHeight")).map (·.2) =
      ["t.db.Get(t.blockHeightKey(height))", "blockCache.Get(string(hashKey))", "t.getBlock(hashKey, false)"] ∧
    (Gen.Store.blockCacheUse.filter (·.1 = "getBlockForPage")).map (·.2) =
      ["t.db.Get(t.blockHeightKey(height))", "blockCache.Get(string(hashKey))", "t.getBlock(hashKey, transactions)"] ∧
    (Gen.Store.blockCacheUse.filter (·.1 = "GetBlockByHash")).map (·.2) = ["t.getBlock(t.blockHashKey(hash), true)"] ∧
    (Gen.Store.blockCacheUse.filter (·.1 = "GetQCByHeight")).map (·.2) = ["t.GetBlockByHeight(height)"] ∧
    Gen.Store.blockCacheAddGuards = ["!t.hasPendingWrites()"] ∧
    Gen.Store.hasPendingWritesReturns = "len(t.db.txn.ops) != 0" :=
  ⟨rfl, rfl, rfl, rfl, rfl, rfl, rfl, rfl, rfl⟩

/-- the cache keying of the model is read off the source: by hash key exactly when the cache is created
with a `string` key and every reader looks the height up in its own view before any cache call -/
def cacheKeyingOfSource : CacheKeying :=
  if Gen.Store.blockCacheDecl = "lru.New[string, *lib.BlockResult](64)" ∧
     (Gen.Store.blockCacheUse.filter (·.1 = "IndexBlock")).map (·.2) =
       ["blockCache.Add(string(t.blockHashKey(b.BlockHeader.Hash)), b)"] ∧
     (Gen.Store.blockCacheUse.filter (·.1 = "GetBlockByHeight")).map (·.2) =
       ["t.db.Get(t.blockHeightKey(height))", "t.getBlock(hashKey, true)", "blockCache.Get(string(hashKey))",
        "t.getBlock(hashKey, true)", "blockCache.Add(string(hashKey), block)"] ∧
     (Gen.Store.blockCacheUse.filter (·.1 = "GetBlockHeaderByHeight")).map (·.2) =
       ["t.db.Get(t.blockHeightKey(height))", "blockCache.Get(string(hashKey))", "t.getBlock(hashKey, false)"] ∧
     (Gen.Store.blockCacheUse.filter (·.1 = "getBlockForPage")).map (·.2) =
       ["t.db.Get(t.blockHeightKey(height))", "blockCache.Get(string(hashKey))", "t.getBlock(hashKey, transactions)"] ∧
     Gen.Store.blockCacheAddGuards = ["!t.hasPendingWrites()"] ∧
     Gen.Store.hasPendingWritesReturns = "len(t.db.txn.ops) != 0"
  then .byHashKey else .byHeight

theorem cache_keying_is_by_hash_key : cacheKeyingOfSource = .byHashKey :=
  have h := block_cache_keyed_by_hash_key
  if_pos ⟨h.1, h.2.1, h.2.2.1, h.2.2.2.1, h.2.2.2.2.1, h.2.2.2.2.2.2.2⟩

/-- every state reached from the empty process by operations over keys of `K` / index keys of `IK` -/
theorem reachable_iinv (K IK : Bytes → Prop) (hK : WFKeys K) (mode : CacheKeying) (ops : List IOp) (hops : ∀ op ∈ ops, IOpOK K IK op)
    (hb : ops.length + 1 < maxVer) : ∃ m, IInv K IK (runIOps mode {} ops) m := by
  obtain ⟨m, hi, _⟩ := (IInv.init K IK).run hK mode ops hops (by simpa using hb) 0 (Nat.le_refl _)
    (fun op _ => iKeeps_zero op)
  exact ⟨m, hi⟩

/-- **`index_history_immutable`** — what a read-only view at a committed version `v` reads from the
DATABASE part of the indexer never changes, whatever happens later (indexing, commits, abandoned
commits, rollbacks to heights ≥ `v`, any reads): every point read of any key, the per-height
transaction list, and every block assembled from them. -/
theorem index_history_immutable (K IK : Bytes → Prop) (hK : WFKeys K) (hIK : WFKeys IK) (mode : CacheKeying)
    (hpfx : ∀ h, PfxOK IK (txHeightKey h)) (s : IState) (m : VMap) (hi : IInv K IK s m) (ops : List IOp)
    (hops : ∀ op ∈ ops, IOpOK K IK op) (hver : s.st.version + ops.length + 1 < maxVer)
    (v : Nat) (hv : v ≤ s.st.version) (hkeep : ∀ op ∈ ops, IKeeps v op) :
    (∀ k, ((runIOps mode s ops).ro v).getB k = (s.ro v).getB k) ∧
    (∀ h, ((runIOps mode s ops).ro v).txsByHeight h = (s.ro v).txsByHeight h) ∧
    (∀ hk t, ((runIOps mode s ops).ro v).getBlock hk t = (s.ro v).getBlock hk t) ∧
    (∀ h, ((runIOps mode s ops).ro v).dbBlockByHeight h = (s.ro v).dbBlockByHeight h) ∧
    (∀ h, ((runIOps mode s ops).ro v).dbQCByHeight h = (s.ro v).dbQCByHeight h) ∧
    (∀ hash, ((runIOps mode s ops).ro v).getBlockByHash hash = (s.ro v).getBlockByHash hash) ∧
    (∀ hash, ((runIOps mode s ops).ro v).getTxByHash hash = (s.ro v).getTxByHash hash) := by
  obtain ⟨m', hi', _, hle, _, hag⟩ := hi.run hK mode ops hops hver v hv hkeep
  have hmv : maxVer = 18446744073709551615 := rfl
  exact iview_agree hIK hi'.idx hi.idx (by omega) (by omega) (by omega) hag hpfx

/-- the real index keys (32-byte hashes) satisfy the hypotheses -/
theorem index_keys_wf : WFKeys IdxKey ∧ ∀ h, PfxOK IdxKey (txHeightKey h) := ⟨idxKey_wf, idxKey_pfx⟩

/-! ## iteration through the block store's indexer sees the block's own pending index writes -/

/-- how the indexer transactions are built, read off `store/store.go`: the block-level indexer
(`NewStoreWithDB`, `Reset`) and the per-transaction nested one (`NewTxn`) with `sort = true` — their pending
operations are in the sorted tree the iterators merge — and the read-only one (`NewReadOnly`, never written)
with `sort = false` -/
def idxSortOfSource : Bool :=
  decide (Gen.Store.indexerTxnSort = [("NewStoreWithDB", "true"), ("NewReadOnly", "false"), ("NewTxn", "true"), ("Reset", "true")])

theorem indexer_txns_sorted : idxSortOfSource = true := decide_eq_true rfl

/-- **`index_own_writes_visible`** — in every reachable state, iterating the indexer of the store object (the
block's store: what `GetTxsByHeight`, `GetAllCheckpoints`, `GetMostRecentCheckpoint`, `GetDoubleSigners`,
`DeleteCheckpointsForChain` … run on while a block is being applied) yields *the* scan — strictly ordered,
complete, duplicate-free — of the committed index with the block's pending index operations applied: what the
block has indexed so far is there — the same view its point reads (`getB`) have. (No operation of the model
deletes an index entry; that a pending delete hides a committed entry is part of `sorted_txn_iter_scan`, which
is stated for any sorted overlay.)
Depends on `indexer_txns_sorted`: the block-level indexer transaction keeps its pending operations sorted. -/
theorem index_own_writes_visible (K IK : Bytes → Prop) (hK : WFKeys K) (hIK : WFKeys IK) (mode : CacheKeying)
    (ops : List IOp) (hops : ∀ op ∈ ops, IOpOK K IK op) (hb : ops.length + 1 < maxVer) (p : Bytes) (hp : PfxOK IK p) :
    let s := runIOps mode { idxSort := idxSortOfSource } ops
    IsScanR (applyOvR s.idxOv fun k x => Sees s.idb s.st.version (idxPrefix ++ k) x) p false (s.live.iter p) ∧
    ∀ k, s.live.getB k = match smGet s.idxOv k with
      | some op => (op.read).getD []
      | none => ((VS.mk s.idb s.st.version).get (idxPrefix ++ k)).getD [] := by
  rw [indexer_txns_sorted]
  simp only
  obtain ⟨m, hi⟩ := reachable_iinv K IK hK mode ops hops hb
  obtain ⟨hsorted, hsort⟩ := runIOps_idxOv mode ops {} List.Pairwise.nil
  have hver : (runIOps mode {} ops).st.version ≤ maxVer := by have := hi.st.rep.ver_lt; omega
  refine ⟨?_, fun k => rfl⟩
  have := sorted_txn_iter_scan hIK hi.idx hver _ hver _ hsorted hi.pend p hp
  simpa [IState.live, hsort] using this

/-- a block being applied: height 1 is indexed with one transaction, not yet committed -/
def pendingBlock : List IOp := [.indexQC 1 [0xB1], .indexBlock 1 [0xB1] [[0x71]]]

/-- **were the block-level indexer transaction built with `sort = false`** (as it was), iteration through the
store would not show the block's pending index writes although point reads do: the block's transaction is
found by hash, and is missing from the per-height list — with `sort = true` it is listed. -/
theorem unsorted_indexer_txn_hides_pending_writes_from_iteration :
    (let s := runIOps .byHashKey { idxSort := false } pendingBlock
     s.live.getTxByHash [0x71] = [0x71] ∧ s.live.txsByHeight 1 = []) ∧
    (let s := runIOps .byHashKey { idxSort := idxSortOfSource } pendingBlock
     s.live.getTxByHash [0x71] = [0x71] ∧ s.live.txsByHeight 1 = [[0x71]]) := by
  rw [indexer_txns_sorted]
  refine ⟨by decide +kernel, by decide +kernel, ?_⟩
  -- the kernel evaluates the two inputs of the merge, not the merge itself, which is unfolded on them
  generalize hs : runIOps .byHashKey { idxSort := true } pendingBlock = s
  have hne : s.live.ipend ≠ [] := by subst hs; decide +kernel
  have h1 : txnItems s.live.ipend (txHeightKey 1) false = [(txHeightIndexKey 1 0, TOp.set (txHashKey [0x71]))] := by
    subst hs; decide +kernel
  have h2 : s.live.dbIter (txHeightKey 1) = [] := by subst hs; decide +kernel
  have hit : s.live.iter (txHeightKey 1) = [(txHeightIndexKey 1 0, txHashKey [0x71])] := by
    unfold IView.iter
    cases h : s.live.ipend with
    | nil => exact absurd h hne
    | cons e r =>
      simp only
      rw [← h, h1, h2]
      simp [mergeRun]
  unfold IView.txsByHeight
  rw [hit]
  subst hs
  decide +kernel

/-! ## through the cache: full strength on the code as it stands

`Disc s op` / `DiscRun K s ops` (`Proof/IndexerCache.lean`) is what the node's commit path guarantees
about a history: a block is indexed once per commit, for the next height, under a hash that no stored
or cached block uses, with 32-byte pairwise distinct transaction hashes not indexed before (block and
transaction hashes identify their content; `CommitCertificate` indexes exactly one block per commit);
heights and versions are `uint64`. Reads, quorum certificates, abandoned commits (`Reset`), cache
purges, rollbacks and every store operation are unrestricted. -/

/-- every state a disciplined history reaches satisfies the process invariant `CInv`: C10's store
invariant, the index partition's representation and discipline (`DBDisc`), cache coherence (`CacheOK`:
a cached block whose header is committed is the block the database part assembles) and the shape of the
pending index operations (`PendOK`) -/
theorem reachable_cinv (K : Bytes → Prop) (hK : WFKeys K) (ops : List IOp) (hd : DiscRun K {} ops)
    (hb : ops.length + 1 < maxVer) : ∃ m pb, CInv K (runIOps .byHashKey {} ops) m pb :=
  ((CInv.init K).run hK ops hd (by simpa using hb)).1

/-- **the block cache is transparent**: on every reachable state, `GetBlockByHeight` and
`GetQCByHeight` of a read-only view answer — through the process-wide cache — exactly what the view's
own database part says: never a block the view has not committed, never a stale or truncated one -/
theorem block_cache_transparent (K : Bytes → Prop) (s : IState) (m : VMap) (pb : Option (Bytes × List Bytes))
    (hi : CInv K s m pb) (v h : Nat) (hv : v ≤ maxVer) (hh : h < B64) :
    (getBlockByHeight cacheKeyingOfSource s.cache (s.ro v) h).1 = (s.ro v).dbBlockByHeight h ∧
    (getQCByHeight cacheKeyingOfSource s.cache (s.ro v) h).1 =
      (((s.ro v).dbQCByHeight h).1, ((s.ro v).dbQCByHeight h).2, (s.ro v).dbBlockByHeight h) := by
  rw [cache_keying_is_by_hash_key]
  exact hi.transparent hv hh

/-- **`block_history_immutable`**, full strength, through the cache: for every `v` ≤ the committed
version and every later disciplined history — indexing, commits, abandoned commits, reads by any view
(which fill the cache), cache purges, rollbacks to heights ≥ `v`, any store operations — what
`GetBlockByHeight` answers to a read-only view at `v`, for every height, and what `GetBlockByHash`
answers, is what it answered before. -/
theorem block_history_immutable (K : Bytes → Prop) (hK : WFKeys K) (s : IState) (m : VMap)
    (pb : Option (Bytes × List Bytes)) (hi : CInv K s m pb) (ops : List IOp) (hd : DiscRun K s ops)
    (hver : s.st.version + ops.length + 1 < maxVer) (v : Nat) (hv : v ≤ s.st.version)
    (hkeep : ∀ op ∈ ops, IKeeps v op) (h : Nat) (hh : h < B64) (hash : Bytes) :
    (getBlockByHeight cacheKeyingOfSource (runIOps cacheKeyingOfSource s ops).cache ((runIOps cacheKeyingOfSource s ops).ro v) h).1 =
      (getBlockByHeight cacheKeyingOfSource s.cache (s.ro v) h).1 ∧
    ((runIOps cacheKeyingOfSource s ops).ro v).getBlockByHash hash = (s.ro v).getBlockByHash hash := by
  rw [cache_keying_is_by_hash_key]
  obtain ⟨⟨m', pb', hi'⟩, hops⟩ := hi.run hK ops hd hver
  have hvm : v ≤ maxVer := by have := hi.inv.st.rep.ver_lt; omega
  obtain ⟨_, _, _, hblock, _, hbyHash, _⟩ :=
    index_history_immutable K IdxKey hK idxKey_wf .byHashKey idxKey_pfx s m hi.inv ops hops hver v hv hkeep
  rw [(hi'.transparent hvm hh).1, (hi.transparent hvm hh).1]
  exact ⟨hblock h, hbyHash hash⟩

/-- **`qc_history_immutable`**, full strength: what `GetQCByHeight` answers to a read-only view at `v`
— the certificate and the block attached to it through the cache -/
theorem qc_history_immutable (K : Bytes → Prop) (hK : WFKeys K) (s : IState) (m : VMap)
    (pb : Option (Bytes × List Bytes)) (hi : CInv K s m pb) (ops : List IOp) (hd : DiscRun K s ops)
    (hver : s.st.version + ops.length + 1 < maxVer) (v : Nat) (hv : v ≤ s.st.version)
    (hkeep : ∀ op ∈ ops, IKeeps v op) (h : Nat) (hh : h < B64) :
    (getQCByHeight cacheKeyingOfSource (runIOps cacheKeyingOfSource s ops).cache ((runIOps cacheKeyingOfSource s ops).ro v) h).1 =
      (getQCByHeight cacheKeyingOfSource s.cache (s.ro v) h).1 := by
  rw [cache_keying_is_by_hash_key]
  obtain ⟨⟨m', pb', hi'⟩, hops⟩ := hi.run hK ops hd hver
  have hvm : v ≤ maxVer := by have := hi.inv.st.rep.ver_lt; omega
  obtain ⟨_, _, _, hblock, hqc, _⟩ :=
    index_history_immutable K IdxKey hK idxKey_wf .byHashKey idxKey_pfx s m hi.inv ops hops hver v hv hkeep
  rw [(hi'.transparent hvm hh).2, (hi.transparent hvm hh).2, hblock h, hqc h]

/-! ## the cache as it was (keyed by height, consulted before the view): the property failed -/

/-- `GetBlockByHeight` of a view at `v`, as answered under a cache keying, is unchanged between two states -/
def BlockReadStable (mode : CacheKeying) (s s' : IState) (v h : Nat) : Prop :=
  (getBlockByHeight mode s'.cache (s'.ro v) h).1 = (getBlockByHeight mode s.cache (s.ro v) h).1

instance (mode : CacheKeying) (s s' : IState) (v h : Nat) : Decidable (BlockReadStable mode s s' v h) := by
  unfold BlockReadStable; infer_instance

/-- two blocks committed at heights 1 and 2 (QC + block indexed before each commit) -/
def twoBlocks : List IOp :=
  [.store (.set [1, 97] [1]), .indexQC 1 [0xB1], .indexBlock 1 [0xB1] [[0x71]], .store .commit,
   .store (.set [1, 97] [2]), .indexQC 2 [0xB2], .indexBlock 2 [0xB2] [], .store .commit]

/-- **the cache keyed by height served uncommitted and stale blocks** (the code before commit fbabcb4;
each sequence is a permanent corpus case of the Go driver, `blockcache-a` … `-d`, signature
`C10:block-cache-serves-uncommitted-or-stale-block`, and passes on the repaired code):
(a) after the entry for height 2 left the cache (64 other reads, or a restart), a view at version 1
asks for height 2: its miss is cached, and the STORE ITSELF then answers an empty block for the
committed height 2; (b) a view at version 1 is served block 2; (c) a block indexed for a commit that
was abandoned is served to the store and to the view at version 1; (d) a header-only read replaces the
cached block by one without its transactions. -/
theorem block_cache_by_height_serves_uncommitted_or_stale_block :
    -- (a)
    (let s := runIOps .byHeight {} (twoBlocks ++ (List.range 64).map (fun i => .getBlock none (1000 + i) false) ++
        [.getBlock (some 1) 2 false])
     s.st.version = 2 ∧ s.live.dbBlockByHeight 2 = { hHeight := 2, hash := [0xB2], txs := [] } ∧
     (getBlockByHeight .byHeight s.cache s.live 2).1 = {}) ∧
    -- (b)
    (let s := runIOps .byHeight {} twoBlocks
     (s.ro 1).dbBlockByHeight 2 = {} ∧
     (getBlockByHeight .byHeight s.cache (s.ro 1) 2).1 = { hHeight := 2, hash := [0xB2], txs := [] }) ∧
    -- (c)
    (let s := runIOps .byHeight {} (twoBlocks.take 4 ++ [.indexBlock 2 [0xEE] [], .reset])
     s.st.version = 1 ∧ s.live.dbBlockByHeight 2 = {} ∧
     (getBlockByHeight .byHeight s.cache s.live 2).1 = { hHeight := 2, hash := [0xEE], txs := [] } ∧
     (getBlockByHeight .byHeight s.cache (s.ro 1) 2).1 = { hHeight := 2, hash := [0xEE], txs := [] }) ∧
    -- (d)
    (let s := runIOps .byHeight {} (twoBlocks.take 4 ++ [.purgeCache, .getBlock none 1 true])
     s.live.dbBlockByHeight 1 = { hHeight := 1, hash := [0xB1], txs := [[0x71]] } ∧
     (getBlockByHeight .byHeight s.cache s.live 1).1 = { hHeight := 1, hash := [0xB1], txs := [] }) := by
  refine ⟨⟨by decide +kernel, by decide +kernel, ?_⟩, by decide +kernel, by decide +kernel, by decide +kernel⟩
  -- (a): the 64 reads of other heights are misses, so they push the entry of height 2 out of the cache; the view
  -- at version 1 then misses too, and what its database part says of height 2 — nothing — is served to the store
  have hmiss := reads_evict (hs := (List.range 64).map (1000 + ·)) (s := runIOps .byHeight {} twoBlocks) (n := 2)
    (by decide +kernel) (by decide +kernel) (List.pairwise_map.mpr (List.nodup_range.imp fun h e => h (Nat.add_left_cancel e)))
    (by decide +kernel) (by decide +kernel) (by decide +kernel) (by decide +kernel)
  rw [List.map_map] at hmiss
  simp only [runIOps, Function.comp_def, List.foldl_append, List.foldl_cons, List.foldl_nil] at hmiss ⊢
  rw [byHeight_miss_served _ 1 2 hmiss]
  decide +kernel

/-- under the old keying the full-strength statement was false: one more READ by a historical view
changed the store's own answer for a committed height -/
theorem block_read_not_stable_by_height :
    let s := runIOps .byHeight {} (twoBlocks ++ [.purgeCache])
    ¬ BlockReadStable .byHeight s (runIOps .byHeight s [.getBlock (some 1) 2 false]) 2 2 := by
  decide +kernel

/-- the same four sequences, and (g) the store's read of its own pending height (`blockcache-g`), on
the code as it stands: every answer is the database part's -/
theorem block_cache_by_hash_key_answers_correctly :
    (let s := runIOps .byHashKey {} (twoBlocks ++ (List.range 64).map (fun i => .getBlock none (1000 + i) false) ++
        [.getBlock (some 1) 2 false])
     (getBlockByHeight .byHashKey s.cache s.live 2).1 = { hHeight := 2, hash := [0xB2], txs := [] }) ∧
    (let s := runIOps .byHashKey {} twoBlocks
     (getBlockByHeight .byHashKey s.cache (s.ro 1) 2).1 = {}) ∧
    (let s := runIOps .byHashKey {} (twoBlocks.take 4 ++ [.indexBlock 2 [0xEE] [], .reset])
     (getBlockByHeight .byHashKey s.cache s.live 2).1 = {} ∧ (getBlockByHeight .byHashKey s.cache (s.ro 1) 2).1 = {}) ∧
    (let s := runIOps .byHashKey {} (twoBlocks.take 4 ++ [.purgeCache, .getBlock none 1 true])
     (getBlockByHeight .byHashKey s.cache s.live 1).1 = { hHeight := 1, hash := [0xB1], txs := [[0x71]] }) ∧
    -- (g) the store reads its own pending height after the IndexBlock entry was evicted: not cached
    (let s := runIOps .byHashKey {} [.store (.set [1, 97] [1]), .indexBlock 1 [0xB1] [[0x71]], .purgeCache,
        .getBlock none 1 false, .store .commit]
     (getBlockByHeight .byHashKey s.cache s.live 1).1 = { hHeight := 1, hash := [0xB1], txs := [[0x71]] }) := by
  decide +kernel

/-! ## page queries (`GetBlocks`) read the cache and never fill it -/

/-- whether `getBlockForPage` fills the cache, read off the source: its calls are the view lookup, the cache
`Get`, and `getBlock` — no `blockCache.Add`; `GetBlocks` calls it with transactions, `setBlocksTook` header-only -/
def pageFillOfSource : PageFill :=
  if (Gen.Store.blockCacheUse.filter (·.1 = "getBlockForPage")).map (·.2) =
       ["t.db.Get(t.blockHeightKey(height))", "blockCache.Get(string(hashKey))", "t.getBlock(hashKey, transactions)"] ∧
     (Gen.Store.blockCacheUse.filter (·.1 = "GetBlocks")).map (·.2) = ["t.getBlockForPage(newest-uint64(index), true)"] ∧
     (Gen.Store.blockCacheUse.filter (·.1 = "setBlocksTook")).map (·.2) = ["t.getBlockForPage(height-1, false)"]
  then .none else .addsLoaded

theorem page_query_never_fills_cache : pageFillOfSource = .none :=
  if_pos ⟨block_cache_keyed_by_hash_key.2.2.2.2.1, rfl, rfl⟩

/-- **`page_query_transparent`** — a page query changes nothing a later reader can observe: whatever the cache
held under any key it still holds (entries are at most touched), so with `CInv.apply` every theorem above
(`block_cache_transparent`, `block_history_immutable`, `qc_history_immutable`) holds for histories with
`GetBlocks` anywhere; and each block of a page is what `GetBlockByHeight` answers for that height — for a
read-only view: what the view's own data says (`block_cache_transparent`). -/
theorem page_query_transparent (c : Cache) (v : IView) (pn pp : Nat) :
    (∀ k, (getBlocks pageFillOfSource c v pn pp).2.lookup k = c.lookup k) ∧
    (∀ h, (getBlockForPage pageFillOfSource c v h true).1 = (getBlockByHeight .byHashKey c v h).1) := by
  rw [page_query_never_fills_cache]
  refine ⟨fun k => getBlocks_lookup c v pn pp k, fun h => ?_⟩
  unfold getBlockForPage getBlockByHeight
  simp only
  by_cases he : (v.getB (blockHeightKey h)).isEmpty = true
  · simp [he]
  · simp only [he, Bool.false_eq_true, if_false]
    cases c.lookup (v.getB (blockHeightKey h)) <;> rfl

/-- **were `getBlockForPage` to add what it loaded to the cache** (under `GetBlockByHeight`'s own guard), a page
query on a cold cache would poison it: `setBlocksTook` loads the block below the page WITHOUT its transactions
and that header-only result would sit under the block's hash key — `GetBlockByHeight` then serves committed
height 1 without its transaction, to the store and to every view. With the source's `getBlockForPage` the same
sequence answers correctly. -/
theorem page_query_filling_cache_serves_block_without_txs :
    let s := runIOps .byHashKey {} (twoBlocks ++ [.purgeCache])
    (s.live.dbBlockByHeight 1 = { hHeight := 1, hash := [0xB1], txs := [[0x71]] }) ∧
    (let c := (getBlocks .addsLoaded s.cache s.live 1 1).2
     (getBlocks .addsLoaded s.cache s.live 1 1).1 = ([{ hHeight := 2, hash := [0xB2] }], 2) ∧
     (getBlockByHeight .byHashKey c s.live 1).1 = { hHeight := 1, hash := [0xB1] } ∧
     (getBlockByHeight .byHashKey c (s.ro 1) 1).1 = { hHeight := 1, hash := [0xB1] }) ∧
    (let c := (getBlocks pageFillOfSource s.cache s.live 1 1).2
     (getBlockByHeight .byHashKey c s.live 1).1 = { hHeight := 1, hash := [0xB1], txs := [[0x71]] }) := by
  rw [page_query_never_fills_cache]
  decide +kernel

/-! ## non-vacuity -/

/-- a two-key universe satisfying `WFKeys` -/
def K2 : Bytes → Prop := fun k => k = [1, 97] ∨ k = [1, 98]

theorem K2_wf : WFKeys K2 where
  ok := by
    rintro k (rfl | rfl) <;> simp [keyOK, decodeLenPrefixed]
  pf := by
    rintro a b (rfl | rfl) (rfl | rfl) h <;> simp [List.cons_prefix_cons] at h ⊢

example : PfxOK K2 [1] := by
  rintro k (rfl | rfl) h <;> simp [List.cons_prefix_cons] at h

set_option linter.unusedSimpArgs false in
/-- the hypotheses of `history_immutable` are satisfiable with a non-trivial history: two commits, a
delete, a nested transaction — and the read at version 1 is indeed unchanged -/
example :
    let s1 := runOps {} [.set [1, 97] [5], .commit]
    let ops : List Op := [.del [1, 97], .set [1, 98] [6], .commit, .nest, .set [1, 97] [7], .flush, .pop, .commit]
    (∃ m, Inv K2 s1 m) ∧ (∀ op ∈ ops, OpOK K2 op) ∧ (∀ op ∈ ops, KeepsHistory 1 op) ∧
    (s1.readOnly 1).get [1, 97] = some (some [5]) ∧ ((runOps s1 ops).readOnly 1).get [1, 97] = some (some [5]) ∧
    ((runOps s1 ops).readOnly 2).get [1, 97] = some none ∧ ((runOps s1 ops).readOnly 3).get [1, 97] = some (some [7]) := by
  refine ⟨reachable_inv K2 K2_wf _ ?_ (by decide), ?_, ?_, ?_, ?_, ?_, ?_⟩
  · simp only [List.forall_mem_cons, OpOK, K2, true_or, or_true, and_self, List.not_mem_nil, false_imp_iff, implies_true]
  · simp only [List.forall_mem_cons, OpOK, K2, true_or, or_true, and_self, List.not_mem_nil, false_imp_iff, implies_true]
  · simp only [List.forall_mem_cons, KeepsHistory, and_self, List.not_mem_nil, false_imp_iff, implies_true]
  all_goals decide +kernel

set_option linter.unusedSimpArgs false in
/-- non-vacuity: `A=a1 B=b1` ⏎ `A=a2` ⏎ `Rollback(1)`
`B=b2` ⏎ `B=b3` ⏎ — as of height 2 (re-committed without touching `A`, and below the tip) `A` reads `a1`,
not the abandoned `a2`; the hypotheses of `rollback_erases_abandoned_heights` hold for it -/
example :
    let s := runOps {} [.set [1, 97] [0xA1], .set [1, 98] [0xB1], .commit, .set [1, 97] [0xA2], .commit]
    let ops : List Op := [.set [1, 98] [0xB2], .commit, .set [1, 98] [0xB3], .commit]
    (∃ m, Inv K2 s m) ∧ (∃ l, s.main = [l]) ∧ 1 < s.version ∧ (∀ op ∈ ops, OpOK K2 op) ∧
    (s.readOnly 2).get [1, 97] = some (some [0xA2]) ∧
    ((runOps (s.apply (.rollback 1)) ops).readOnly 2).get [1, 97] = some (some [0xA1]) ∧
    ((runOps (s.apply (.rollback 1)) ops).readOnly 2).get [1, 98] = some (some [0xB2]) ∧
    ((runOps (s.apply (.rollback 1)) ops).readOnly 3).get [1, 97] = some (some [0xA1]) := by
  refine ⟨reachable_inv K2 K2_wf _ ?_ (by decide), ⟨_, rfl⟩, by decide +kernel, ?_, ?_, ?_, ?_, ?_⟩
  · simp only [List.forall_mem_cons, OpOK, K2, true_or, or_true, and_self, List.not_mem_nil, false_imp_iff, implies_true]
  · simp only [List.forall_mem_cons, OpOK, K2, true_or, or_true, and_self, List.not_mem_nil, false_imp_iff, implies_true]
  all_goals decide +kernel

def H32 : Bytes := List.replicate 32 0xAB
def T32 : Bytes := List.replicate 32 0x71

/-- non-vacuity: a history that indexes, commits and reads a block is disciplined -/
example : DiscRun K2 {} [.store (.set [1, 97] [5]), .indexQC 1 H32, .indexBlock 1 H32 [T32], .store .commit,
    .getBlock (some 1) 1 false, .getBlock none 1 false] := by
  -- set
  refine ⟨trivial, fun o h => (by cases h; exact Or.inl rfl), ?_⟩
  -- indexQC
  refine ⟨(by decide : (1 : Nat) < B64), fun o h => (by cases h), ?_⟩
  -- indexBlock: next height, fresh hash, fresh transactions, only a QC pending
  refine ⟨⟨rfl, rfl, by simp [T32], by simp, by decide, ?_, fun w _ => rfl, fun th _ w _ => rfl, rfl⟩, fun o h => (by cases h), ?_⟩
  · intro k op hg
    exact (IsQC.of_smSet (ov := []) (by decide) hg).resolve_right nofun
  -- commit, then reads by a view and by the store
  refine ⟨trivial, fun o h => (by cases h; trivial), ?_⟩
  refine ⟨⟨by decide, fun v h => (by cases h; decide)⟩, fun o h => (by cases h), ?_⟩
  exact ⟨⟨by decide, fun v h => (by cases h)⟩, fun o h => (by cases h), trivial⟩

end Canopy.C10
