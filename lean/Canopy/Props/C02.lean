import Canopy.Proof.Gate
import Canopy.Proof.Committee
import Canopy.Gen.GateFacts
/-!
# C02 — finality gate: only a +2/3-certified, correctly bound block is ever committed

`Gate.admitQC` is the hand model of `controller.HandlePeerBlock` (non-sync) up to the call of
`CommitCertificate`; it is tied to the code by the correspondence run (real committees, real BLS
aggregate signatures, real `QuorumCertificate.Check` / `CheckProposalBasic`, deviations of every
field) and its threshold is the **generated** `Gen.Committee.minPowerFor23Maj`.
Signatures are symbolic: `sig.parts` is the multiset of individual signatures inside the aggregate;
an adversary can only put there signatures that exist (M-sig, DESIGN §5).
-/
namespace Canopy.C02
open Canopy Canopy.Gate

/-- everything the gate establishes before `CommitCertificate` is reached -/
structure Admitted (n : Node) (q : QC) : Prop where
  intro ::
  ex : ∃ hd ms blk res sig,
    q.header = some hd ∧ n.committeeAt hd.rootHeight = some ms ∧ q.block = some blk ∧
    q.results = some res ∧ q.signature = some sig ∧
    -- bound to this network, chain and the node's next height, in the commit-justifying phase
    hd.networkId = n.networkId ∧ hd.chainId = n.chainId ∧ hd.height = n.height ∧ blk.height = n.height ∧
    hd.phase = PRECOMMIT_VOTE ∧
    -- names exactly this block and these results
    q.blockHash.getD [] = blk.hashFromHeader ∧ q.resultsHash = some res.hash ∧
    -- the aggregate is exactly the selected committee members' signatures over this certificate's payload
    aggVerifies sig (ms.map (·.key)) ((selected sig.bitmap ms).map (·.key)) (payloadOf q hd) = true ∧
    -- and the selected members reach the threshold of the committee in force at the root height
    ¬ (signedPower sig.bitmap ms < Gen.Committee.minPowerFor23Maj (totalPower ms))

/-- **admitQC_sound**: a commit verdict implies every clause of the property statement. -/
theorem admitQC_sound (n : Node) (q : QC) (h : admitQC n q = .commit) : Admitted n q := by
  unfold admitQC at h
  -- each `match` of the gate in the code's order; a rejecting branch contradicts `h`
  rcases hcb : checkBasic q n.globalMaxBlockSize with _ | c <;> simp only [hcb] at h
  case some => cases h
  rcases hhd : q.header with _ | hd <;> simp only [hhd] at h
  · cases h
  rcases hms : n.committeeAt hd.rootHeight with _ | ms <;> simp only [hms] at h
  · cases h
  rcases hq : qcCheck n q ms with c | p <;> simp only [hq] at h
  · cases h
  cases p
  case true => cases h
  rcases hpb : proposalBasic n q hd with _ | c <;> simp only [hpb] at h
  case some => cases h
  have hph : hd.phase = PRECOMMIT_VOTE :=
    Decidable.by_contra fun e => by rw [if_pos (bne_iff_ne.mpr e)] at h; cases h
  obtain ⟨hnet, hchain, hsc⟩ := qcCheck_ok hhd hq
  obtain ⟨sig, hsig, hagg, hpow⟩ := sigCheck_ok hsc
  obtain ⟨blk, hblk, hheight, hbh, hhash, hsome⟩ := proposalBasic_none hpb
  obtain ⟨res, hres⟩ := Option.isSome_iff_exists.mp hsome
  exact ⟨⟨hd, ms, blk, res, sig, hhd, hms, hblk, hres, hsig, hnet, hchain, hheight, hbh,
    hph, hhash, checkBasic_resultsHash hcb hres, hagg, of_decide_eq_false hpow.symm⟩⟩

/-- `controller.HandlePeerBlock` (normalised, logging dropped) performs, in this order and before
`CommitCertificate`: `CheckBasic`; committee lookup at the certificate's root height; `Check` against
this network and chain; the partial-certificate rejection; `CheckProposalBasic` at the node's height;
the PRECOMMIT_VOTE test. `Gate.admitQC` follows exactly this sequence. -/
theorem handlePeerBlock_shape : Gen.GateFacts.handlePeerBlock = [
  "qc := msg.BlockAndCertificate",
  "if err := qc.CheckBasic(); err != nil {",
  "  return nil, err",
  "}",
  "if syncing {…fast-sync checkpoint branch…}",
  "if !syncing || qc.Header.Height % CheckpointFrequency == 0 {",
  "  v, err := c.Consensus.LoadCommittee(c.LoadRootChainId(qc.Header.Height), qc.Header.RootHeight)",
  "  if err != nil {",
  "    return nil, err",
  "  }",
  "  isPartialQC, err := qc.Check(v, c.LoadMaxBlockSize(), &lib.View{NetworkId: c.Config.NetworkID, ChainId: c.Config.ChainId}, false)",
  "  if err != nil {",
  "    return nil, err",
  "  }",
  "  if isPartialQC {",
  "    return nil, lib.ErrNoMaj23()",
  "  }",
  "  if !syncing {",
  "  }",
  "}",
  "block, err := qc.CheckProposalBasic(c.FSM.Height(), c.Config.NetworkID, c.Config.ChainId)",
  "if err == nil && qc.Header.Phase != lib.Phase_PRECOMMIT_VOTE {",
  "  return nil, lib.ErrWrongPhase()",
  "}",
  "if err != nil {",
  "  return nil, err",
  "}",
  "result := c.Consensus.BlockResult",
  "if result == nil || result.BlockHeader == nil || !bytes.Equal(result.BlockHeader.Hash, block.BlockHeader.Hash) {",
  "  result = nil",
  "}",
  "if err = c.CommitCertificate(qc, block, result, msg.Time); err != nil {",
  "  return nil, err",
  "}",
  "return qc, nil"
] := rfl

theorem mem_of_count_pos {α} [BEq α] [LawfulBEq α] (l : List α) (a : α) (h : 0 < l.count a) : a ∈ l :=
  List.count_pos_iff.mp h

/-- the threshold expression never evaluates to 0, for any total (even a wrapped one) -/
theorem maj_pos (T : UInt64) : 0 < Gen.Committee.minPowerFor23Maj T := by
  rw [Gen.Committee.minPowerFor23Maj, UInt64.lt_iff_toNat_lt, UInt64.toNat_add, UInt64.toNat_div]
  have : (2 * T).toNat < 2 ^ 64 := (2 * T).toNat_lt
  show 0 < ((2 * T).toNat / 3 + 1) % 2 ^ 64
  omega

/-! ## corollaries, one per attack named in the property -/

/-- **partial**: signed power below the threshold never commits -/
theorem partial_rejected (n : Node) (q : QC) (hd : View) (ms : List Member) (sig : AggSig)
    (h1 : q.header = some hd) (h2 : n.committeeAt hd.rootHeight = some ms) (h3 : q.signature = some sig)
    (hp : signedPower sig.bitmap ms < Gen.Committee.minPowerFor23Maj (totalPower ms)) :
    admitQC n q ≠ .commit := by
  intro h
  obtain ⟨hd', ms', _, _, sig', e1, e2, _, _, e5, _, _, _, _, _, _, _, _, hq⟩ := (admitQC_sound n q h).ex
  rw [h1] at e1; cases e1
  rw [h2] at e2; cases e2
  rw [h3] at e5; cases e5
  exact hq hp

/-- **re-targeted / forged**: if the signatures that exist (the parts an adversary can aggregate) are
all over a payload `p₀` different from this certificate's payload, nothing commits — whatever single-
or multi-field change was made to header (height, round, phase, root height, network, chain), block
hash, results hash or proposer key -/
theorem retargeted_rejected (n : Node) (q : QC) (hd : View) (sig : AggSig) (p₀ : Payload)
    (h1 : q.header = some hd) (h3 : q.signature = some sig)
    (hall : ∀ x ∈ sig.parts, x.2 = p₀) (hne : payloadOf q hd ≠ p₀) :
    admitQC n q ≠ .commit := by
  intro h
  obtain ⟨hd', ms, _, _, sig', e1, _, _, _, e5, _, _, _, _, _, _, _, hagg, hq⟩ := (admitQC_sound n q h).ex
  rw [h1] at e1; cases e1
  rw [h3] at e5; cases e5
  -- the selection is non-empty, otherwise the signed power is 0 < threshold
  cases hsel : selected sig.bitmap ms with
  | nil => exact hq (by rw [signedPower, hsel]; exact maj_pos _)
  | cons m rest =>
    have := agg_parts hagg m.key (by rw [hsel]; exact List.mem_cons_self)
    exact hne (hall _ this)

/-- the payload determines every bound field: two certificates with the same payload agree on
header, block hash, results hash and proposer key -/
theorem payload_binds (q q' : QC) (h h' : View) (e : payloadOf q h = payloadOf q' h') :
    h = h' ∧ q.blockHash.getD [] = q'.blockHash.getD [] ∧
    q.resultsHash.getD [] = q'.resultsHash.getD [] ∧ q.proposerKey.getD [] = q'.proposerKey.getD [] := by
  simp only [payloadOf, Payload.mk.injEq] at e
  exact e

/-- **padding bits**: bits at indices ≥ committee size never select anybody, hence never add power -/
theorem padding_ignored (bm pad : List Bool) (ms : List Member) (h : ms.length ≤ bm.length) :
    selected (bm ++ pad) ms = selected bm ms := by
  simp only [selected]
  congr 1
  induction ms generalizing bm with
  | nil => rfl
  | cons m ms ih =>
    cases bm with
    | nil => exact absurd h (Nat.not_succ_le_zero _)
    | cons b bm =>
      rw [List.cons_append, List.zip_cons_cons, List.zip_cons_cons, ih bm (Nat.le_of_succ_le_succ h)]

/-- **other committee**: the committee whose power is counted is the one in force at the
certificate's own root height, as recorded by the node -/
theorem committee_is_at_root_height (n : Node) (q : QC) (h : admitQC n q = .commit) :
    ∃ hd ms, q.header = some hd ∧ n.committeeAt hd.rootHeight = some ms := by
  obtain ⟨hd, ms, _, _, _, e1, e2, _⟩ := (admitQC_sound n q h).ex
  exact ⟨hd, ms, e1, e2⟩

def powerNat (ms : List Member) : Nat := (ms.map (·.power.toNat)).sum

theorem sum_le_of_sublist {l₁ l₂ : List Nat} (h : l₁.Sublist l₂) : l₁.sum ≤ l₂.sum := by
  induction h with
  | slnil => exact Nat.le_refl _
  | cons a _ ih =>
    rw [List.sum_cons]
    exact Nat.le_trans ih (Nat.le_add_left _ _)
  | cons_cons a _ ih =>
    rw [List.sum_cons, List.sum_cons]
    exact Nat.add_le_add_left ih _

theorem selected_power_le (bm : List Bool) (ms : List Member) :
    powerNat (selected bm ms) ≤ powerNat ms :=
  sum_le_of_sublist ((selected_sublist bm ms).map _)

/-- a certificate that is not partial carries at least ⌊2T/3⌋+1 of the committee's exact total power `T`,
as long as `2T` fits 64 bits -/
theorem quorum_of_not_partial (bm : List Bool) (ms : List Member) (hfit : 2 * powerNat ms < 2 ^ 64)
    (hq : ¬ signedPower bm ms < Gen.Committee.minPowerFor23Maj (totalPower ms)) :
    powerNat (selected bm ms) ≥ 2 * powerNat ms / 3 + 1 := by
  -- both `uint64` sums are exact: the total fits, and the selection holds no more than the total
  have hfit1 : powerNat ms < 2 ^ 64 := Nat.lt_of_le_of_lt (Nat.le_mul_of_pos_left _ (by decide)) hfit
  have hT : (totalPower ms).toNat = powerNat ms := Committee.foldl_add_zero_toNat hfit1
  have hS : (signedPower bm ms).toNat = powerNat (selected bm ms) :=
    Committee.foldl_add_zero_toNat (Nat.lt_of_le_of_lt (selected_power_le _ ms) hfit1)
  rw [UInt64.lt_iff_toNat_lt, hS, Committee.minPowerFor23Maj_toNat _ (hT.symm ▸ hfit), hT] at hq
  exact Nat.le_of_not_lt hq

/-- **quorum**: whenever twice the committee's total power fits 64 bits (always, while the token supply
is below 2^63), a commit verdict means the selected signers hold at least ⌊2T/3⌋+1 of the real total -/
theorem quorum_exact (n : Node) (q : QC) (h : admitQC n q = .commit) :
    ∃ hd ms sig, q.header = some hd ∧ n.committeeAt hd.rootHeight = some ms ∧ q.signature = some sig ∧
      (2 * powerNat ms < 2 ^ 64 → powerNat (selected sig.bitmap ms) ≥ 2 * powerNat ms / 3 + 1) := by
  obtain ⟨hd, ms, _, _, sig, e1, e2, _, _, e5, _, _, _, _, _, _, _, _, hq⟩ := (admitQC_sound n q h).ex
  exact ⟨hd, ms, sig, e1, e2, e5, fun hfit => quorum_of_not_partial _ ms hfit hq⟩

/-! ## non-vacuity: a message that is admitted, and its one-unit-short neighbour that is not -/

def exView : View := { height := 7, round := 0, phase := PRECOMMIT_VOTE, rootHeight := 3, networkId := 1, chainId := 2 }
def exMembers : List Member := [⟨[1], 10⟩, ⟨[2], 10⟩, ⟨[3], 10⟩, ⟨[4], 10⟩]
def h32 (b : UInt8) : Bytes := List.replicate 32 b
def exBlock : BlockInfo := { decodes := true, headerOK := true, lastQCNetOK := true, lastQCChainOK := true, networkId := 1, height := 7, hashFromBytes := h32 9, hashFromHeader := h32 9, txsSize := 10, size := 100 }
def exPayload : Payload := { header := exView, blockHash := h32 9, resultsHash := h32 8, proposerKey := [] }
def exSig (bm : List Bool) (signers : List KeyId) : AggSig :=
  { lenOK := true, parts := signers.map (·, exPayload), group := exMembers.map (·.key), bitmap := bm }
def exQC (sig : AggSig) : QC := { header := some exView, blockHash := some (h32 9), resultsHash := some (h32 8), proposerKey := none, block := some exBlock, results := some ⟨true, h32 8⟩, signature := some sig }
def exNode : Node := { height := 7, networkId := 1, chainId := 2, maxBlockSize := 1000, globalMaxBlockSize := 100000, committeeAt := fun r => if r == 3 then some exMembers else none }

/-- 3 of 4 equal members (30 ≥ ⌊80/3⌋+1 = 27): committed -/
example : admitQC exNode (exQC (exSig [true, true, true, false, false, false, false, false] [[1], [2], [3]])) = .commit := by decide +kernel
/-- 2 of 4 (20 < 27): partial, rejected with ErrNoMaj23 -/
example : admitQC exNode (exQC (exSig [true, true, false, false, false, false, false, false] [[1], [2]])) =
    .reject Gen.Err.lib.ErrNoMaj23 := by decide +kernel
/-- 2 real signers + padding bits set: still partial (padding adds nothing) -/
example : admitQC exNode (exQC (exSig [true, true, false, false, true, true, true, true] [[1], [2]])) =
    .reject Gen.Err.lib.ErrNoMaj23 := by decide +kernel
/-- bitmap claims 3 signers but only 2 signatures are inside the aggregate: invalid aggregate -/
example : admitQC exNode (exQC (exSig [true, true, true, false, false, false, false, false] [[1], [2]])) =
    .reject Gen.Err.lib.ErrInvalidAggrSignature := by decide +kernel

end Canopy.C02
