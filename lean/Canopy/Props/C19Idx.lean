import Canopy.Proof.Key
import Canopy.Gen.Keys
/-!
# C19 (a, continued) — the indexer's key families

Same statement as `C19.FsmKey.*`, for every key builder of `store/indexer.go` (generated):
transactions by hash / height+index / sender / recipient, blocks by hash / height, certificates by
height, double signers, checkpoints, events by address / height / chain id. The state-change journal
(`stateChangeVersionPrefix`, optional and holding no consensus state) is excluded by name: its marker
key is a byte-prefix of its entries by design (see C10's known finding).
-/
namespace Canopy.C19Idx
open Canopy Canopy.Gen

inductive IdxKey
  | txHash (h : Bytes) | txHeight (h : UInt64) | txHeightIndex (h i : UInt64)
  | txSender (a hik : Bytes) | txRecipient (a hik : Bytes)
  | blockHash (h : Bytes) | blockHeight (h : UInt64) | qcHeight (h : UInt64)
  | doubleSigner (a : Bytes) (h : UInt64)
  | checkpointsCommittee (c : UInt64) | checkpoint (c h : UInt64)
  | eventAddress (a hik : Bytes) | eventHeight (h : UInt64) | eventBlockHeight (h : UInt64)
  | eventHeightIndex (h i : UInt64) | eventChainId (c : UInt64) (hik : Bytes)

def IdxKey.encode : IdxKey → Bytes
  | .txHash h => indexer.txHashKey h | .txHeight h => indexer.txHeightKey h
  | .txHeightIndex h i => indexer.txHeightAndIndexKey h i
  | .txSender a k => indexer.txSenderKey a k | .txRecipient a k => indexer.txRecipientKey a k
  | .blockHash h => indexer.blockHashKey h | .blockHeight h => indexer.blockHeightKey h
  | .qcHeight h => indexer.qcHeightKey h | .doubleSigner a h => indexer.doubleSignerHeightKey a h
  | .checkpointsCommittee c => indexer.checkpointsCommitteeKey c | .checkpoint c h => indexer.checkpointKey c h
  | .eventAddress a k => indexer.eventAddressKey a k | .eventHeight h => indexer.eventHeightKey h
  | .eventBlockHeight h => indexer.eventBlockHeightKey h
  | .eventHeightIndex h i => indexer.eventHeightAndIndexKey h i
  | .eventChainId c k => indexer.eventChainIdKey c k

def IdxKey.segs : IdxKey → List Bytes
  | .txHash h => [[1], h] | .txHeight h => [[2], formatUint64 h]
  | .txHeightIndex h i => [[2], formatUint64 h, formatUint64 i]
  | .txSender a k => [[3], a, k] | .txRecipient a k => [[4], a, k]
  | .blockHash h => [[5], h] | .blockHeight h => [[6], formatUint64 h] | .qcHeight h => [[7], formatUint64 h]
  | .doubleSigner a h => [[8], a, formatUint64 h]
  | .checkpointsCommittee c => [[9], formatUint64 c] | .checkpoint c h => [[9], formatUint64 c, formatUint64 h]
  | .eventAddress a k => [[10], a, k] | .eventHeight h => [[11], formatUint64 h]
  | .eventBlockHeight h => [[11], formatUint64 h]
  | .eventHeightIndex h i => [[11], formatUint64 h, formatUint64 i]
  | .eventChainId c k => [[12], formatUint64 c, k]

/-- caller-supplied components fit the one-byte length prefix (hashes 32, addresses 20, the embedded
height-and-index key 20 bytes) -/
def IdxKey.WF : IdxKey → Prop
  | .txHash h | .blockHash h => h.length ≤ 255
  | .txSender a k | .txRecipient a k | .eventAddress a k => a.length ≤ 255 ∧ k.length ≤ 255
  | .doubleSigner a _ => a.length ≤ 255
  | .eventChainId _ k => k.length ≤ 255
  | _ => True

theorem IdxKey.encode_eq (k : IdxKey) : k.encode = joinLenPrefix k.segs := by
  cases k <;> rfl

theorem IdxKey.segsOK (k : IdxKey) (h : k.WF) : SegsOK k.segs := by
  cases k <;> simp [IdxKey.segs, segsOK_cons, segsOK_nil, formatUint64_length] <;> exact h

/-- **No collision** between any two well-formed indexer keys that denote different segment lists -/
theorem IdxKey.encode_injective (k₁ k₂ : IdxKey) (h₁ : k₁.WF) (h₂ : k₂.WF)
    (h : k₁.encode = k₂.encode) : k₁.segs = k₂.segs := by
  rw [encode_eq, encode_eq] at h
  exact join_injective _ _ (segsOK _ h₁) (segsOK _ h₂) h

/-- **Prefix ranges**: a byte-prefix scan over an encoded key returns only keys whose leading segments
are that key's segments (e.g. the transactions of one height, the checkpoints of one committee) -/
theorem IdxKey.prefix_range (k₁ k₂ : IdxKey) (h₁ : k₁.WF) (h₂ : k₂.WF)
    (h : k₁.encode <+: k₂.encode) : k₁.segs <+: k₂.segs := by
  rw [encode_eq, encode_eq] at h
  exact join_prefix _ _ (segsOK _ h₁) (segsOK _ h₂) h

/-- scanning the transactions of height `h` never returns a transaction of another height -/
theorem tx_height_scan_exact (h h' i : UInt64)
    (e : indexer.txHeightKey h <+: indexer.txHeightAndIndexKey h' i) : h = h' := by
  have := IdxKey.prefix_range (.txHeight h) (.txHeightIndex h' i) trivial trivial e
  simp only [IdxKey.segs, List.cons_prefix_cons, true_and] at this
  exact formatUint64_injective this.1

/-- a double-signer record determines the validator and the height -/
theorem double_signer_components (a a' : Bytes) (h h' : UInt64) (ha : a.length ≤ 255) (ha' : a'.length ≤ 255)
    (e : indexer.doubleSignerHeightKey a h = indexer.doubleSignerHeightKey a' h') : a = a' ∧ h = h' := by
  have := IdxKey.encode_injective (.doubleSigner a h) (.doubleSigner a' h') ha ha' e
  simp only [IdxKey.segs, List.cons.injEq, and_true, true_and] at this
  exact ⟨this.1, formatUint64_injective this.2⟩

theorem block_height_vs_qc_height_disjoint (h h' : UInt64) : indexer.blockHeightKey h ≠ indexer.qcHeightKey h' := by
  intro e
  have := IdxKey.encode_injective (.blockHeight h) (.qcHeight h') trivial trivial e
  simp [IdxKey.segs] at this

example : (IdxKey.txSender (List.replicate 20 1) (indexer.txHeightAndIndexKey 3 4)).WF :=
  ⟨by decide, by decide⟩

/-! ### Absent components

`JoinLenPrefix` drops a nil segment without leaving a marker, so the builders above are injective on PRESENT
components only. What the real function writes for an absent recipient is `joinLenPrefix [[4], hik]`, which is
byte for byte the iteration prefix of the 20-byte address `hik` — the guards that keep the indexer from ever
building that key are pinned here, and `harness/c19/idxuse.go` queries the real indexer at exactly those addresses. -/

/-- why the guard is needed: the key of (no recipient, height-and-index key `hik`) is a prefix of every
recipient key of the address `hik` -/
theorem absent_recipient_aliases_address (hik k : Bytes) :
    joinLenPrefix [[4], hik] <+: (IdxKey.txRecipient hik k).encode :=
  ⟨joinLenPrefix [k], (join_append [[4], hik] [k]).symm⟩

/-- `Indexer.indexTxByRecipient` writes a recipient key only for a present recipient -/
theorem recipient_index_written_only_when_present : Gen.src_store_indexTxByRecipient = [
  "if recipient == nil {",
  "  return nil",
  "}",
  "return t.db.Set(t.txRecipientKey(recipient, heightAndIndexKey), bz)"
] := rfl

/-- `Indexer.DeleteTxsForHeight` builds the recipient key only under the `recipient != nil` guard -/
theorem recipient_index_deleted_only_when_present : Gen.src_store_DeleteTxsForHeight_recipient = [
  "    if recipient := tx.GetRecipient(); recipient != nil {",
  "      if e = t.db.Delete(t.txRecipientKey(recipient, heightAndIndexKey)); e != nil {"
] := rfl

end Canopy.C19Idx

/-!
## pool ids: a chain id and a pool kind never collide with another (chain id, kind)

Pool store keys are `KeyForPool(chainId + addend kind)`. The addends and the chain-id bound enforced by
`checkChainId` are regenerated from `fsm/key.go`'s var block; the id composition is injective on valid
chain ids exactly because each kind's id range `[1 + addend, MaxChainId + addend]` is disjoint from the
others — a change of `MaxChainId` or of an addend that makes two ranges touch breaks this theorem.
-/
namespace Canopy.C19Pool
open Canopy Canopy.Gen

inductive PoolKind | committee | holding | liquidity | escrow
deriving DecidableEq, Repr

def addend : PoolKind → Nat
  | .committee => 0
  | .holding => fsm.HoldingPoolAddend
  | .liquidity => fsm.LiquidityPoolAddend
  | .escrow => fsm.EscrowPoolAddend

def poolId (k : PoolKind) (chain : Nat) : Nat := chain + addend k

/-- chain ids accepted by `checkChainId`: not the reserved id 0, not above `MaxChainId` -/
def ValidChain (c : Nat) : Prop := 1 ≤ c ∧ c ≤ fsm.MaxChainId

/-- the addends of two different kinds are at least `MaxChainId` apart, so the id ranges
`[1 + addend, MaxChainId + addend]` do not meet -/
theorem addend_apart (k₁ k₂ : PoolKind) :
    k₁ = k₂ ∨ addend k₁ + fsm.MaxChainId ≤ addend k₂ ∨ addend k₂ + fsm.MaxChainId ≤ addend k₁ := by
  cases k₁ <;> cases k₂ <;> decide

/-- the pool id determines the pool kind and the chain -/
theorem pool_id_injective (k₁ k₂ : PoolKind) (c₁ c₂ : Nat) (h₁ : ValidChain c₁) (h₂ : ValidChain c₂)
    (h : poolId k₁ c₁ = poolId k₂ c₂) : k₁ = k₂ ∧ c₁ = c₂ := by
  unfold ValidChain at h₁ h₂
  unfold poolId at h
  rcases addend_apart k₁ k₂ with rfl | g | g
  · exact ⟨rfl, Nat.add_right_cancel h⟩
  · omega
  · omega

theorem addend_le (k : PoolKind) : addend k ≤ 65535 := by cases k <;> decide

/-- no chain-scoped pool id reaches the DAO pool id `2*MaxUint16+1` -/
theorem pool_id_below_dao (k : PoolKind) (c : Nat) (h : ValidChain c) : poolId k c < 2 * 65535 + 1 := by
  have := addend_le k
  unfold ValidChain fsm.MaxChainId at h
  unfold poolId
  omega

/-- hence the store keys of two different (kind, chain) pools differ -/
theorem pool_key_injective (k₁ k₂ : PoolKind) (c₁ c₂ : Nat) (h₁ : ValidChain c₁) (h₂ : ValidChain c₂)
    (h : fsm.KeyForPool (UInt64.ofNat (poolId k₁ c₁)) = fsm.KeyForPool (UInt64.ofNat (poolId k₂ c₂))) :
    k₁ = k₂ ∧ c₁ = c₂ := by
  have hb₁ := pool_id_below_dao k₁ c₁ h₁
  have hb₂ := pool_id_below_dao k₂ c₂ h₂
  simp only [fsm.KeyForPool, fsm.poolPrefix, joinLenPrefix, List.cons.injEq, true_and,
    List.append_cancel_left_eq, List.append_cancel_right_eq] at h
  have hu := formatUint64_injective h.2
  have : poolId k₁ c₁ = poolId k₂ c₂ := by
    have := congrArg UInt64.toNat hu
    simp only [UInt64.toNat_ofNat'] at this
    omega
  exact pool_id_injective k₁ k₂ c₁ c₂ h₁ h₂ this

example : ValidChain 1 ∧ ValidChain 16383 := by unfold ValidChain fsm.MaxChainId; omega

end Canopy.C19Pool
