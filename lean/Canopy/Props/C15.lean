import Canopy.Proof.BftLive
import Canopy.Props.C01
/-!
# C15 — BFT liveness under eventual synchrony (PARTIAL: conditional on leader election)

*Statement.* If validators holding more than two thirds of the power follow the protocol and, from some point on,
messages are delivered within the phase timeouts, a block is committed within a bounded number of rounds, whatever
rounds, locks, partial certificates, pacemaker messages or stale proposals the nodes accumulated before, with up to
one third of the power silent or misbehaving.

*What is proved here* (all over the decision functions regenerated from `/repo`, `Canopy.Gen.Bft`):

1. `good_leader_commits` — from **every** valid history (arbitrary earlier rounds, locks, adoptions, Byzantine votes),
   a round whose view is new for the correct replicas `H` (power ≥ 2T/3+1), in which the leader follows the protocol and
   hears the locks of all of `H`, ends with a valid history that contains a commit certificate: the leader's fold of the
   generated lock-replacement test keeps the highest certificate, every locked correct replica's generated `SafeNode`
   accepts its re-proposal (LIVENESS branch for lower locks — completeness of `safeNodeUnlock`; SAFETY branch at equal
   views by uniqueness of PROPOSE_VOTE certificates), the generated `CheckProposerMessage` accepts the leader's PRECOMMIT
   certificate of the round. This is the liveness dual of C01's key lemma.
2. `sync_round` — the facts that bring correct replicas into a common round with aligned phase windows:
   the pacemaker never moves a correct replica above the highest round a correct replica claimed
   (`pacemaker_no_overshoot`, needs the generated threshold to exceed the Byzantine power: `byzantine_cannot_reach`),
   a round claimed by more than a third of the power is reached at the next interrupt (`pacemaker_catch_up`), every
   interrupt leaves the round (`pacemaker_progress`), and since every round lasts `Σ timeouts · (2r+1)` for every replica
   (`roundLength_eq`, `msLeftInRound_remaining`) the start offset `δ` between two replicas stays constant while the phase
   windows grow, so from round `δ / tmin` on every phase window exceeds it (`offset_absorbed`).
3. `liveness_partial` — if among the next `K` rounds one has a correct leader that all correct replicas vote for, a block
   is committed within those `K` rounds (bad rounds in between are arbitrary valid extensions).
4. the guards that make a correct leader's round immune to other validators' messages: `electionVote_gate`
   (3637abf), `proposeMsg_binds_round` (63f299a), `leaderMsg_rejects_foreign_sender` (e2ecd83), and the pacemaker
   threshold (0fe2116). What each allowed before its repair is kept as a `decide`-checked witness
   (`stall_before_3637abf`, `hijack_before_63f299a`, `echo_before_e2ecd83`, `pacemaker_overshoot_halfMaj`).

*PARTIAL, said plainly.* Leader election (VRF sortition with the stake-weighted fallback) is a hash of the last
proposers, root height, height and round: *which* round has a correct leader that all correct replicas vote for is a
hypothesis, not a theorem (probability ≈ the correct stake share per round). Real timers are abstracted: "messages are
delivered within the phase windows" is the hypothesis `NewView` + "the leader hears all of `H`"; the arithmetic that
makes it eventually true is item 2, the simulator runs it with a virtual clock. Signatures, hashes, block validity: as
in C01.
-/
namespace Canopy.C15
open Canopy.Bft Canopy.Gen.Bft Canopy.C01

/-! ## T — the pacemaker threshold (`Pacemaker()` of `bft/bft.go`) -/

/-- the generated threshold test `totalVotedPower >= TotalPower/3+1` in uint64 is "more than one third" -/
theorem genReached_iff (T v : Nat) (hT : T < 2 ^ 64) (hv : v < 2 ^ 64) : genReached T v = true ↔ T < 3 * v := by
  simp only [genReached, pacemakerReached, decide_eq_true_eq, ge_iff_le, UInt64.le_iff_toNat_le, UInt64.toNat_add,
    UInt64.toNat_div, UInt64.toNat_ofNat', UInt64.reduceToNat, Nat.mod_eq_of_lt hT, Nat.mod_eq_of_lt hv]
  rw [Nat.mod_eq_of_lt (by omega), Nat.add_one_le_iff, Nat.div_lt_iff_lt_mul (by decide), Nat.mul_comm]

theorem genReached_mono (T a b : Nat) (hT : T < 2 ^ 64) (hb : b < 2 ^ 64) (hab : a ≤ b)
    (h : genReached T a = true) : genReached T b = true :=
  (genReached_iff T b hT hb).mpr (Nat.lt_of_lt_of_le ((genReached_iff T a hT (Nat.lt_of_le_of_lt hab hb)).mp h)
    (Nat.mul_le_mul_left 3 hab))

/-- power below one third — all a Byzantine coalition can have — never passes the test -/
theorem byzantine_cannot_reach (T b : Nat) (hT : T < 2 ^ 64) (hb : 3 * b < T) : genReached T b = false :=
  have hb64 : b < 2 ^ 64 := Nat.lt_trans (Nat.lt_of_le_of_lt (Nat.le_mul_of_pos_left b (by decide)) hb) hT
  Bool.eq_false_iff.mpr fun h => Nat.lt_asymm hb ((genReached_iff T b hT hb64).mp h)

theorem pacemaker_threshold_source :
    src_Pacemaker_threshold = "totalVotedPower >= b.ValidatorSet.TotalPower / 3 + 1" ∧
    src_Pacemaker_jump = "if pacemakerRound > b.Round { b.Round = pacemakerRound; b.round.Store(b.Round) }" :=
  ⟨rfl, rfl⟩

/-- **Pacemaker, no overshoot.** If the validators outside `inB` (the correct ones) claim rounds `≤ M` and `inB` holds
    less than a third of the power, the pacemaker target is `≤ M`: a correct replica is never moved above the highest
    round some correct replica reached. -/
theorem pacemaker_no_overshoot {T : Nat} (hT : T < 2 ^ 64) {pw : Nat → Nat} {claims : List (Nat × Nat)}
    {inB : Nat → Bool} {M : Nat}
    (hcorrect : ∀ c ∈ claims, inB c.1 = false → c.2 ≤ M)
    (hB : 3 * (((claims.filter fun c => inB c.1).map fun c => pw c.1).sum) < T) :
    pacemakerTarget pw (genReached T) claims ≤ M :=
  pacemakerTarget_le_of_unreached hcorrect fun p hp =>
    byzantine_cannot_reach T p hT (Nat.lt_of_le_of_lt (Nat.mul_le_mul_left 3 hp) hB)

/-- **Pacemaker, catch-up.** A claimed round behind which more than a third of the power stands is reached by the
    replica's next `Pacemaker()`. -/
theorem pacemaker_catch_up {T : Nat} (hT : T < 2 ^ 64) {pw : Nat → Nat} {claims : List (Nat × Nat)} {R : Nat} (round : Nat)
    (hR : R ∈ claims.map (·.2)) (hp : T < 3 * claimPower pw claims R) (hlt : claimPower pw claims R < 2 ^ 64) :
    R ≤ pacemakerStep pw (genReached T) claims round :=
  Nat.le_trans (pacemakerTarget_ge hR ((genReached_iff T _ hT hlt).mpr hp))
    (pacemakerStep_ge pw _ claims round).2

/-- a replica always leaves the round it interrupted -/
theorem pacemaker_progress (pw : Nat → Nat) (reached : Nat → Bool) (claims : List (Nat × Nat)) (round : Nat) :
    round < pacemakerStep pw reached claims round := (pacemakerStep_ge pw reached claims round).1

/-! ### F7 — what the old threshold `Uint64ReducePercentage(MinimumMaj23, 50)` allowed (before 0fe2116) -/

theorem uint64ReducePercentage_half (m : Nat) (hm : m * 50 < 2 ^ 64) :
    (uint64ReducePercentage (UInt64.ofNat m) 50).toNat = m * 50 / 100 := by
  have hm' : m % 2 ^ 64 = m := Nat.mod_eq_of_lt (Nat.lt_of_le_of_lt (Nat.le_mul_of_pos_right m (by decide)) hm)
  have h0 : UInt64.ofNat m = 0 ↔ m = 0 := by
    rw [← UInt64.toNat_inj, UInt64.toNat_ofNat', hm']; rfl
  unfold uint64ReducePercentage
  by_cases hz : m = 0
  · subst hz; rfl
  · simp [h0, hz, hm', Nat.mod_eq_of_lt hm]

/-- half of the +2/3 threshold is exactly the faulty power `f` when `T = 3f+1` (equal stakes) -/
theorem halfMaj_is_f (f : Nat) : (2 * (3 * f + 1) / 3 + 1) * 50 / 100 = f := by omega

/-- the old test -/
def halfMajReached (T v : Nat) : Bool :=
  decide ((uint64ReducePercentage (minimumMaj23 (UInt64.ofNat T)) 50).toNat ≤ v)

/-- four equal validators, validator 0 Byzantine: its single claim of round 1,000,000 moved every replica there -/
theorem pacemaker_overshoot_halfMaj :
    pacemakerStep (fun _ => 1) (halfMajReached 4) [(0, 1000000), (1, 0), (2, 0), (3, 0)] 0 = 1000000 ∧
    pacemakerStep (fun _ => 1) (genReached 4) [(0, 1000000), (1, 0), (2, 0), (3, 0)] 0 = 1 := by
  decide +kernel

/-! ## T — the phase timers (`WaitTime`, `waitTime`, `msLeftInRound` of `bft/bft.go`) -/

theorem waitTime_linear (s r : Nat) : waitTime s r = s * (2 * r + 1) := Nat.mul_one _

theorem waitTime_mono (s r r' : Nat) (h : r ≤ r') : waitTime s r ≤ waitTime s r' := by
  rw [waitTime_linear, waitTime_linear]; exact Nat.mul_le_mul_left _ (Nat.succ_le_succ (Nat.mul_le_mul_left 2 h))

theorem waitTime_strictMono (s r r' : Nat) (hs : 0 < s) (h : r < r') : waitTime s r < waitTime s r' := by
  rw [waitTime_linear, waitTime_linear]
  exact Nat.mul_lt_mul_of_pos_left (Nat.succ_lt_succ (Nat.mul_lt_mul_of_pos_left h (by decide))) hs

/-- the Go expression computes in uint64 and converts to nanoseconds in int64: it agrees with `waitTime` while
    `sleep·(2r+1)·10^6 < 2^63` (≈ 292 years) -/
theorem waitTime_fits (s r : Nat) (h : s * (2 * r + 1) * 1000000 < 2 ^ 63) : waitTime s r * 1000000 < 2 ^ 63 := by
  rw [waitTime_linear]; exact h

/-- `WaitTime` assigns each phase its own configured timeout -/
theorem waitTime_table :
    waitTimeTable.map (·.1) = [phase_ELECTION, phase_ELECTION_VOTE, phase_PROPOSE, phase_PROPOSE_VOTE, phase_PRECOMMIT,
      phase_PRECOMMIT_VOTE, phase_COMMIT, phase_COMMIT_PROCESS, phase_ROUND_INTERRUPT, phase_PACEMAKER] ∧
    (waitTimeTable.map (·.2)).take 7 = ["b.waitTime(b.Config.ElectionTimeoutMS, round)",
      "b.waitTime(b.Config.ElectionVoteTimeoutMS, round)", "b.waitTime(b.Config.ProposeTimeoutMS, round)",
      "b.waitTime(b.Config.ProposeVoteTimeoutMS, round)", "b.waitTime(b.Config.PrecommitTimeoutMS, round)",
      "b.waitTime(b.Config.PrecommitVoteTimeoutMS, round)", "b.waitTime(b.Config.CommitTimeoutMS, round)"] :=
  ⟨rfl, rfl⟩

/-- `msLeftInRound` at phase `p` is the wait of `p` plus what is left at `p+1`: the sum of the remaining phases -/
theorem msLeftInRound_remaining (w : Nat → Nat) :
    msLeftInRound phase_COMMIT w = w phase_COMMIT ∧
    msLeftInRound phase_PRECOMMIT_VOTE w = w phase_PRECOMMIT_VOTE + msLeftInRound phase_COMMIT w ∧
    msLeftInRound phase_PRECOMMIT w = w phase_PRECOMMIT + msLeftInRound phase_PRECOMMIT_VOTE w ∧
    msLeftInRound phase_PROPOSE_VOTE w = w phase_PROPOSE_VOTE + msLeftInRound phase_PRECOMMIT w ∧
    msLeftInRound phase_PROPOSE w = w phase_PROPOSE + msLeftInRound phase_PROPOSE_VOTE w ∧
    msLeftInRound phase_ELECTION_VOTE w = w phase_ELECTION_VOTE + msLeftInRound phase_PROPOSE w ∧
    msLeftInRound phase_ELECTION w = w phase_ELECTION + msLeftInRound phase_ELECTION_VOTE w ∧
    msLeftInRound phase_COMMIT_PROCESS w = 0 := by
  simp only [msLeftInRound, phase_ELECTION, phase_ELECTION_VOTE, phase_PROPOSE, phase_PROPOSE_VOTE, phase_PRECOMMIT,
    phase_PRECOMMIT_VOTE, phase_COMMIT, phase_COMMIT_PROCESS, Nat.reduceEqDiff, if_true, if_false, Nat.add_assoc, and_self]

/-- every replica spends `Σ timeouts · (2r+1)` in a round that does not commit, wherever it was interrupted -/
theorem roundLength_eq (t : Timeouts) (r : Nat) : t.roundLength r = t.sum * (2 * r + 1) := by
  simp only [Timeouts.roundLength, msLeftInRound, ↓reduceIte, Timeouts.wait, waitTime_linear, Timeouts.sum, Nat.add_mul]
  rfl

/-- **Offset absorption.** The start offset `δ` between two replicas that go through the same rounds stays constant
    (both spend `roundLength r` in round `r`); from round `δ / tmin` on it is smaller than every phase window
    `timeout·(2k+1) ≥ tmin·(2k+1)`: messages sent in a phase arrive before the recipient's timer for that phase. -/
theorem offset_absorbed {δ tmin : Nat} (h : 0 < tmin) {k : Nat} (hk : δ / tmin ≤ k) {timeout : Nat} (ht : tmin ≤ timeout) :
    δ < waitTime timeout k := by
  rw [waitTime_linear]
  have h1 : δ < tmin * (δ / tmin + 1) := Nat.lt_mul_div_succ δ h
  have h2 : tmin * (δ / tmin + 1) ≤ tmin * (2 * k + 1) :=
    Nat.mul_le_mul_left _ (Nat.succ_le_succ (Nat.le_trans hk (Nat.le_mul_of_pos_left k (by decide))))
  exact Nat.lt_of_lt_of_le (Nat.lt_of_lt_of_le h1 h2) (Nat.mul_le_mul_right _ ht)

/-- **sync_round.** After the network heals: (i) no correct replica is moved above the highest correct round,
    (ii) a round claimed by more than a third of the power is reached at the next interrupt, (iii) every interrupt makes
    progress, (iv) an offset of at most two round lengths of the highest round `k0` is absorbed by the phase windows
    after at most `2·Σ timeouts·(2·k0+1) / tmin` rounds. -/
theorem sync_round (T : Nat) (hT : T < 2 ^ 64) (pw : Nat → Nat) (claims : List (Nat × Nat)) (inB : Nat → Bool)
    (hsum : ((claims.map fun c => pw c.1).sum) < 2 ^ 64)
    (hB : 3 * (((claims.filter fun c => inB c.1).map fun c => pw c.1).sum) < T)
    (t : Timeouts) (htmin : 0 < t.min) :
    (∀ M, (∀ c ∈ claims, inB c.1 = false → c.2 ≤ M) → pacemakerTarget pw (genReached T) claims ≤ M) ∧
    (∀ R round, R ∈ claims.map (·.2) → T < 3 * claimPower pw claims R → R ≤ pacemakerStep pw (genReached T) claims round) ∧
    (∀ round, round < pacemakerStep pw (genReached T) claims round) ∧
    (∀ k0 δ k timeout, δ ≤ 2 * t.roundLength k0 → 2 * (t.sum * (2 * k0 + 1)) / t.min ≤ k → t.min ≤ timeout →
        δ < waitTime timeout k) := by
  refine ⟨fun M hM => pacemaker_no_overshoot hT hM hB, ?_, fun r => pacemaker_progress pw _ claims r, ?_⟩
  · intro R round hR hp
    have hlt : claimPower pw claims R < 2 ^ 64 := by
      have := sum_filter_mono (fun c => pw c.1) claims (fun c => decide (R ≤ c.2)) (fun _ => true) fun _ _ _ => rfl
      rw [List.filter_eq_self.mpr fun _ _ => rfl] at this
      exact Nat.lt_of_le_of_lt this hsum
    exact pacemaker_catch_up hT round hR hp hlt
  · intro k0 δ k timeout hδ hk ht
    rw [roundLength_eq] at hδ
    exact offset_absorbed htmin (Nat.le_trans (Nat.div_le_div_right hδ) hk) ht

/-! ## T — the decisions a good round relies on (both directions of C01's `genUnlock_iff`, `genAdoptOk_iff`, `genCertBound_iff`) -/

/-- **The replicas' unlock rule agrees with the leader's order.** The leader keeps, among the locks reported to it, the
    one the replacement test of `handleHighQCVDFAndEvidence` ranks highest (`adoptHigher`, i.e. `View.Less`: height, root
    height, round, phase); whenever that test ranks `new` above `lock`, a replica locked at `lock` takes SafeNode's LIVENESS
    branch for a proposal justified by `new` — across root heights too (a lock at (h, r) yields to one at (h+1, 0)). If the
    two rules ordered certificates differently, the leader would keep re-proposing a lock that lower-locked replicas refuse. -/
theorem replica_unlock_agrees_with_leader_order (lock new voteHdr : Gen.Bft.View)
    (h : adoptHigher true lock new voteHdr = true) : safeNodeUnlock lock new = true := h

/-- ... and the leader's test is the lexicographic order on (height, root height, round, phase) -/
theorem leader_order_is_viewLess (lock new voteHdr : Gen.Bft.View) :
    adoptHigher true lock new voteHdr = View.Less (some lock) (some new) := rfl

/-- **3637abf.** The payload of an ELECTION_VOTE (lock, VDF, evidence) is processed exactly by the candidate it names,
    in the vote's round, up to the PROPOSE phase; it is the first statement of the branch and a lock without its
    proposal is refused before anything else. -/
theorem electionVote_gate (namesSelf : Bool) (voteRound round phase : Nat) :
    (electionVoteIgnored namesSelf voteRound round phase = false ↔
      namesSelf = true ∧ voteRound = round ∧ (phase = phase_ELECTION ∨ phase = phase_ELECTION_VOTE ∨ phase = phase_PROPOSE)) ∧
    electionVoteGate_index = 0 ∧ highQcProposalCheck_index = 0 ∧
    (∀ hb hr, highQcMissingProposal hb hr = false ↔ hb = true ∧ hr = true) := by
  refine ⟨?_, rfl, rfl, by intro hb hr; cases hb <;> cases hr <;> decide⟩
  simp only [electionVoteIgnored, electionVotePayloadIsForSelf, Bool.not_eq_false', Bool.and_eq_true, Bool.or_eq_true,
    decide_eq_true_eq, and_assoc, or_assoc]

/-- **63f299a.** An accepted PROPOSE message carries the ELECTION_VOTE certificate of its own round naming its sender,
    and the proposal itself. -/
theorem proposeMsg_binds_round (qc hdr : Gen.Bft.View) (sender qcProposer : Nat) (hb hr : Bool)
    (h : proposeMsgChecks qc hdr sender qcProposer hb hr = none) :
    qc.Height = hdr.Height ∧ qc.Round = hdr.Round ∧ qc.Phase + 1 = hdr.Phase ∧ qcProposer = sender ∧ hb = true ∧ hr = true := by
  simpa only [proposeMsgChecks, justifiesLeaderPhase, ite_some_eq_none, Bool.not_eq_true', Bool.not_eq_false,
    Bool.and_eq_true, decide_eq_true_eq, and_true, and_assoc] using h

/-- **e2ecd83.** A PRECOMMIT/COMMIT message from anybody but the leader the replica follows is rejected. -/
theorem leaderMsg_rejects_foreign_sender (qc hdr : Gen.Bft.View) (sender proposer : Nat) (saved : Bool) (a b c d : Nat)
    (h : sender ≠ proposer) : leaderMsgChecks qc hdr sender proposer saved a b c d ≠ none :=
  fun hn => h ((leaderMsgChecks_eq_none_iff ..).mp hn).2.1

/-- a round change drops everything the replica held for the round — block, cached block hash, results, proposer —
    unconditionally (locked or not): `GetBlockHash()` recomputes the hash of whatever is proposed next. The per-replica
    model's `Rep.newRound` / `reset` do the same, and the driver compares the block a replica signs for with it. -/
theorem newRound_clears_round_state :
    "b.Block, b.BlockHash, b.Results = nil, nil, nil" ∈ src_NewRound_stmts ∧ "b.ProposerKey = nil" ∈ src_NewRound_stmts ∧
    "b.NewRound(true)" ∈ src_NewHeight_stmts := by
  simp only [src_NewRound_stmts, src_NewHeight_stmts, List.mem_cons, true_or, or_true, and_self]

/-- **Forwarding the lock does not touch it.** `StartElectionVotePhase` hands `b.HighQC` itself (the object, with the block
    and results it certifies) to the leader as `HighQc`; it assigns nothing but the proposer it votes for and its VDF, and
    everything it calls is one of: candidate lookup, leader selection, the VDF service, a copy of the view, the send. None
    of these reaches a certificate the replica stores — the lock aliases the `Qc` of the stored PRECOMMIT message, so
    anything that rewrites stored certificates in place here would strip the lock of its proposal, and every leader drops
    an ELECTION_VOTE whose `HighQc` has no block (`highQcMissingProposal`): `exec_leader_hears_lock` needs this frame.
    The per-replica model's ELECTION_VOTE step (`electionVote_step_keeps_lock`) changes the phase only. -/
theorem electionVote_phase_leaves_lock_alone :
    src_StartElectionVotePhase_highQc = ["b.HighQC"] ∧
    (∀ a ∈ src_StartElectionVotePhase_assigns, a ∈ ["candidates", "b.ProposerKey", "b.HighVDF"]) ∧
    (∀ c ∈ src_StartElectionVotePhase_calls, c ∈ ["b.GetElectionCandidates", "len", "SelectProposerFromCandidates",
      "func(...){b.ProposerKey = nil}", "b.SelfIsProposer", "b.VDFService.Finish", "b.SendToProposer", "b.View.Copy"]) :=
  ⟨rfl, fun _ h => h, fun _ h => h⟩

theorem electionVote_step_keeps_lock (s s' : Rep) (out : String)
    (hp : s.phase = phase_ELECTION ∨ s.phase = phase_ELECTION_VOTE) (h : s.phaseStep [] = some (s', out)) :
    s'.lock = s.lock ∧ s'.blk = s.blk ∧ s'.round = s.round := by
  have hcond : (s.phase == phase_ELECTION || s.phase == phase_ELECTION_VOTE) = true := by
    rcases hp with hp | hp <;> simp [hp]
  unfold Rep.phaseStep at h
  rw [if_pos hcond] at h
  cases h
  exact ⟨rfl, rfl, rfl⟩

/-- **The lock a correct replica reports is accepted.** `CheckHighQC` passes every full PROPOSE_VOTE certificate of the
    current height whose root height is not below the committee's last update — in particular one from exactly that
    root height (a nested chain whose root chain has not advanced since its last commit). `good_leader_commits` needs
    the leader to hear the locks of the correct replicas: this is what lets their ELECTION_VOTEs (and the re-proposal
    that carries the lock as `HighQc`) through. -/
theorem checkHighQCPost_complete (x view : Gen.Bft.View) (l : Nat)
    (hl : l ≤ x.RootHeight) (hh : x.Height = view.Height) (hp : x.Phase = phase_PROPOSE_VOTE) :
    checkHighQCPost false x view l = none :=
  (checkHighQCPost_eq_none_iff ..).mpr ⟨rfl, hl, hh, hp⟩

/-- the boundary is legal and the only rejected root heights are the stale ones -/
theorem checkHighQCPost_root_boundary (x view : Gen.Bft.View) (hh : x.Height = view.Height) (hp : x.Phase = phase_PROPOSE_VOTE) :
    checkHighQCPost false x view x.RootHeight = none ∧
    checkHighQCPost false x view (x.RootHeight + 1) = some "ErrWrongHighQCRootHeight" := by
  refine ⟨checkHighQCPost_complete x view _ (Nat.le_refl _) hh hp, ?_⟩
  unfold checkHighQCPost
  simp

/-- every certificate is verified against the committee of its OWN root height — the justification `Qc`, the lock `HighQc`
    attached to a leader message, and the lock reported in an ELECTION_VOTE: a signer bitmap only means something under the
    validator list it was laid out for. The model's symbolic signatures (`World.sigValid`: the listed signers signed this
    payload) and `good_leader_commits` (a lock formed before a root-height bump is re-proposed after it) rest on this. -/
theorem certificates_checked_under_own_committee :
    src_CheckProposerMessage_committees =
      ["if x.Qc.Header.RootHeight != p.rootHeight { vals, err = b.LoadCommittee(b.LoadRootChainId(x.Qc.Header.Height), x.Qc.Header.RootHeight) }",
       "if x.HighQc.Header.RootHeight != p.rootHeight { highQCVals, err = b.LoadCommittee(b.LoadRootChainId(x.HighQc.Header.Height), x.HighQc.Header.RootHeight) }"] ∧
    src_handleHighQC_committee =
      "vs, err := b.Controller.LoadCommittee(b.LoadRootChainId(vote.HighQc.Header.Height), vote.HighQc.Header.RootHeight)" :=
  ⟨rfl, rfl⟩

/-- in the per-replica model: the candidate named by an ELECTION_VOTE of its round, up to its PROPOSE phase, processes a
    real, full, current lock certificate that carries its proposal — it adopts or keeps, it never rejects the vote -/
theorem exec_leader_hears_lock (w : World) (r : Nat) (s : Rep) (v : Bft.View) (hq : CertD)
    (hroot : v.root = s.root) (hround : v.round = s.round)
    (hphase : s.phase = phase_ELECTION ∨ s.phase = phase_ELECTION_VOTE ∨ s.phase = phase_PROPOSE)
    (hsig : w.sigValid hq = true) (hfull : w.isPartial hq.signers = false)
    (hph : hq.phase = phase_PROPOSE_VOTE) (hl : w.lrhu ≤ hq.view.root) :
    (w.electionVote r s v (some r) hq true true).2 = "adopt" ∨ (w.electionVote r s v (some r) hq true true).2 = "keep" := by
  have hgate : electionVoteIgnored (some r == some r) v.round s.round s.phase = false := by
    rw [(electionVote_gate _ _ _ _).1]
    exact ⟨beq_self_eq_true _, hround, hphase⟩
  have hpost : checkHighQCPost (w.isPartial hq.signers) (certHdr hq) (hdrOf ⟨s.root, s.round⟩ s.phase) w.lrhu = none := by
    rw [hfull]
    exact checkHighQCPost_complete (certHdr hq) _ _ hl rfl hph
  unfold World.electionVote
  simp only [hroot, bne_self_eq_false, Bool.false_eq_true, if_false, hgate, highQcMissingProposal, Bool.not_true,
    Bool.or_self, hsig, hpost]
  -- locked or not, replacement test passed or not: the outcome is one of the two
  generalize adoptHigher _ _ _ _ = c
  cases c
  · exact .inr rfl
  · exact .inl rfl

/-! ## the per-replica handlers accept what a correct leader sends (duals of C01's `exec_*` theorems) -/

/-- `StartProposeVotePhase` lets a replica vote when the justification dominates its lock or certifies the locked block -/
theorem exec_propose_accepts (lv : Bft.View) (lb b : Nat) (cert : CertD)
    (hph : cert.phase = phase_PROPOSE_VOTE) (hblk : cert.blk = b) (h : lv < cert.view ∨ lb = b) :
    proposeDecision (some (lv, phase_PROPOSE_VOTE, lb)) b (some cert) = none := by
  simp only [proposeDecision]
  rw [safeNode_accepts_iff]
  simp only [safeNodeInput, Option.isSome_some, Option.map_some, Option.getD_some, hblk, true_and]
  rcases h with h | h
  · right
    unfold certHdr; rw [hph]
    exact (genUnlock_iff lv cert.view).mpr h
  · left; subst h; exact ⟨rfl, rfl⟩

/-- an unlocked replica votes for any proposal -/
theorem exec_propose_accepts_unlocked (b : Nat) (hq : Option CertD) : proposeDecision none b hq = none := rfl

/-- **good_leader_commits.** Any valid history, any committee and stake function, Byzantine power below one third;
    `H`: correct replicas holding at least `2T/3+1`; `v`: a view new for them; `reported`: the certificates the leader
    heard of — every lock of a replica in `H` is among them, all are real PROPOSE_VOTE certificates. Then the round in
    which the leader proposes `leaderProposal` and everybody in `H` votes is a valid extension and contains a commit
    certificate for the proposed block. -/
theorem good_leader_commits (committee : List Nat) (pw : Nat → Nat) (byz : Nat → Bool)
    (hb : 3 * (genCfg committee pw byz).powerOf byz < (genCfg committee pw byz).total)
    (tr : List Ev) (hv : (genCfg committee pw byz).Valid tr)
    (H : List Nat) (hnd : H.Nodup) (hh : ∀ r ∈ H, byz r = false)
    (hpow : (genCfg committee pw byz).maj ≤ (genCfg committee pw byz).powerOf (fun r => H.contains r))
    (v : Bft.View) (hnew : Cfg.NewView tr H v)
    (reported : List (Bft.View × Nat))
    (hcert : ∀ x ∈ reported, (genCfg committee pw byz).proposeQC tr x.1 x.2)
    (hall : ∀ r ∈ H, ∀ lk, Cfg.lock tr r = some lk → lk ∈ reported)
    (fresh : Nat) :
    let p := leaderProposal (genCfg committee pw byz) reported fresh
    (genCfg committee pw byz).Valid (goodRound tr H v p.1 p.2) ∧
      (genCfg committee pw byz).precommitQC (goodRound tr H v p.1 p.2) v p.1 :=
  Cfg.good_leader_commits_param (genCfg committee pw byz) hb (fun w y => (genUnlock_iff w y).mpr)
    genAdoptOk_iff genCertBound_iff tr hv H hnd hh hpow v hnew reported hcert hall fresh

/-- **liveness_partial.** Rounds `0..K` after synchronisation; round `j` starts from the history `hist j`, every history
    is valid (bad rounds are arbitrary valid extensions — Byzantine leaders, split elections, anything); if some round
    `j ≤ K` is good (its view is new for `H`, the leader hears `H`'s locks and follows the protocol), the history after
    that round contains a commit certificate. PARTIAL: that such a `j` exists is the election hypothesis. -/
theorem liveness_partial (committee : List Nat) (pw : Nat → Nat) (byz : Nat → Bool)
    (hb : 3 * (genCfg committee pw byz).powerOf byz < (genCfg committee pw byz).total)
    (H : List Nat) (hnd : H.Nodup) (hh : ∀ r ∈ H, byz r = false)
    (hpow : (genCfg committee pw byz).maj ≤ (genCfg committee pw byz).powerOf (fun r => H.contains r))
    (K : Nat) (hist : Nat → List Ev) (view : Nat → Bft.View)
    (reported : Nat → List (Bft.View × Nat)) (fresh : Nat → Nat)
    (hvalid : ∀ j ≤ K, (genCfg committee pw byz).Valid (hist j))
    (good : Nat → Prop)
    (hgood : ∀ j ≤ K, good j →
      Cfg.NewView (hist j) H (view j) ∧
      (∀ x ∈ reported j, (genCfg committee pw byz).proposeQC (hist j) x.1 x.2) ∧
      (∀ r ∈ H, ∀ lk, Cfg.lock (hist j) r = some lk → lk ∈ reported j))
    (hex : ∃ j, j ≤ K ∧ good j) :
    ∃ j, j ≤ K ∧ ∃ b hq, (genCfg committee pw byz).Valid (goodRound (hist j) H (view j) b hq) ∧
      (genCfg committee pw byz).precommitQC (goodRound (hist j) H (view j) b hq) (view j) b := by
  obtain ⟨j, hj, hg⟩ := hex
  obtain ⟨hnew, hcert, hall⟩ := hgood j hj hg
  exact ⟨j, hj, _, _, good_leader_commits committee pw byz hb (hist j) (hvalid j hj) H hnd hh hpow (view j) hnew
    (reported j) hcert hall (fresh j)⟩

/-! ## non-vacuity and the pre-repair witnesses (four equal-stake replicas, replica 0 Byzantine and silent) -/

def H3 : List Nat := [1, 2, 3]
def q0 : Bft.View := ⟨10, 0⟩
def q1 : Bft.View := ⟨10, 1⟩
def q2 : Bft.View := ⟨10, 2⟩

/-- replica 1 alone locked on block 1 at (10,0); replicas 2 and 3 then certified block 2 at (10,1) with the Byzantine
    replica and replica 2 locked on it -/
def mixedLocks : List Ev := [
  .precommit 2 q1 2 q1 true,
  .propose 3 q1 2 none, .propose 2 q1 2 none, .propose 0 q1 2 none,
  .precommit 1 q0 1 q0 true,
  .propose 3 q0 1 none, .propose 2 q0 1 none, .propose 1 q0 1 none ]

/-- the hypotheses of `good_leader_commits` hold together (three correct replicas with two different locks and one
    unlocked), the leader re-proposes block 2 justified by (10,1), and the round commits it -/
example :
    cfg4.Valid mixedLocks ∧ Cfg.NewView mixedLocks H3 q2 ∧
    leaderProposal cfg4 [(q0, 1), (q1, 2)] 9 = (2, some q1) ∧
    cfg4.Valid (goodRound mixedLocks H3 q2 2 (some q1)) ∧ cfg4.precommitQC (goodRound mixedLocks H3 q2 2 (some q1)) q2 2 := by
  have hv := cfg4.validP_sound (goodRound mixedLocks H3 q2 2 (some q1)) (by decide +kernel)
  refine ⟨(hv.suffix _ _).suffix _ _, ?_, by decide +kernel, hv, by decide +kernel⟩
  intro r _ e he _ w hw
  have : ∀ e ∈ mixedLocks, ∀ w, e.voteView = some w → w < q2 := by decide +kernel
  exact this e he w hw

/-- **L1 before 3637abf.** Any replica adopted the HighQc of any ELECTION_VOTE in any phase and its round's block was
    overwritten with the vote's (empty) block: a replica that had propose-voted block 1 and held the leader's PRECOMMIT
    message interrupted instead of precommit-voting. With the generated gate the same vote is only counted. -/
theorem stall_before_3637abf :
    let s : Rep := { root := 10, round := 0, phase := phase_PRECOMMIT_VOTE, lock := none, blk := some (encBlk 1 1), proposer := some 2, commits := [] }
    let cert : CertD := { view := q0, phase := phase_PROPOSE_VOTE, blk := encBlk 1 1, signers := [1, 2, 3] }
    -- the old behaviour: lock := HighQc, block of the round := none
    (precommitVote { s with lock := some (cert.view, cert.phase, cert.blk), blk := none } (some (2, cert))).2 = "interrupt:mismatch" ∧
    -- the repaired behaviour: the payload is ignored (the vote names another candidate / the replica is past PROPOSE)
    electionVoteIgnored true 0 0 phase_PRECOMMIT_VOTE = true ∧ electionVoteIgnored false 0 0 phase_PROPOSE = true ∧
    (precommitVote s (some (2, cert))).2 = "vote" := by
  decide +kernel

/-- **L3 before 63f299a.** A PROPOSE message of round 5 carrying the ELECTION_VOTE certificate of round 0 passed every
    other check of the branch; the generated branch rejects it. -/
theorem hijack_before_63f299a :
    let qc : Gen.Bft.View := hdrOf ⟨10, 0⟩ phase_ELECTION_VOTE
    let hdr : Gen.Bft.View := hdrOf ⟨10, 5⟩ phase_PROPOSE
    (qc.Round ≠ hdr.Round) ∧ proposeMsgChecks qc hdr 1 1 true true = some "ErrWrongPhase" ∧
    proposeMsgChecks (hdrOf ⟨10, 5⟩ phase_ELECTION_VOTE) hdr 1 1 true true = none := by
  decide +kernel

/-- **L2 before e2ecd83.** The leader's PRECOMMIT certificate re-signed by validator 0 was stored over the genuine
    message and `CheckProposerAndProposal` interrupted the round; the generated branch rejects the echo at delivery. -/
theorem echo_before_e2ecd83 :
    let s : Rep := { root := 10, round := 0, phase := phase_PRECOMMIT_VOTE, lock := none, blk := some (encBlk 1 1), proposer := some 2, commits := [] }
    let cert : CertD := { view := q0, phase := phase_PROPOSE_VOTE, blk := encBlk 1 1, signers := [1, 2, 3] }
    (precommitVote s (some (0, cert))).2 = "interrupt:wrongproposer" ∧
    leaderMsgChecks (certHdr cert) (hdrOf q0 phase_PRECOMMIT) (keyId (some 0)) (keyId s.proposer) true 1 1 1 1
      = some "ErrInvalidProposerPubKey" ∧
    leaderMsgChecks (certHdr cert) (hdrOf q0 phase_PRECOMMIT) (keyId (some 2)) (keyId s.proposer) true 1 1 1 1 = none := by
  decide +kernel

end Canopy.C15
