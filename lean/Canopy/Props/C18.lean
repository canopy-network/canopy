import Canopy.Proof.Mux
/-!
# C18 — multiplexed peer messaging

Model: `Model/Mux.lean` (`Canopy.Mux`): per-topic FIFO send queues, `split`/`packetsOf` as `MultiConn.Send`
builds them, a scheduler that may take the head of ANY non-empty queue at any time (`MuxOp.pick`), a
network that hands wire packets to the receiver one by one (`MuxOp.deliver`), the receiver's per-topic
assembler with the size cap, the inbox with drop-newest-when-full, and an application that drains
inboxes at arbitrary moments. A history is ANY list of these operations: every interleaving of
concurrent senders across topics, of the send loop's `select`, of the network and of the consumer.

Limits and topic ids are generated from `p2p/conn.go` / `lib/peer.pb.go` (`Limits.code`); the theorems
hold for every `Limits`.

Not expressible here: "none of this involves a data race" (Go memory model). See `checks/C18.py`.
Sender attribution: a `MultiConn` has exactly one remote identity, fixed by the handshake (C17); every
inbox entry of the connection carries it (checked on the real code by the correspondence run).
-/
namespace Canopy.C18
open Canopy Canopy.Mux

/-! ## structural facts (regenerated from /repo on every run) -/

theorem limits_code : Limits.code.chunk = Gen.Mux.maxPacketSize - Gen.Mux.packetHeaderSize ∧
    Gen.Mux.maxPacketSize * Gen.Mux.maxChunksPerPacket = Gen.Mux.maxMessageSize ∧
    Limits.code.chunk = 999950 ∧ Limits.code.maxMsg = 256000000 ∧ Limits.code.inboxCap = 1000 ∧
    Limits.code.heartbeat = 6 ∧ Limits.code.invalid = 99 := by decide

/-- the functions the hand model follows -/
theorem src_pinned :
    Gen.Mux.src_split = "if len(buf) == 0 { return [][]byte{buf} }; var chunk []byte; chunks := make([][]byte, 0, len(buf) / lim + 1); for ; len(buf) >= lim;  { chunk, buf = buf[:lim], buf[lim:]; chunks = append(chunks, chunk) }; if len(buf) > 0 { chunks = append(chunks, buf[:]) }; return chunks" ∧
    Gen.Mux.src_queueSends = "defer lib.TimeTrack(s.logger, time.Now(), time.Second); s.mu.Lock(); defer s.mu.Unlock(); for i, packet := range packets { ok := s.queueSend(packet, sendStart, metrics); if !ok { return false, i > 0 } }; return true, false" ∧
    Gen.Mux.src_queueSend = "if s.closed { return false }; queueStart := time.Now(); pwt := &PacketWithTiming{packet: p, sendStart: sendStart, queueStart: queueStart}; select { case s.sendQueue <- pwt: return true; case <-time.After(queueSendTimeout): if metrics != nil { metrics.SendQueueTimeout.Inc(); metrics.SendQueueFull.WithLabelValues(lib.Topic_name[int32(p.StreamId)]).Inc() }; return false }" ∧
    Gen.Mux.src_handlePacket = "assemblyStart := time.Now(); msgAssemblerLen, packetLen := len(s.msgAssembler), len(packet.Bytes); if int(maxMessageSize) < msgAssemblerLen + packetLen { s.msgAssembler = s.msgAssembler[:0]; return MaxMessageExceededSlash, ErrMaxMessageSize() }; s.msgAssembler = append(s.msgAssembler, packet.Bytes...); if packet.Eof { msg := make([]byte, len(s.msgAssembler)); copy(msg, s.msgAssembler); m := &lib.MessageAndMetadata{Message: msg, Sender: peerInfo}; if metrics != nil { metrics.ReceiveAssemblyTime.Observe(time.Since(assemblyStart).Seconds()) }; select { case s.inbox <- m: if len(s.inbox) > maxInboxQueueSize / 4 { s.logger.Errorf(\"OVERSIZE INBOX: %d\", len(s.inbox)) }; default: s.logger.Errorf(\"CRITICAL: Inbox %s queue full in receive service\", lib.Topic_name[int32(packet.StreamId)]); s.logger.Error(\"Dropping newest message\") }; s.msgAssembler = s.msgAssembler[:0] }; return 0, nil" ∧
    Gen.Mux.src_Send = "defer lib.TimeTrack(c.log, time.Now(), time.Second); startTime := time.Now(); stream, ok := c.streams[topic]; if !ok { c.log.Errorf(\"Stream %s does not exist\", topic); return }; chunks := split(bz, int(maxDataChunkSize)); var packets []*Packet; for i, chunk := range chunks { packets = append(packets, &Packet{StreamId: topic, Eof: i == len(chunks) - 1, Bytes: chunk}) }; if c.p2p.metrics != nil { c.p2p.metrics.MessageSize.Observe(float64(len(bz))); c.p2p.metrics.PacketsPerMessage.Observe(float64(len(packets))) }; var partial bool; ok, partial = stream.queueSends(packets, startTime, c.p2p.metrics); if !ok { c.log.Errorf(\"Packet(ID:%s) packet failed in queue for: %s\", lib.Topic_name[int32(topic)], lib.BytesToTruncatedString(c.Address.PublicKey)); if partial { c.Error(ErrFailedWrite(io.ErrShortWrite)) } }; return" :=
  ⟨rfl, rfl, rfl, rfl, rfl⟩

/-- the receive loop's dispatch, which queues the send loop serves, which ids get a stream and which an inbox -/
theorem src_pinned_loops :
    Gen.Mux.src_receiveDispatch = "switch x := msg.(type) { case *Packet: if x.StreamId == heartbeatTopic { c.handleHeartbeatPacket(x); continue }; stream, found := c.streams[x.StreamId]; if !found { c.Error(ErrBadStream(), BadStreamSlash); return }; if slash, er := stream.handlePacket(c.peerInfo, x, c.p2p.metrics); er != nil { c.log.Warn(er.Error()); c.Error(er, slash); return }; default: c.Error(ErrUnknownP2PMsg(x), UnknownMessageSlash); return }" ∧
    Gen.Mux.sendLoopCases = ["pwt = <-c.streams[heartbeatTopic].sendQueue", "pwt = <-c.streams[lib.Topic_CONSENSUS].sendQueue", "pwt = <-c.streams[lib.Topic_BLOCK].sendQueue", "pwt = <-c.streams[lib.Topic_BLOCK_REQUEST].sendQueue", "pwt = <-c.streams[lib.Topic_TX].sendQueue", "pwt = <-c.streams[lib.Topic_PEERS_RESPONSE].sendQueue", "pwt = <-c.streams[lib.Topic_PEERS_REQUEST].sendQueue", "<-c.quitSending"] ∧
    Gen.Mux.src_NewStreams = "streams = make(<*ast.MapType>, lib.Topic_INVALID + 1); for i, _ := range lib.Topic_INVALID { if i == lib.Topic_HEARTBEAT { continue }; streams[i] = &Stream{topic: i, msgAssembler: make([]byte, 0), sendQueue: make(<*ast.ChanType>, maxStreamSendQueueSize), inbox: p.Inbox(i), logger: p.log} }; streams[lib.Topic_HEARTBEAT] = &Stream{topic: lib.Topic_HEARTBEAT, msgAssembler: make([]byte, 0), sendQueue: make(<*ast.ChanType>, maxStreamSendQueueSize), inbox: nil, logger: p.log}; return" ∧
    Gen.Mux.src_inboxChannels = "for i := lib.Topic(0); i <= lib.Topic_HEARTBEAT; i++ { channels[i] = make(<*ast.ChanType>, maxInboxQueueSize) }" :=
  ⟨rfl, rfl, rfl, rfl⟩

/-- the packets of a message carry exactly its bytes, in order, in chunks of at most `chunk` bytes -/
theorem split_exact (L : Limits) (m : Bytes) :
    (split m L.chunk).flatten = m ∧ (∀ c ∈ split m L.chunk, c.length ≤ L.chunk) ∧ split m L.chunk ≠ [] :=
  (split_spec m L.chunk L.chunk_pos).2

/-- **split_covers**: for EVERY message length (also beyond any limit) the chunks of `split` concatenate to
the whole buffer, there are exactly ⌈len / chunk⌉ of them (one empty chunk for the empty message) — no
cap on their number — and their lengths are the ones `splitLens` computes from the length alone, which
add up to the length. A `split` that stops after some number of chunks drops the tail of the message. -/
theorem split_covers (L : Limits) (m : Bytes) :
    (split m L.chunk).flatten = m ∧
    (m.length ≠ 0 → (split m L.chunk).length = (m.length + L.chunk - 1) / L.chunk) ∧
    (split m L.chunk).map List.length = splitLens m.length L.chunk ∧
    (splitLens m.length L.chunk).sum = m.length := by
  obtain ⟨hlens, hfl, -⟩ := split_spec m L.chunk L.chunk_pos
  refine ⟨hfl, fun h => ?_, hlens, ?_⟩
  · rw [← List.length_map (f := List.length), hlens, splitLens, if_neg h]
    exact (splitLensLoop_spec L.chunk L.chunk_pos _ _ (Nat.lt_succ_self _)).1
  · rw [← hlens, ← List.length_flatten, hfl]

/-- at the real constants: a message of 255,987,201 bytes (one more than 256 full chunks) needs a 257th
packet, and the largest legal message (256,000,000 bytes) ends with a 12,800-byte packet -/
example : (splitLens 255987201 Limits.code.chunk).length = 257 ∧ (splitLens 255987201 Limits.code.chunk).getLast? = some 1 ∧
    (splitLens 256000000 Limits.code.chunk).length = 257 ∧ (splitLens 256000000 Limits.code.chunk).getLast? = some 12800 ∧
    (splitLens 255987200 Limits.code.chunk).length = 256 := by decide +kernel

/-- … and a receiver that sees exactly these packets on an idle topic assembles exactly the message -/
theorem packets_reassemble (L : Limits) (t : Nat) (m : Bytes) (h : m.length ≤ L.maxMsg) :
    assembleOk L [] (packetsOf L t m) = some [m] := assembleOk_packetsOf L t m h

/-- **delivery_partial** (for any limits, with or without the repair; carries `EnqueueAtomic` explicitly
and adds the no-silent-loss clauses). For EVERY history (every set of sends on every topic, every schedule of the send
loop, every network timing, every consumer timing) in which each enqueue is all-or-nothing
(`EnqueueAtomic`) and each send is within the statement (`SendsValid`: a real stream id, size ≤ limit):
the connection is never closed, and for every topic `t` the messages ever appended to `t`'s inbox
(`log`) are, in order, a subsequence of a PREFIX `done` of the messages sent on `t` — each of them
byte-identical to a sent message of that same topic, whole; the rest (`todo`) is still in flight or
queued. Nothing else — no truncation, no merge, no other topic's bytes — is ever delivered.
Moreover (no silent loss): once nothing of `t` is pending, `done` is everything; and if `t` has an
inbox and at most `inboxCap` messages were sent on it, nothing was dropped at all. -/
theorem delivery_partial (L : Limits) (ops : List MuxOp) (hA : EnqueueAtomic ops) (hV : SendsValid L ops) (t : Nat) :
    (Conn.run L Conn.init ops).r.closed = none ∧
    ∃ done todo, sentOn t ops = done ++ todo ∧
      ((Conn.run L Conn.init ops).r.log.get t).Sublist done ∧
      (pending (Conn.run L Conn.init ops) t = [] → todo = []) ∧
      (t < L.inboxTopics → (sentOn t ops).length ≤ L.inboxCap → (Conn.run L Conn.init ops).r.log.get t = done) := by
  have h := run_inv L ops hA hV (CInv.init L)
  simp only [List.nil_append] at h
  exact h.delivery t

/-- corollary: everything sent on a topic with an inbox arrives, exactly and in order, once the
topic's packets have all been scheduled and handed over (and the inbox never overflowed) -/
theorem delivery_complete (L : Limits) (ops : List MuxOp) (hA : EnqueueAtomic ops) (hV : SendsValid L ops) (t : Nat)
    (hp : pending (Conn.run L Conn.init ops) t = []) (ht : t < L.inboxTopics)
    (hc : (sentOn t ops).length ≤ L.inboxCap) :
    (Conn.run L Conn.init ops).r.log.get t = sentOn t ops := by
  obtain ⟨_, done, todo, hs, _, h1, h2⟩ := delivery_partial L ops hA hV t
  rw [h2 ht hc, hs, h1 hp, List.append_nil]

/-- GENERATED FACT the full-strength theorem rests on: `Send` ends the connection when `queueSends`
reports that only a prefix of the message was enqueued (`if partial { c.Error(…) }`). Recomputed from
`p2p/conn.go` on every run; when false, this theorem and `delivery` no longer check and
`partial_enqueue_merges` (replayed on the real code in the thorough tier) is the failing input. -/
theorem tears_down_on_partial : Gen.Mux.partialEnqueueTearsDown = true := by decide

/-- GENERATED FACT the model's atomic `MuxOp.send` step rests on: `queueSends` takes the stream mutex
before anything else and every `queueSend` of a message happens under it, and no other enqueue path of
`p2p/conn.go` feeds a message stream directly (only the heartbeat stream, which never carries
multi-packet messages). Without it a one-packet message of a concurrent sender can land between the
packets of a larger one on the same topic; the Go scenario `concurrent-small-and-large-same-topic`
(`C18:received-differs-from-sent:interleaved-senders`) then supplies the interleaving. -/
theorem enqueue_under_stream_mutex : Gen.Mux.enqueueUnderStreamMutex = true := by decide

/-- GENERATED FACT the model's per-topic assemblers (`Receiver.asm : TMap`, one independent byte string
per stream) rest on: in `NewStreams` every `Stream{…}` gets a fresh `make(…)` as its `msgAssembler`, not a
slice of a buffer shared between the streams of a connection. Without it a packet handled on one
topic can overwrite the pending bytes of another; the Go scenario
`interleaved-topics-first-large-message` (`C18:received-differs-from-sent:cross-topic-assembler`) then
supplies the interleaving. -/
theorem assembler_per_stream : Gen.Mux.assemblerPerStream = true := by decide

/-- GENERATED FACT: the identity `AddPeer` records for a connection (the `Sender` of every delivered message
and the peer-set key) is `connection.Address.PublicKey`, the key the handshake authenticated, on every
path. When false, the Go scenario `dial-attribution` (`C18:sender-not-authenticated-identity:<mode>`)
supplies the connection on which messages are attributed to a key nobody proved. -/
theorem attribution_is_authenticated_key : Gen.Mux.attributionIsAuthenticatedKey = true := by decide

/-- **sender_is_authenticated**: whatever key was dialed or claimed, inbound or outbound, strict or not —
if `AddPeer` registers the peer at all, the recorded identity is the key the handshake authenticated
(the identity of C17's `auth`); a strict outbound dial whose dialed key differs is refused; and every
entry of every topic's inbox log of that connection carries exactly that identity. -/
theorem sender_is_authenticated (auth : Nat) (claimed : Option Nat) (outbound strict : Bool) :
    (∀ k, recordedIdentity auth claimed outbound strict = some k → k = auth) ∧
    (outbound = true → strict = true → claimed ≠ some auth → recordedIdentity auth claimed outbound strict = none) ∧
    (∀ (r : Receiver) (t k : Nat), recordedIdentity auth claimed outbound strict = some k →
      ∀ e ∈ r.tagged k t, e.sender = auth ∧ e.msg ∈ r.log.get t) := by
  -- the only value `recordedIdentity` ever returns is the authenticated key
  have hk : ∀ k, recordedIdentity auth claimed outbound strict = some k → k = auth :=
    fun k h => (Option.some.inj (ite_none_eq_some.1 h).2).symm
  refine ⟨hk, fun ho hs hc => by simp [recordedIdentity, ho, hs, hc], fun r t k h e he => ?_⟩
  obtain ⟨m, hm, rfl⟩ := List.mem_map.1 he
  exact ⟨hk k h, hm⟩

/-- non-vacuity: a non-strict outbound dial with a WRONG key still records the authenticated key; a strict one is refused -/
example : recordedIdentity 2 (some 9) true false = some 2 ∧ recordedIdentity 2 (some 9) true true = none ∧
    recordedIdentity 2 none true false = some 2 ∧ recordedIdentity 2 (some 9) false false = some 2 := by decide

/-- **delivery** (general form): for code that ends the connection on a partial enqueue, NO atomicity
hypothesis is needed — for EVERY history, including enqueues that time out between packets at any
point, the connection is never closed by the receiver's checks and for every topic the messages ever
appended to its inbox are, in order, a subsequence of a prefix of the messages sent on it, each whole
and byte-identical; everything else is "not at all". -/
theorem delivery_of_teardown (L : Limits) (hT : L.tearDownOnPartial = true) (ops : List MuxOp)
    (hV : SendsValid L ops) (t : Nat) :
    (Conn.run L Conn.init ops).r.closed = none ∧
    ∃ done todo, sentOn t ops = done ++ todo ∧ ((Conn.run L Conn.init ops).r.log.get t).Sublist done := by
  have h := run_dinv L hT ops hV (DInv.init L)
  simp only [List.nil_append] at h
  exact h.delivery t

/-- **delivery** — the statement about the code as it is (limits, topic ids and the teardown fact all
generated from the source; the atomic `send` step of the model is justified by
`enqueue_under_stream_mutex`). -/
theorem delivery (ops : List MuxOp) (hV : SendsValid Limits.code ops) (t : Nat) :
    (Conn.run Limits.code Conn.init ops).r.closed = none ∧
    ∃ done todo, sentOn t ops = done ++ todo ∧
      ((Conn.run Limits.code Conn.init ops).r.log.get t).Sublist done :=
  -- the per-message atomic enqueue of `Conn.step (.send …)` is what `enqueue_under_stream_mutex` says of the code
  have _atomic := enqueue_under_stream_mutex
  -- the independent per-topic assemblers of `Receiver` are what `assembler_per_stream` says of the code
  have _assemblers := assembler_per_stream
  -- the sender tag of every inbox entry is the handshake-authenticated key (`sender_is_authenticated`)
  have _sender := attribution_is_authenticated_key
  delivery_of_teardown Limits.code tears_down_on_partial ops hV t

/-- a small instance of the limits for executable witnesses: 2-byte packets, 6-byte messages,
`tearDownOnPartial = false` (the code before the repair) -/
def tiny : Limits := ⟨2, 6, 10, 6, 99, 6, false, by decide⟩

/-- the same limits for code that ends the connection on a partial enqueue -/
def tinyFixed : Limits := ⟨2, 6, 10, 6, 99, 6, true, by decide⟩

def okOps : List MuxOp := [.send 0 [1, 2, 3, 4, 5], .send 1 [9, 9, 9], .pick 0, .pick 1, .send 0 [7], .pick 0, .pick 1,
  .deliver, .deliver, .pick 0, .pick 0, .deliver, .deliver, .deliver, .deliver]

/-- A = "AAAA" cut after its first packet, then B = "BB" whole, both scheduled and delivered -/
def f8Ops : List MuxOp := [.sendPartial 0 [65, 65, 65, 65] 1, .send 0 [66, 66], .pick 0, .pick 0, .deliver, .deliver]

/-- non-vacuity of `delivery_partial` / `delivery`: two topics, interleaved packets of multi-packet messages — hypotheses
hold, everything arrives intact on its own topic -/
example :
    EnqueueAtomic okOps ∧ SendsValid tiny okOps ∧
    (Conn.run tiny Conn.init okOps).r.log.get 0 = [[1, 2, 3, 4, 5], [7]] ∧
    (Conn.run tiny Conn.init okOps).r.log.get 1 = [[9, 9, 9]] := by decide +kernel

/-- **drop_clears_assembler.** The inbox-full branch ("Dropping newest message"): when an EOF packet
completes a message and the topic's inbox has no room (or the stream has no inbox), the message is
dropped WHOLE — nothing is logged, the connection stays open, and the stream's assembler is empty
again, so the next message on that topic starts from nothing. (`delivery` / `delivery_partial` cover
histories with such drops: what is delivered is always a subsequence of what was sent.) -/
theorem drop_clears_assembler (L : Limits) (r : Receiver) (p : Packet) (ho : r.closed = none)
    (ht : p.topic ≠ L.heartbeat ∧ p.topic < L.invalid) (hfit : ¬ L.maxMsg < (r.asm.get p.topic).length + p.bytes.length)
    (heof : p.eof = true) (hfull : ¬ (p.topic < L.inboxTopics ∧ (r.inbox.get p.topic).length < L.inboxCap)) :
    (r.handle L p).asm.get p.topic = [] ∧ (r.handle L p).log = r.log ∧ (r.handle L p).inbox = r.inbox ∧
    (r.handle L p).closed = none := by
  rw [handle_fit p ho ht hfit, heof, if_pos rfl, if_neg hfull]
  exact ⟨TMap.get_set_self, rfl, rfl, ho⟩

/-- non-vacuity (inbox capacity 1 for the witness): the second message is dropped, the third arrives as itself -/
example :
    let L1 : Limits := ⟨2, 6, 1, 6, 99, 6, false, by decide⟩
    ((Receiver.init.run L1 [⟨0, true, [1]⟩, ⟨0, false, [2, 2]⟩, ⟨0, true, [2]⟩]).drain 0 |>.run L1 [⟨0, true, [3]⟩]).log.get 0
      = [[1], [3]] := by decide +kernel

/-- **overlimit_closes.** A packet that would take a stream's assembler beyond the limit closes the
connection; nothing is delivered, the partial data is discarded. -/
theorem overlimit_closes (L : Limits) (r : Receiver) (p : Packet) (ho : r.closed = none)
    (ht : p.topic ≠ L.heartbeat ∧ p.topic < L.invalid)
    (hover : L.maxMsg < (r.asm.get p.topic).length + p.bytes.length) :
    (r.handle L p).closed = some .maxMessageSize ∧ (r.handle L p).log = r.log ∧
    (r.handle L p).inbox = r.inbox ∧ (r.handle L p).asm.get p.topic = [] := by
  rw [handle_over p ho ht hover]
  exact ⟨rfl, rfl, rfl, TMap.get_set_self⟩

/-- an unknown stream id closes the connection without delivery -/
theorem bad_stream_closes (L : Limits) (r : Receiver) (p : Packet) (ho : r.closed = none)
    (ht : p.topic ≠ L.heartbeat) (hbad : p.topic ≥ L.invalid) :
    (r.handle L p).closed = some .badStream ∧ (r.handle L p).log = r.log ∧ (r.handle L p).inbox = r.inbox := by
  simp [Receiver.handle, ho, ht, hbad]

/-- the frame-level receive path the model's `Receiver.malformed` follows: a fresh `Envelope` per wire message,
and `receiveLengthPrefixed` always reads (and returns) a body, also an empty one -/
theorem src_pinned_wire :
    Gen.Mux.src_waitForAndHandleWireBytes = "receiveStart := time.Now(); msg := new(Envelope); _, err := receiveProtoMsg(c.conn, msg); if err != nil { return nil, err }; if c.p2p.metrics != nil { c.p2p.metrics.ReceiveWireTime.Observe(time.Since(receiveStart).Seconds()) }; return lib.FromAny(msg.Payload)" ∧
    Gen.Mux.src_receiveLengthPrefixed = "readTimeout := ReadTimeout; if len(timeout) == 1 { readTimeout = timeout[0] }; if err := conn.SetReadDeadline(time.Now().Add(readTimeout)); err != nil { return nil, ErrFailedRead(err) }; lengthBuffer := make([]byte, 4); if _, err := io.ReadFull(conn, lengthBuffer); err != nil { return nil, ErrFailedRead(err) }; messageLength := binary.BigEndian.Uint32(lengthBuffer); if messageLength > maxPacketSize { return nil, ErrMaxMessageSize() }; msg := make([]byte, messageLength); if _, err := io.ReadFull(conn, msg); err != nil { return nil, ErrFailedRead(err) }; _ = conn.SetReadDeadline(time.Time{}); return msg, nil" :=
  ⟨rfl, rfl⟩

/-- **malformed_closes.** A wire frame that is not a well-formed packet envelope closes the connection;
nothing is delivered, no assembler is touched, and (by `closed_is_final`) nothing is delivered afterwards. -/
theorem malformed_closes (r : Receiver) (ho : r.closed = none) :
    r.malformed.closed = some .malformed ∧ r.malformed.log = r.log ∧ r.malformed.inbox = r.inbox ∧
    r.malformed.asm = r.asm := by
  simp [Receiver.malformed, ho]

/-- once closed, nothing is ever delivered again -/
theorem closed_is_final (L : Limits) (r : Receiver) (ps : List Packet) (h : r.closed.isSome) : r.run L ps = r :=
  run_closed L r ps h

/-- a whole over-limit message (all its packets, on an otherwise idle stream) closes the connection
before anything of it is delivered -/
theorem overlimit_message_closes (L : Limits) (t : Nat) (ht : t ≠ L.heartbeat ∧ t < L.invalid) (m : Bytes)
    (hm : L.maxMsg < m.length) :
    (Receiver.init.run L (packetsOf L t m)).closed = some .maxMessageSize ∧
    (Receiver.init.run L (packetsOf L t m)).log = [] ∧ (Receiver.init.run L (packetsOf L t m)).inbox = [] := by
  obtain ⟨-, hfl, -, hne⟩ := split_spec m L.chunk L.chunk_pos
  have := run_overflow L t ht (split m L.chunk) hne Receiver.init rfl (by rw [hfl]; simpa [Receiver.init] using hm)
  simpa [packetsOf, Receiver.init] using this

/-- non-vacuity: a 7-byte message under `tiny` (limit 6) -/
example : (Receiver.init.run tiny (packetsOf tiny 0 [1, 2, 3, 4, 5, 6, 7])).closed = some .maxMessageSize ∧
    (Receiver.init.run tiny (packetsOf tiny 0 [1, 2, 3, 4, 5, 6])).log.get 0 = [[1, 2, 3, 4, 5, 6]] := by decide +kernel

/-- OBSERVATION (outside the statement): stream ids between the heartbeat and `Topic_INVALID` have a
stream but no inbox channel — their packets are assembled (up to the full limit each) and the finished
message is dropped, without closing the connection. -/
example : (Receiver.init.run Limits.code [⟨50, true, [1, 2, 3]⟩]).closed = none ∧
    (Receiver.init.run Limits.code [⟨50, true, [1, 2, 3]⟩]).log.get 50 = [] := by decide

/-! ## what happens without `EnqueueAtomic` (DESIGN §8-F8) -/

/-- **partial_enqueue_merges** (the code BEFORE the repair, `tearDownOnPartial = false`). `queueSends` gives up after `queueSendTimeout` BETWEEN packets and
leaves the already queued prefix (no EOF) in flight. Witness: message A = "AAAA" (two packets) is cut
after its first packet — `Send` reports failure — then B = "BB" is sent whole. The receiver delivers
ONE message "AABB", which nobody sent: A's orphaned prefix merged with B. -/
theorem partial_enqueue_merges :
    ¬ EnqueueAtomic f8Ops ∧ SendsValid tiny f8Ops ∧
    (Conn.run tiny Conn.init f8Ops).r.log.get 0 = [[65, 65, 66, 66]] ∧
    [65, 65, 66, 66] ∉ sentOn 0 f8Ops ∧ ([65, 65, 66, 66] : Bytes) ≠ [65, 65, 65, 65] := by decide +kernel

/-- with the repair the same history ends the connection on the sending side: B is refused, nothing
reaches the wire, nothing is delivered -/
example : (Conn.run tinyFixed Conn.init f8Ops).s.dead = true ∧ (Conn.run tinyFixed Conn.init f8Ops).s.wire = [] ∧
    (Conn.run tinyFixed Conn.init f8Ops).r.log.get 0 = [] := by decide +kernel

/-- the hypothesis is exactly what is missing: with the same two sends enqueued atomically the same
schedule delivers A and B intact -/
example :
    (Conn.run tiny Conn.init [.send 0 [65, 65, 65, 65], .send 0 [66, 66], .pick 0, .pick 0, .pick 0, .deliver, .deliver, .deliver]).r.log.get 0
      = [[65, 65, 65, 65], [66, 66]] := by decide +kernel

/-- the length-only simulation the driver uses for traffic too large to materialise, on a witness under
`tiny`: 2 + 2 bytes make a delivered message of 4, then 4 + 3 bytes exceed the limit of 6 and the
stream closes -/
example : lenSim tiny true 0 [(2, false), (2, true), (4, false), (3, true)] = ([4], true) := by decide

end Canopy.C18
