import Canopy.Proof.Transport
import Canopy.Proof.Handshake
import Canopy.Proof.Lists
/-!
# C17 — encrypted transport

Part 1: the framing of `p2p.EncryptedConn` (`Canopy.Transport`, model in
`Model/Transport.lean`; constants and `incrementNonce` are generated from the Go source on every run).
Part 2: the handshake in the symbolic (Dolev-Yao) model (`Canopy.Handshake`).

Assumption carried by the *shape of the model*, not by an axiom: ChaCha20-Poly1305 is an ideal AEAD —
`Wire.sealed key nonce plain` is an opaque constructor and `openWire` succeeds only on an exact
(key, nonce) match; whoever lacks the key can only rearrange honest frames, fabricate non-ciphertexts,
truncate, or replay frames of other keys (`AttackerItem`).
-/
namespace Canopy.C17
open Canopy Canopy.Transport
open Canopy.Gen.Transport (src_Write src_Read src_checkUnread src_holdUnread src_newInternalState incrementNonce poly1305TagSize)

/-! ## structural facts the hand model relies on (regenerated from /repo on every run) -/

/-- frame geometry as the proofs use it: header 4, plaintext frame = header + data, wire frame = frame + tag,
and every chunk length fits the 32-bit header -/
theorem frame_geometry : frameSize = headerSize + dataMax ∧ encFrameSize = frameSize + poly1305TagSize ∧
    0 < dataMax ∧ dataMax < 2 ^ 32 ∧ headerSize = 4 := by decide

/-- the chunking loop, `Read`, `checkUnread`, `holdUnread` are the ones `chunks` / `Reader.read` were written from -/
theorem src_pinned :
    src_Write = "if c.send.aead == nil { return c.conn.Write(data) }; c.send.Lock(); defer c.send.Unlock(); chunkSize, chunk := 0, []byte(nil); for dataSize := len(data); dataSize > 0; dataSize = len(data) { cipherTextBuffer, plainTextBuffer := pool.Get(crypto.EncryptedFrameSize), pool.Get(crypto.FrameSize); if dataSize < crypto.MaxDataSize { chunk = data; data = nil } else { chunk = data[:crypto.MaxDataSize]; data = data[crypto.MaxDataSize:] }; chunkSize = len(chunk); binary.LittleEndian.PutUint32(plainTextBuffer, uint32(chunkSize)); copy(plainTextBuffer[crypto.LengthHeaderSize:], chunk); c.send.aead.Seal(cipherTextBuffer[:0], c.send.nonce[:], plainTextBuffer, nil); incrementNonce(c.send.nonce); if _, er := c.conn.Write(cipherTextBuffer); er != nil { return 0, ErrFailedWrite(er) }; n += chunkSize; pool.Put(cipherTextBuffer); pool.Put(plainTextBuffer) }; return" ∧
    src_Read = "if c.receive.aead == nil { return c.conn.Read(data) }; c.receive.Lock(); defer c.receive.Unlock(); if bzRead, hadUnread := c.checkUnread(data); hadUnread { return bzRead, nil }; cipherTextBuffer, plainTextBuffer := pool.Get(crypto.EncryptedFrameSize), pool.Get(crypto.FrameSize); defer func(...){pool.Put(plainTextBuffer); pool.Put(cipherTextBuffer)}(); if _, er := io.ReadFull(c.conn, cipherTextBuffer); er != nil { return 0, er }; if _, er := c.receive.aead.Open(plainTextBuffer[:0], c.receive.nonce[:], cipherTextBuffer, nil); er != nil { return n, ErrConnDecryptFailed(er) }; incrementNonce(c.receive.nonce); chunkLength := binary.LittleEndian.Uint32(plainTextBuffer); if chunkLength > crypto.MaxDataSize { return 0, ErrChunkLargerThanMax() }; chunk := plainTextBuffer[crypto.LengthHeaderSize:crypto.LengthHeaderSize + chunkLength]; n = copy(data, chunk); c.holdUnread(n, chunk); return" ∧
    src_checkUnread = "if len(c.receive.unread) > 0 { n := copy(data, c.receive.unread); c.receive.unread = c.receive.unread[n:]; return n, true }; return 0, false" ∧
    src_holdUnread = "if bytesRead < len(chunk) { c.receive.unread = make([]byte, len(chunk) - bytesRead); copy(c.receive.unread, chunk[bytesRead:]) }; return" :=
  ⟨rfl, rfl, rfl, rfl⟩

/-- both ends start their counters at the all-zero nonce -/
theorem src_nonce_start : src_newInternalState = "return aeadState{Mutex: sync.Mutex{}, aead: aead, nonce: new([N]byte)}" := rfl

/-- below 2^64-1 the generated `incrementNonce` is +1, so the nonces of fewer than 2^64-1 frames are pairwise distinct -/
theorem nonces_fresh (n0 : UInt64) (len : Nat) (h : n0.toNat + len ≤ 18446744073709551615) : Fresh n0 len :=
  fresh_of_bound n0 len h

/-- **nonce_never_repeats**: the generated `incrementNonce` is injective on counters below 2^64-1, and
a run of frames that stays below 2^64-1 never uses a nonce twice (strictly increasing counters). This
is the obligation a changed wrap-around guard breaks (e.g. a guard at 2^32-1 makes
`incrementNonce 4294967295 = 1`). -/
theorem nonce_never_repeats :
    (∀ a b : UInt64, a.toNat < 18446744073709551615 → b.toNat < 18446744073709551615 →
      incrementNonce a = incrementNonce b → a = b) ∧
    (∀ (n0 : UInt64) (i j : Nat), n0.toNat + i ≤ 18446744073709551615 → n0.toNat + j ≤ 18446744073709551615 →
      nonceAt n0 i = nonceAt n0 j → i = j) ∧
    (∀ c : UInt64, c.toNat < 18446744073709551615 → (incrementNonce c).toNat = c.toNat + 1) := by
  refine ⟨fun a b ha hb h => ?_, nonceAt_inj, inc_toNat⟩
  have := congrArg UInt64.toNat h
  rw [inc_toNat a ha, inc_toNat b hb] at this
  exact UInt64.toNat_inj.mp (Nat.add_right_cancel this)

/-- the counter passes 2^32-1 and 2^63 like any other value -/
theorem nonce_crosses_inner_boundaries :
    incrementNonce 4294967295 = 4294967296 ∧ incrementNonce 9223372036854775807 = 9223372036854775808 := by decide

/-- observation (outside the statement; the code comments it as "should never happen"): at 2^64-1 the
counter wraps to 1, i.e. the nonce of the second frame would be used again -/
theorem nonce_wrap_reuses : incrementNonce 18446744073709551615 = incrementNonce 0 := by decide

/-! ### a session continues the stream of its handshake

The encrypted part of the handshake (signature frame, meta frame) uses the first nonces of each
direction, and the session goes on with the same AEAD states: its first frame is frame `k` of the
stream, not frame 0. The theorems on streams and on tampering are therefore stated for a direction
that starts after `k` frames (`Dir.afterHandshake`), respectively after the writes `hs` of the
handshake; a direction that starts at the all-zero nonce (`Dir.init`) is the case `k = 0`, `hs = []`.
An on-path attacker who recorded the handshake's frames can splice them into the session: they are
just OLD frames of the same stream, covered like any other replay. -/

/-- GENERATED FACT: `NewHandshake` returns the very `EncryptedConn` whose AEAD states carried the encrypted
handshake messages (one `&EncryptedConn{…}`, two `newInternalState`, bare `return` of the named result),
and there are two such messages per direction. When false, session frame #i would reuse key and nonce
of handshake frame #i; the theorems below then no longer describe the code and the Go oracle
(`C17:handshake-frame-replayed-as-data`) supplies the replay. -/
theorem session_keeps_handshake_state :
    Gen.Transport.sessionKeepsHandshakeState = true ∧ Gen.Transport.handshakeFrames = 2 := by decide

/-- **stream_exact**, from any point of the stream. On an established direction whose AEAD states have
already carried `k` frames, for EVERY interleaving of writes (any sizes, including 0, 1, dataMax-1,
dataMax, dataMax+1, …; any padding bytes left in the pooled buffer) and reads (any buffer sizes,
including 0): no read errs, the bytes the reads return are, concatenated, a prefix of the bytes
written, and they are ALL of them once no frame is in flight and nothing is held back. -/
theorem stream_exact_after_handshake (key k : Nat) (ops : List Op) :
    (∀ r ∈ (run (Dir.afterHandshake key k) ops).1, ∀ e, r ≠ .err e) ∧
    delivered (run (Dir.afterHandshake key k) ops).1 <+: written ops ∧
    ((run (Dir.afterHandshake key k) ops).2.ch.wire = [] → (run (Dir.afterHandshake key k) ops).2.r.unread = [] →
      delivered (run (Dir.afterHandshake key k) ops).1 = written ops) := by
  have h := run_inv (Inv.afterHandshake key k) ops
  simp only [List.nil_append] at h
  exact ⟨h.2, h.1.prefix, h.1.complete⟩

/-- **stream_exact.** The same for a direction that starts at the all-zero nonce, as both ends of a
new `EncryptedConn` do (`src_nonce_start`): `Dir.init key` is `Dir.afterHandshake key 0`. -/
theorem stream_exact (key : Nat) (ops : List Op) :
    (∀ r ∈ (run (Dir.init key) ops).1, ∀ e, r ≠ .err e) ∧
    delivered (run (Dir.init key) ops).1 <+: written ops ∧
    ((run (Dir.init key) ops).2.ch.wire = [] → (run (Dir.init key) ops).2.r.unread = [] →
      delivered (run (Dir.init key) ops).1 = written ops) :=
  stream_exact_after_handshake key 0 ops

/-- … and the stream never starves: after any such history, a read with a non-empty buffer returns at
least one byte, unless everything written has already been delivered (then, and only then, it blocks). -/
theorem stream_live (key : Nat) (ops : List Op) (n : Nat) (hn : 1 ≤ n) :
    (((run (Dir.init key) ops).2.read n).1 = .blocked ∧ delivered (run (Dir.init key) ops).1 = written ops) ∨
    ∃ b, ((run (Dir.init key) ops).2.read n).1 = .data b ∧ b ≠ [] := by
  have h := (run_inv (Inv.init key) ops).1
  simp only [List.nil_append] at h
  exact (h.read n).2.2 hn

/-- frames per write: ⌈len / dataMax⌉ (so an empty write sends nothing) -/
theorem frames_per_write (d : Bytes) : (chunks d).length = (d.length + dataMax - 1) / dataMax := chunks_length d

/-- non-vacuity / geometry of one frame: any chunk of at most `dataMax` bytes with any padding makes a
frame of exactly `frameSize` bytes from which `Read`'s header parsing recovers the chunk -/
example (c junk : Bytes) (h : c.length ≤ dataMax) :
    (mkFrame c junk).length = frameSize ∧ parseFrame (mkFrame c junk) = .ok c :=
  ⟨mkFrame_length junk h, parseFrame_mkFrame junk h⟩

/-- the honest frames of a fresh connection's writes `ds` (each `(padding, data)`) -/
abbrev honest (key : Nat) (ds : List (Bytes × Bytes)) : List Wire := (writeMany ⟨key, 0⟩ ds).2

/-- the plaintext carried by the first `k` honest frames -/
abbrev plainOfFirst (ds : List (Bytes × Bytes)) (k : Nat) : Bytes := ((chunksOf ds).take k).flatten

/-- every schedule of frame-level faults (modify, reorder, duplicate, replay, drop, inject, truncate,
close) applied to honest frames in flight yields a wire of `AttackerItem`s — the hypothesis of the
theorems below is therefore met by every fault sequence -/
theorem faults_are_attacker_wire (key : Nat) (ds : List (Bytes × Bytes)) (fs : List Fault) :
    ∀ w ∈ (applyFaults (honest key ds) ⟨honest key ds, false⟩ fs).wire, AttackerItem key (honest key ds) w :=
  applyFaults_attacker fs (fun _ hw => Or.inl hw)

/-- **tamper_never_misdelivers** (the safety half of tamper_detected, unconditional on the caller), for a
session after its handshake. `hs` are the writes of the encrypted handshake (already consumed by the
reader), `ds` the session's writes; the wire `W` is whatever an intermediary without the key puts
there, and may contain ANY honest frame of the connection, handshake frames included. Under the ideal
AEAD and fewer than 2^64-1 frames, and even if the caller keeps reading after errors, the bytes ever
returned by reads are a prefix of the SESSION's bytes. Nothing else is ever delivered. -/
theorem tamper_never_misdelivers_after_handshake (key : Nat) (hs ds : List (Bytes × Bytes))
    (hlen : (chunksOf (hs ++ ds)).length ≤ 18446744073709551615)
    (W : List Wire) (hW : ∀ w ∈ W, AttackerItem key (honest key (hs ++ ds)) w) (closed : Bool) (ns : List Nat) :
    delivered (readMany ⟨key, nonceAt 0 (chunksOf hs).length, []⟩ ⟨W, closed⟩ ns).1 <+: (ds.map (·.2)).flatten := by
  obtain ⟨hS, hF⟩ := writeMany_fresh key (hs ++ ds) hlen
  have hp := readMany_prefix hS hF (RInv.session key hs ds) ⟨W, closed⟩ hW ns
  rw [chunksOf_append, List.flatten_append, List.prefix_append_right_inj] at hp
  rwa [chunksOf_flatten] at hp

/-- **tamper_never_misdelivers.** The same for a reader at the all-zero nonce and the writes `ds` of a
fresh connection (`hs = []`): whatever the wire holds and whatever the caller does after an error, the
bytes ever returned by reads are a prefix of the bytes written. -/
theorem tamper_never_misdelivers (key : Nat) (ds : List (Bytes × Bytes))
    (hlen : (chunksOf ds).length ≤ 18446744073709551615)
    (W : List Wire) (hW : ∀ w ∈ W, AttackerItem key (honest key ds) w) (closed : Bool) (ns : List Nat) :
    delivered (readMany ⟨key, 0, []⟩ ⟨W, closed⟩ ns).1 <+: (ds.map (·.2)).flatten :=
  tamper_never_misdelivers_after_handshake key [] ds hlen W hW closed ns

/-- **tamper_detected (exactness).** Let `k` be the length of the longest prefix of the wire that is
the unmodified, in-order honest frame sequence. A caller that stops at the first error (as `MultiConn`
and the handshake do) receives, for every choice of buffer sizes,
(1) only bytes of the plaintext of those `k` frames, in order;
(2) an error only after ALL of that plaintext has been delivered — never instead of intact data;
(3) never a wait at the point of deviation: if the wire continues after the intact prefix, the read
    that reaches it returns an error (it cannot block, and by (1) it cannot return data);
(4) with non-empty buffers, enough reads do reach that error. -/
theorem tamper_detected (key : Nat) (ds : List (Bytes × Bytes))
    (hlen : (chunksOf ds).length ≤ 18446744073709551615)
    (W : List Wire) (hW : ∀ w ∈ W, AttackerItem key (honest key ds) w) (closed : Bool) (ns : List Nat) :
    let k := lcp W (honest key ds)
    let out := (readUntilErr ⟨key, 0, []⟩ ⟨W, closed⟩ ns).1
    delivered out <+: plainOfFirst ds k ∧
    (∀ e, .err e ∈ out → delivered out = plainOfFirst ds k) ∧
    (k < W.length → .blocked ∉ out) ∧
    (k < W.length → (∀ n ∈ ns, 1 ≤ n) → (plainOfFirst ds k).length < ns.length → ∃ e, .err e ∈ out) := by
  intro k out
  obtain ⟨hS, hF⟩ := writeMany_fresh key ds hlen
  have hR : RInv key 0 (chunksOf ds) 0 ⟨key, 0, []⟩ [] := RInv.session key [] ds
  have spec := readUntilErr_spec hS hF ns hR ⟨W, closed⟩ hW (K := k) (Nat.zero_add _)
  simpa only [List.nil_append, List.length_nil, Nat.zero_add] using spec

/-- how `k` is read off in `tamper_detected`: with the second of three frames turned into a non-ciphertext,
the intact prefix is exactly one frame long (that such a wire meets the hypotheses is `faults_are_attacker_wire`) -/
example : lcp [Wire.sealed 7 0 [1], .garbage 0, .sealed 7 2 [3]] [Wire.sealed 7 0 [1], .sealed 7 1 [2], .sealed 7 2 [3]] = 1 := by
  decide

/-- **tamper_detected**, session after handshake: with `k` the length of the longest prefix of the wire
that is the session's own unmodified in-order frame sequence, a caller that stops at the first error
receives only the plaintext of those `k` session frames, an error only after all of it, and never a
wait at the deviation — in particular a recorded handshake frame at ANY session position is an error. -/
theorem tamper_detected_after_handshake (key : Nat) (hs ds : List (Bytes × Bytes))
    (hlen : (chunksOf (hs ++ ds)).length ≤ 18446744073709551615)
    (W : List Wire) (hW : ∀ w ∈ W, AttackerItem key (honest key (hs ++ ds)) w) (closed : Bool) (ns : List Nat) :
    let k0 := (chunksOf hs).length
    let k := lcp W ((honest key (hs ++ ds)).drop k0)
    let out := (readUntilErr ⟨key, nonceAt 0 k0, []⟩ ⟨W, closed⟩ ns).1
    delivered out <+: plainOfFirst ds k ∧
    (∀ e, .err e ∈ out → delivered out = plainOfFirst ds k) ∧
    (k < W.length → .blocked ∉ out) := by
  intro k0 k out
  obtain ⟨hS, hF⟩ := writeMany_fresh key (hs ++ ds) hlen
  obtain ⟨h1, h2, h3, -⟩ := readUntilErr_spec hS hF ns (RInv.session key hs ds) ⟨W, closed⟩ hW (K := k0 + k) rfl
  -- the first `k0 + k` frames of the connection: the handshake's, then the first `k` of the session
  rw [chunksOf_append, List.take_length_add_append, List.flatten_append] at h1 h2
  exact ⟨(List.prefix_append_right_inj _).mp h1, fun e he => List.append_cancel_left (h2 e he),
    fun h => h3 (Nat.add_lt_add_left h k0)⟩

/-! # Part 2 — the handshake in the symbolic (Dolev-Yao) model

Model: `Model/Handshake.lean`. The cryptographic assumptions are the shape of the term algebra and of
the attacker's deduction rules `DY` (symbolic DH, one-way injective KDF, unforgeable signatures, ideal
AEAD); the protocol assumptions are the two proof fields of `World` (honest ephemeral keys are secret
and fresh). No axioms.
-/
section Handshake
open Canopy.Handshake Canopy.Handshake.Term

/-- the source facts `Party.finish` / `sendKey` / `recvKey` / `chal` were written from: which end takes
which HKDF half, the HKDF input (the DH secret ONLY — no identity, no role, no transcript), and the
statement sequence of `NewHandshake` (without the reflection guard, reported separately below) -/
theorem handshake_src_pinned :
    Gen.Transport.src_keyAssign = "if bytes.Compare(ePub, ePeerPub) < 0 { getTwoSecretsFromBuffer(buffer, receiveSecret, sendSecret) } else { getTwoSecretsFromBuffer(buffer, sendSecret, receiveSecret) }" ∧
    Gen.Transport.src_hkdfCall = "hkdf.New(Hasher, dhSecret, nil, nil)" ∧
    Gen.Transport.src_NewHandshake_core = "tempPrivateKey, _ := crypto.NewEd25519PrivateKey(); tempPublicKey := tempPrivateKey.PublicKey().Bytes(); encryptedConn = &EncryptedConn{conn: conn}; peerTempPublicKey, e := keySwap(encryptedConn, tempPublicKey, handshakeTimeout); if e != nil { return }; if crypto.PubIsBlacklisted(peerTempPublicKey) { return nil, ErrIsBlacklisted() }; secret, err := crypto.SharedSecret(peerTempPublicKey, tempPrivateKey.Bytes()); if err != nil { return nil, ErrFailedDiffieHellman(err) }; sendAEAD, receiveAEAD, challenge, err := crypto.HKDFSecretsAndChallenge(secret, tempPublicKey, peerTempPublicKey); if err != nil { return nil, ErrFailedHKDF(err) }; encryptedConn.receive = newInternalState(receiveAEAD); encryptedConn.send = newInternalState(sendAEAD); peerSig, err := signatureSwap(encryptedConn, &lib.Signature{PublicKey: privateKey.PublicKey().Bytes(), Signature: privateKey.Sign(challenge[:])}, handshakeTimeout); if err != nil { return nil, ErrFailedSignatureSwap(err) }; peerPublicKey, err := crypto.NewPublicKeyFromBytes(peerSig.PublicKey); if err != nil { return nil, ErrInvalidPublicKey(err) }; if !peerPublicKey.VerifyBytes(challenge[:], peerSig.Signature) { return nil, ErrFailedChallenge() }; peerMeta, err := peerMetaSwap(encryptedConn, meta.Copy().Sign(privateKey), handshakeTimeout); if err != nil { return nil, ErrFailedMetaSwap(err) }; if !peerPublicKey.VerifyBytes(peerMeta.SignBytes(), peerMeta.Signature) { return nil, ErrFailedChallenge() }; if peerMeta.NetworkId != meta.NetworkId { return nil, ErrIncompatiblePeer() }; if peerMeta.ChainId != meta.ChainId { return nil, ErrIncompatiblePeer() }; encryptedConn.Address = &lib.PeerAddress{PublicKey: peerSig.PublicKey, NetAddress: conn.RemoteAddr().String(), PeerMeta: peerMeta}; return" :=
  ⟨rfl, rfl, rfl⟩

/-- GENERATED FACT the full-strength theorems rest on: `NewHandshake` refuses a peer whose presented
identity key is our own. It is recomputed from `p2p/encrypt.go` on every run; when it is false, this
theorem and `auth` / `no_mitm` no longer check and `reflection_witness` is the failing input. -/
theorem rejects_own_key : Gen.Transport.rejectsOwnKey = true := by decide

/-- the signature cache consulted by the challenge check: its key is the full triple
public key ‖ message ‖ signature (the message offset IS advanced before the signature is copied), and
`CheckCache` looks up and stores exactly that key (same source as pinned under C05) -/
theorem sigcache_key_source :
    Gen.Transport.src_sigCacheKey = "pk := bt.PublicKey.Bytes(); totalLen := len(pk) + len(bt.Message) + len(bt.Signature); b, offset := make([]byte, totalLen), 0; copy(b[offset:], pk); offset += len(pk); copy(b[offset:], bt.Message); offset += len(bt.Message); copy(b[offset:], bt.Signature); return string(b)" ∧
    Gen.Transport.src_checkCache = "if DisableCache { return false, func(...){} }; cacheTuple := BatchTuple{PublicKey: pk, Message: msg, Signature: sig}; key := cacheTuple.Key(); addToCache = func(...){SignatureCache.Set(key, []byte{0})}; _, notFoundErr := SignatureCache.Get(key); found = notFoundErr == nil; return" :=
  ⟨rfl, rfl⟩

/-- within one signature scheme (fixed key and signature lengths) the cache key determines the triple -/
theorem sigcache_key_injective (pk pk' m m' sg sg' : Bytes) (hp : pk.length = pk'.length) (hs : sg.length = sg'.length)
    (h : cacheKey pk m sg = cacheKey pk' m' sg') : pk = pk' ∧ m = m' ∧ sg = sg' :=
  append3_inj h hp hs

/-- **sigcache_hit_sound**: a cache hit means this very (key, message, signature) triple was verified
before — a genuine signature over ANOTHER message (a VRF seed, another session's challenge) that the
node has verified earlier cannot make the challenge check of this session succeed. This is what makes the
exact-match verification of `Party.finish`, and with it `auth`, a description of the code with a warm cache. -/
theorem sigcache_hit_sound (remembered : List (Bytes × Bytes × Bytes)) (pk m sg : Bytes) (lp ls : Nat)
    (hrem : ∀ t ∈ remembered, t.1.length = lp ∧ t.2.2.length = ls) (hp : pk.length = lp) (hs : sg.length = ls)
    (h : cacheHit remembered pk m sg = true) : (pk, m, sg) ∈ remembered :=
  mem_of_contains_append3 hrem hp hs h

/-- non-vacuity, and what a key that drops the message would break: same key, same signature, other 4-byte message -/
example : cacheHit [([1, 2], [7, 7, 7, 8], [5, 5, 5, 5, 5])] [1, 2] [7, 7, 7, 8] [5, 5, 5, 5, 5] = true ∧
    cacheHit [([1, 2], [7, 7, 7, 8], [5, 5, 5, 5, 5])] [1, 2] [9, 9, 9, 9] [5, 5, 5, 5, 5] = false := by decide +kernel

/-- a successful handshake always records the public key of some scalar -/
theorem accepted_is_public_key {ro : Bool} {p : Party} {x : Nat} {f1 f2 t : Term}
    (h : p.finish ro (pk (atom x)) f1 f2 = .ok t) : ∃ j, t = pk (atom j) := by
  obtain ⟨j, hj, _⟩ := finish_ok h
  exact ⟨j, hj⟩

/-- **auth.** In any world of honest runs (any number, with whatever inputs the attacker fed them),
if an honest run `sA` completes the handshake of the code as it is (`rejectsOwnKey` as generated) on
frames a Dolev-Yao attacker can deliver, recording identity `j`, and `j`'s private key is not
compromised, then `j` itself ran the matching handshake: with the ephemeral key `sA` received, having
received `sA`'s ephemeral key (hence the same shared secret), on the same network and chain. -/
theorem auth (W : World) (sA : Session) (hA : sA ∈ W.sessions) {f1 f2 : Term}
    (h1 : DY W f1) (h2 : DY W f2) {j : Nat}
    (hacc : sA.party.finish Gen.Transport.rejectsOwnKey (pk (atom sA.peer)) f1 f2 = .ok (pk (atom j)))
    (hsec : W.sec j) :
    ∃ s ∈ W.sessions, s.party.id = j ∧ s.party.eph = sA.peer ∧ s.peer = sA.party.eph ∧
      s.party.net = sA.party.net ∧ s.party.chain = sA.party.chain := by
  -- the exact-match signature check of `Party.finish` describes `VerifyBytes` behind its cache (`sigcache_hit_sound`)
  have _cache := sigcache_key_source
  rcases auth_core W _ sA hA h1 h2 hacc hsec with h | ⟨hro, _, _⟩
  · exact h
  · rw [rejects_own_key] at hro; exact absurd hro (by decide)

/-- **no_mitm.** If the ephemeral key an honest run received was substituted by the intermediary
(its scalar is known to the attacker), the run accepts NO uncompromised identity: a key-substituting
intermediary shares a different secret with each side, the challenge binds the identity signature to
that secret, so it can only ever appear as itself (or as someone whose key it stole). -/
theorem no_mitm (W : World) (sA : Session) (hA : sA ∈ W.sessions) {f1 f2 : Term}
    (h1 : DY W f1) (h2 : DY W f2) {j : Nat}
    (hacc : sA.party.finish Gen.Transport.rejectsOwnKey (pk (atom sA.peer)) f1 f2 = .ok (pk (atom j)))
    (hsub : ¬ W.sec sA.peer) : ¬ W.sec j := by
  intro hsec
  obtain ⟨s, hs, _, he, _⟩ := auth W sA hA h1 h2 hacc hsec
  exact hsub (he ▸ W.ephSecret s hs)

/-- **auth_partial** (holds for the code with or without the reflection guard): the same conclusion
for every accepted identity OTHER than the run's own. -/
theorem auth_partial (W : World) (ro : Bool) (sA : Session) (hA : sA ∈ W.sessions) {f1 f2 : Term}
    (h1 : DY W f1) (h2 : DY W f2) {j : Nat}
    (hacc : sA.party.finish ro (pk (atom sA.peer)) f1 f2 = .ok (pk (atom j)))
    (hsec : W.sec j) (hne : j ≠ sA.party.id) :
    ∃ s ∈ W.sessions, s.party.id = j ∧ s.party.eph = sA.peer ∧ s.peer = sA.party.eph ∧
      s.party.net = sA.party.net ∧ s.party.chain = sA.party.chain := by
  rcases auth_core W ro sA hA h1 h2 hacc hsec with h | ⟨_, hj, _⟩
  · exact h
  · exact absurd hj hne

/-- one honest run of node 1 (ephemeral scalar 11) that received the ATTACKER's ephemeral key (scalar 13);
secret: node 1's identity key and its ephemeral key; nothing else exists -/
def reflWorld : World where
  sessions := [⟨⟨1, 11, 1, 1⟩, 13⟩]
  sec := fun n => n = 1 ∨ n = 11
  ephSecret := by simp
  ephFresh := by simp

/-- **reflection_witness.** Without the guard (`rejectOwn = false`), an attacker holding NO identity
key makes node 1 complete the handshake recording its OWN, uncompromised identity, although no run
in the world used the ephemeral key node 1 received. With the guard the same frames are refused.
(Replayed on the real `NewHandshake` by the Go oracle, case `hs-reflect`.) -/
theorem reflection_witness :
    ∃ f1 f2, DY reflWorld f1 ∧ DY reflWorld f2 ∧
      (⟨1, 11, 1, 1⟩ : Party).finish false (pk (atom 13)) f1 f2 = .ok (pk (atom 1)) ∧
      reflWorld.sec 1 ∧ (¬ ∃ s ∈ reflWorld.sessions, s.party.eph = 13) ∧
      (⟨1, 11, 1, 1⟩ : Party).finish true (pk (atom 13)) f1 f2 = .error .ownKey := by
  let p : Party := ⟨1, 11, 1, 1⟩
  have hm : DY reflWorld (atom 13) := .atom (by simp [reflWorld])
  have hd : DY reflWorld (mkDh 11 13) := DY.dh 11 hm
  have hks : DY reflWorld (sendKey 11 13) := DY.kdf 1 hd
  have hkr : DY reflWorld (recvKey 11 13) := DY.kdf 0 hd
  have o2 : DY reflWorld (p.msg2 13) := .out ⟨⟨p, 13⟩, .head _, .inl rfl⟩
  have o3 : DY reflWorld (p.msg3 13) := .out ⟨⟨p, 13⟩, .head _, .inr rfl⟩
  refine ⟨enc (recvKey 11 13) 0 (pair (pk (atom 1)) (sig (atom 1) (chal (mkDh 11 13)))),
          enc (recvKey 11 13) 1 (pair (pmeta 1 1) (sig (atom 1) (pmeta 1 1))),
          .enc 0 hkr (.dec o2 hks), .enc 1 hkr (.dec o3 hks), by rfl, .inl rfl, by simp [reflWorld], by rfl⟩

/-- two honest nodes 1 and 2 (ephemeral scalars 11 and 12), each having received the other's ephemeral
key; all four scalars are secret -/
def relayWorld : World where
  sessions := [⟨⟨1, 11, 1, 1⟩, 12⟩, ⟨⟨2, 12, 1, 1⟩, 11⟩]
  sec := fun n => n = 1 ∨ n = 2 ∨ n = 11 ∨ n = 12
  ephSecret := by simp
  ephFresh := by simp

/-- non-vacuity of `auth`: with a transparent relay the hypotheses hold (the attacker delivers node 2's
frames to node 1), node 1 accepts node 2, and the matching run is node 2's -/
example : DY relayWorld ((⟨2, 12, 1, 1⟩ : Party).msg2 11) ∧ DY relayWorld ((⟨2, 12, 1, 1⟩ : Party).msg3 11) ∧
    ∀ ro, (⟨1, 11, 1, 1⟩ : Party).finish ro (pk (atom 12)) ((⟨2, 12, 1, 1⟩ : Party).msg2 11) ((⟨2, 12, 1, 1⟩ : Party).msg3 11)
      = .ok (pk (atom 2)) :=
  ⟨.out ⟨⟨⟨2, 12, 1, 1⟩, 11⟩, .tail _ (.head _), .inl rfl⟩, .out ⟨⟨⟨2, 12, 1, 1⟩, 11⟩, .tail _ (.head _), .inr rfl⟩,
   fun ro => by cases ro <;> rfl⟩

/-- a different network or chain is refused even from the genuine peer -/
example : (⟨1, 11, 1, 1⟩ : Party).finish true (pk (atom 12)) ((⟨2, 12, 2, 1⟩ : Party).msg2 11) ((⟨2, 12, 2, 1⟩ : Party).msg3 11)
    = .error .incompatible := by rfl

end Handshake

end Canopy.C17
