import Canopy.Proof.BftSafety
import Canopy.Proof.BftExec
import Canopy.Proof.Guards
import Canopy.Proof.Committee
import Canopy.Model.BftGen
/-!
# C01 — BFT agreement

*Statement.* At one height, every two commit certificates (PRECOMMIT_VOTE quorums) that can be assembled from
the votes ever signed carry the same `(blockHash, resultsHash)` — hence all correct validators that commit,
commit the same block and certificate results — for every committee, every stake distribution, every
Byzantine subset with `3 * power(B) < T`, every history length, every delivery order / loss / duplication /
delay (a certificate is *any* subset of the signed votes that reaches `2T/3+1`), every timeout interleaving
and every NEW_COMMITTEE reset (they only move a replica to a higher view), and any behaviour of the
Byzantine validators (arbitrary entries under their names, they aggregate and schedule).

*What the theorem is about.* The history model `Canopy.Bft` (Model/Bft.lean), instantiated by `genCfg` with the
decision functions **regenerated from `/repo` on every run** (`Canopy.Gen.Bft`):

| model parameter | generated from | obligation proved here |
|---|---|---|
| `unlock`    | the condition of `SafeNode`'s LIVENESS branch, `View.Less` | `safeNodeUnlock_iff` (`safeNodeUnlock_monotone`) ⇒ `genUnlock_iff` |
| `adoptOk`   | `handleHighQCVDFAndEvidence`'s HighQC replacement test      | `adoptHigher_iff` (`adoptHigher_monotone`) ⇒ `genAdoptOk_iff` |
| `certBound` | `CheckProposerMessage` header checks + PRECOMMIT/COMMIT branch (`justifiesLeaderPhase`) | `leaderMsgHeaderRejected_eq_false_iff`, `leaderMsgChecks_eq_none_iff` (`leaderMsg_binds_view`) ⇒ `genCertBound_iff` |
| `maj`       | `NewValidatorSet`'s `MinimumMaj23` expression (uint64)        | `minimumMaj23_eq` |

A weakening of any of these in the source changes the generated term and breaks exactly the corresponding
obligation: reverting ea0b5df (round-only comparison) breaks `safeNodeUnlock_monotone`; reverting 9c7b0f6
(certificate not bound to the view) breaks `leaderMsg_binds_view`. What each of the two old behaviours
allowed is kept as a `decide`-checked counterexample: `agreement_fails_roundOnly`, `agreement_fails_staleLock`.

*Modelled, not verified* (also listed in `checks/C01.py`):
* signatures are symbolic: only the holder of a key adds a vote under its name; an aggregate certificate
  for a payload exists iff the signed votes for that payload reach the threshold (BLS/BDN not verified);
* hashes are injective (`blockHash`/`resultsHash` are compared as abstract ids);
* an honest replica casts its votes in non-decreasing views, and at most one PROPOSE_VOTE and one
  PRECOMMIT_VOTE per view (guards `viewsUpTo`, one-vote). In the code a round change raises the round and a
  NEW_COMMITTEE reset restarts the round at 0, so this holds iff **a reset strictly raises the root
  height** (F11: `UpdateRootChainInfo` does not enforce it; a reset to the same root height makes honest
  replicas sign twice in one view — the simulator counts that schedule class separately);
* block validity (`ValidateProposal`) is an oracle; the controller's finality gate (C02) is mirrored by
  the simulator with the repository's own certificate checks;
* election, pacemaker and timers are not modelled (they only decide *when* views advance and who
  aggregates; the leader is adversarial in the model);
* the committee is the same at every root height of the height under consideration ("committee-preserving").

The correspondence run (`harness/c01`, `Driver/C01.lean`) checks on real `bft.BFT` replicas that every vote an
honest replica signs satisfies the model's guards and that the generated decisions agree with what the code did.
-/
namespace Canopy.C01
open Canopy.Bft Canopy.Gen.Bft Canopy.Lex

/-- `View.Less` on non-nil views is the lexicographic order on (Height, RootHeight, Round, Phase) -/
theorem viewLess_iff (x v : Gen.Bft.View) :
    View.Less (some x) (some v) = true ↔
      x.Height < v.Height ∨ (x.Height = v.Height ∧ (x.RootHeight < v.RootHeight ∨ (x.RootHeight = v.RootHeight ∧
        (x.Round < v.Round ∨ (x.Round = v.Round ∧ x.Phase < v.Phase))))) := by
  simp only [View.Less, decide_eq_true_eq, gt_iff_lt, nat.lexStep (· = true) rfl Bool.false_ne_true, Bool.if_false_right,
    Bool.and_true]

theorem viewLess_nil_right (x : Option Gen.Bft.View) : View.Less x none = false := by
  cases x <;> rfl
theorem viewLess_nil_left (v : Gen.Bft.View) : View.Less none (some v) = true := rfl

theorem viewLess_irrefl (x : Gen.Bft.View) : View.Less (some x) (some x) = false :=
  Bool.eq_false_iff.mpr fun h => by
    simp only [viewLess_iff, Nat.lt_irrefl, false_or, and_false] at h

theorem viewLess_trans (x y z : Gen.Bft.View) (h1 : View.Less (some x) (some y) = true)
    (h2 : View.Less (some y) (some z) = true) : View.Less (some x) (some z) = true := by
  rw [viewLess_iff] at *
  exact nat.lex_trans (nat.lex_trans (nat.lex_trans Nat.lt_trans)) h1 h2

theorem viewLess_total (x v : Gen.Bft.View) :
    View.Less (some x) (some v) = true ∨ View.Less (some v) (some x) = true ∨
      (x.Height = v.Height ∧ x.RootHeight = v.RootHeight ∧ x.Round = v.Round ∧ x.Phase = v.Phase) := by
  rw [viewLess_iff, viewLess_iff]
  exact nat.lex_tri (nat.lex_tri (nat.lex_tri ((Nat.lt_trichotomy _ _).imp_right Or.symm)))

theorem viewEquals_iff (x v : Gen.Bft.View) : View.Equals (some x) (some v) = true ↔ x = v := by
  cases x; cases v
  simp only [View.Equals, Bool.if_false_left, Bool.and_true, Bool.and_eq_true, Bool.not_eq_true', decide_eq_false_iff_not,
    decide_eq_true_eq, ne_eq, Decidable.not_not, Gen.Bft.View.mk.injEq, and_left_comm]

theorem viewEquals_nil (x : Option Gen.Bft.View) : View.Equals x none = false ∧ View.Equals none x = false := by
  cases x <;> exact ⟨rfl, rfl⟩

/-- Between two certificates of the same height and phase (what `CheckHighQC` and `CheckProposerMessage` guarantee, see
    `checkHighQCPost_ok`, `leaderMsg_binds_view`), `SafeNode`'s LIVENESS comparison is the order of the views —
    (root height, round), lexicographic. -/
theorem safeNodeUnlock_iff (lock msgHigh : Gen.Bft.View)
    (hh : lock.Height = msgHigh.Height) (hp : lock.Phase = msgHigh.Phase) :
    safeNodeUnlock lock msgHigh = true ↔
      lock.RootHeight < msgHigh.RootHeight ∨ (lock.RootHeight = msgHigh.RootHeight ∧ lock.Round < msgHigh.Round) := by
  -- at equal heights and phases only the two middle levels of the order are left
  simp only [safeNodeUnlock, viewLess_iff, hh, hp, Nat.lt_irrefl, false_or, true_and, and_false, or_false]

/-- **The unlock obligation.** `SafeNode`'s LIVENESS branch fires only if the justification is from a strictly later view. -/
theorem safeNodeUnlock_monotone (lock msgHigh : Gen.Bft.View)
    (hh : lock.Height = msgHigh.Height) (hp : lock.Phase = msgHigh.Phase)
    (h : safeNodeUnlock lock msgHigh = true) :
    lock.RootHeight < msgHigh.RootHeight ∨ (lock.RootHeight = msgHigh.RootHeight ∧ lock.Round < msgHigh.Round) :=
  (safeNodeUnlock_iff lock msgHigh hh hp).mp h

/-- `SafeNode` accepts exactly when the proposal is justified by a certificate for the proposed block and
    results, and that certificate is for the locked block and results (SAFETY) or passes the unlock comparison (LIVENESS) -/
theorem safeNode_accepts_iff (s : SafeNodeIn) :
    safeNode s = none ↔
      s.hasMsg = true ∧ s.hasQc = true ∧ s.hasHighQc = true ∧
      s.proposalBlockHash = s.highBlockHash ∧ s.proposalResultsHash = s.highResultsHash ∧
      ((s.lockBlockHash = s.highBlockHash ∧ s.lockResultsHash = s.highResultsHash) ∨
        safeNodeUnlock s.lock s.msgHigh = true) := by
  simp only [safeNode, safeNodeUnlock, ite_some_eq_none, ite_none_eq_none, Bool.or_eq_true, Bool.and_eq_true,
    Bool.not_eq_true', decide_eq_true_eq, decide_eq_false_iff_not, not_or, Bool.not_eq_false, Decidable.not_not,
    reduceCtorEq, or_false, and_assoc]

/-- the error cases of `SafeNode` before the lock is consulted, in the order the code checks them -/
theorem safeNode_errors (s : SafeNodeIn) :
    (safeNode s = some "ErrNoSafeNodeJustification" ↔ ¬ (s.hasMsg = true ∧ s.hasQc = true ∧ s.hasHighQc = true)) ∧
    (safeNode s = some "ErrMismatchedProposals" ↔ (s.hasMsg = true ∧ s.hasQc = true ∧ s.hasHighQc = true) ∧
        ¬ (s.proposalBlockHash = s.highBlockHash ∧ s.proposalResultsHash = s.highResultsHash)) := by
  -- every `if` of the chain: taken and returning this error, or passed and the rest returns it; the errors are distinct strings
  simp only [safeNode, ite_eq_iff, Option.some.injEq, String.reduceEq, reduceCtorEq, and_false, and_true, or_false, false_or,
    Bool.or_eq_true, Bool.not_eq_true', Bool.not_eq_true, decide_eq_false_iff_not, not_or, Bool.not_eq_false,
    Decidable.not_and_iff_not_or_not, or_assoc, and_assoc]

/-- `SafeNode` is consulted exactly when the replica is locked -/
theorem safeNode_called_iff_locked :
    src_StartProposeVotePhase_safeNodeCall =
      "if b.HighQC != nil { if err := b.SafeNode(msg); err != nil { b.RoundInterrupt(); return } }" := rfl

/-- a held lock is replaced exactly by a certificate that `View.Less` puts strictly above it: between certificates of the
    same height and phase, one of a later view -/
theorem adoptHigher_iff (lock new voteHdr : Gen.Bft.View) (hh : lock.Height = new.Height) (hp : lock.Phase = new.Phase) :
    adoptHigher true lock new voteHdr = true ↔
      lock.RootHeight < new.RootHeight ∨ (lock.RootHeight = new.RootHeight ∧ lock.Round < new.Round) :=
  safeNodeUnlock_iff lock new hh hp

/-- a lock is only replaced by a certificate that `View.Less` puts strictly above it -/
theorem adoptHigher_monotone (lock new voteHdr : Gen.Bft.View)
    (hh : lock.Height = new.Height) (hp : lock.Phase = new.Phase) (h : adoptHigher true lock new voteHdr = true) :
    lock.RootHeight < new.RootHeight ∨ (lock.RootHeight = new.RootHeight ∧ lock.Round < new.Round) :=
  (adoptHigher_iff lock new voteHdr hh hp).mp h

/-- a replica without a lock adopts whatever certificate it is shown -/
theorem adoptHigher_unlocked (lock new voteHdr : Gen.Bft.View) : adoptHigher false lock new voteHdr = true := rfl

theorem adopt_assigns_lock :
    src_adoptHigher_body = "b.HighQC = vote.HighQc; b.RCBuildHeight = vote.RcBuildHeight" := rfl

theorem checkHighQCPost_eq_none_iff (isPartial : Bool) (x view : Gen.Bft.View) (l : Nat) :
    checkHighQCPost isPartial x view l = none ↔
      isPartial = false ∧ l ≤ x.RootHeight ∧ x.Height = view.Height ∧ x.Phase = phase_PROPOSE_VOTE := by
  simp only [checkHighQCPost, ite_some_eq_none, decide_eq_true_eq, Bool.not_eq_true, gt_iff_lt, Nat.not_lt, ne_eq,
    Decidable.not_not, and_true]

/-- what `CheckHighQC` guarantees about an accepted justification: +2/3, same height, phase PROPOSE_VOTE -/
theorem checkHighQCPost_ok (isPartial : Bool) (x view : Gen.Bft.View) (l : Nat)
    (h : checkHighQCPost isPartial x view l = none) :
    isPartial = false ∧ l ≤ x.RootHeight ∧ x.Height = view.Height ∧ x.Phase = phase_PROPOSE_VOTE :=
  (checkHighQCPost_eq_none_iff isPartial x view l).mp h

/-- the PRECOMMIT/COMMIT branch of `CheckProposerMessage` accepts exactly the certificate of the message's own height
    and round and of the vote phase before the message's, sent by the followed leader, for the block and results held -/
theorem leaderMsgChecks_eq_none_iff (qc hdr : Gen.Bft.View) (sender proposer : Nat) (saved : Bool) (a b c d : Nat) :
    leaderMsgChecks qc hdr sender proposer saved a b c d = none ↔
      (qc.Height = hdr.Height ∧ qc.Round = hdr.Round ∧ qc.Phase + 1 = hdr.Phase) ∧
        sender = proposer ∧ saved = true ∧ a = c ∧ b = d := by
  simp only [leaderMsgChecks, justifiesLeaderPhase, ite_some_eq_none, Bool.not_eq_true', Bool.not_eq_false, Bool.or_self,
    Bool.and_eq_true, decide_eq_true_eq, and_true, and_assoc]

theorem leaderMsgHeaderRejected_eq_false_iff (qc hdr : Gen.Bft.View) (root height chu : Nat) :
    leaderMsgHeaderRejected qc hdr root height chu = false ↔
      qc.RootHeight = root ∧ hdr.Height = height ∧ chu ≤ qc.Height := by
  simp only [leaderMsgHeaderRejected, leaderMsgWrongRoot, leaderMsgWrongHeight, leaderMsgQcTooOld, Bool.or_eq_false_iff,
    decide_eq_false_iff_not, ne_eq, Decidable.not_not, Nat.not_lt, and_assoc]

/-- **The lock-view obligation.** A non-partial PRECOMMIT/COMMIT leader message that passes `CheckProposerMessage`
    carries the certificate of the replica's root height, of the message's own height and round, and of the
    vote phase right before the message's phase, for the block and results the replica holds. -/
theorem leaderMsg_binds_view (qc hdr : Gen.Bft.View) (root height chu : Nat) (sender proposer : Nat) (saved : Bool)
    (a b c d : Nat)
    (h1 : leaderMsgHeaderRejected qc hdr root height chu = false)
    (h2 : leaderMsgChecks qc hdr sender proposer saved a b c d = none) :
    qc.RootHeight = root ∧ hdr.Height = height ∧ qc.Height = hdr.Height ∧ qc.Round = hdr.Round ∧
      qc.Phase + 1 = hdr.Phase ∧ sender = proposer ∧ saved = true ∧ a = c ∧ b = d := by
  obtain ⟨hroot, hheight, _⟩ := (leaderMsgHeaderRejected_eq_false_iff ..).mp h1
  obtain ⟨⟨hh, hround, hphase⟩, rest⟩ := (leaderMsgChecks_eq_none_iff ..).mp h2
  exact ⟨hroot, hheight, hh, hround, hphase, rest⟩

/-- the view-binding check comes before the hash comparisons in the PRECOMMIT/COMMIT branch -/
theorem bind_precedes_hashes : 0 ≤ leaderBranch_bindIndex ∧ leaderBranch_bindIndex < leaderBranch_hashIndex := by decide

/-- a PRECOMMIT/COMMIT message is accepted only from the leader the replica follows in the round (e2ecd83): the check
    is there, before the hash comparisons, and `validateMessageParams.proposerKey` is the replica's `ProposerKey` -/
theorem sender_check_present :
    0 ≤ leaderBranch_senderIndex ∧ leaderBranch_senderIndex < leaderBranch_hashIndex ∧
      src_validateMessageParams_proposerKey = true := by decide

/-- the certificate of the accepted PRECOMMIT message, fetched by (round, phase), becomes the lock -/
theorem lock_is_message_certificate :
    src_StartPrecommitVotePhase_lock =
      ["msg := b.GetProposal()", "if interrupt := b.CheckProposerAndProposal(msg); interrupt { b.RoundInterrupt(); return }",
       "b.HighQC = msg.Qc", "b.HighQC.Block = b.Block", "b.HighQC.Results = b.Results"] ∧
    src_GetProposal = "return b.getProposal(b.Round, b.Phase)" ∧
    src_getProposal = "proposal, found := b.Proposals[round][phaseToString(phase - 1)]; if !found { return nil }; return proposal[0]" :=
  ⟨rfl, rfl, rfl⟩

/-- `MinimumMaj23` as computed in uint64 equals `2T/3+1` whenever `2*T` does not wrap (F6: hypothesis, not enforced by the code) -/
theorem minimumMaj23_eq (T : Nat) (h : 2 * T < 2 ^ 64) :
    (minimumMaj23 (UInt64.ofNat T)).toNat = 2 * T / 3 + 1 := by
  have hT : (UInt64.ofNat T).toNat = T :=
    (UInt64.toNat_ofNat' ..).trans (Nat.mod_eq_of_lt (Nat.lt_of_le_of_lt (Nat.le_mul_of_pos_left T (by decide)) h))
  -- the same expression of `NewValidatorSet` as C13's `Gen.Committee.minPowerFor23Maj`
  have := Committee.minPowerFor23Maj_toNat (UInt64.ofNat T) (hT.symm ▸ h)
  rwa [hT] at this

/-- the bound is necessary as stated: `2*T` wraps at `T = 2^63` and the threshold comes out as 1 -/
theorem minimumMaj23_wraps : (minimumMaj23 (UInt64.ofNat (2 ^ 63))).toNat = 1 := by decide

theorem hasMaj23_iff (voted m : UInt64) : hasMaj23 voted m = true ↔ m.toNat ≤ voted.toNat := by
  unfold hasMaj23; simp [UInt64.le_iff_toNat_le]

/-- the replica-side test (`AggregateSignature.Check`) is the complement of the leader-side one (`GetMajorityVote`), against the
    same `MinimumMaj23` — whatever the total power -/
theorem isPartialQC_iff (voted m t : UInt64) : isPartialQC voted m t = !(hasMaj23 voted m) := by
  unfold isPartialQC hasMaj23
  by_cases h : voted < m
  · simp [h, UInt64.not_le]
  · simp [h, UInt64.not_lt.mp h]

/-- the model's `unlock` over the generated comparison is the view order -/
theorem genUnlock_iff (w y : Bft.View) : genUnlock w y = true ↔ w < y :=
  safeNodeUnlock_iff (hdrOf w phase_PROPOSE_VOTE) (hdrOf y phase_PROPOSE_VOTE) rfl rfl

/-- so is `adoptOk`: a held lock is replaced exactly by a certificate of a later view -/
theorem genAdoptOk_iff (w y : Bft.View) : genAdoptOk w y = true ↔ w < y :=
  adoptHigher_iff (hdrOf w phase_PROPOSE_VOTE) (hdrOf y phase_PROPOSE_VOTE) _ rfl rfl

/-- `certBound` over the generated checks accepts exactly the PROPOSE_VOTE certificate of the replica's own view -/
theorem genCertBound_iff (q : Bft.View) (qp : Bool) (v : Bft.View) : genCertBound q qp v = true ↔ q = v ∧ qp = true := by
  obtain ⟨qr, qn⟩ := q
  obtain ⟨vr, vn⟩ := v
  simp only [genCertBound, Bool.and_eq_true, Bool.not_eq_true', Option.isNone_iff_eq_none, leaderMsgHeaderRejected_eq_false_iff,
    leaderMsgChecks_eq_none_iff, hdrOf, Bft.View.mk.injEq, Nat.zero_le, and_true, true_and]
  -- the phase before PRECOMMIT is PROPOSE_VOTE, not PRECOMMIT_VOTE
  cases qp
  · simp only [Bool.false_eq_true, if_false, and_false, iff_false, phase_PRECOMMIT_VOTE, phase_PRECOMMIT]
    exact fun h => absurd h.2.2 (by decide)
  · simp only [if_true, and_true, phase_PROPOSE_VOTE, phase_PRECOMMIT]

/-! ## R — the per-replica handlers of the correspondence layer (M-bft-exec, `Model/BftExec.lean`) refine the guards

What the driver compares step by step with the real replicas is `proposeDecision`, `leaderVerdict`, `precommitVote`
(built from the generated functions). These theorems say that whenever those let a replica vote or lock, the
corresponding guard of the history model — the one `agreement` is proved from — holds. The glue that is input on the
op lines (which message `GetProposal` returns, who aggregated what) is adversarial in the model. -/

/-- **SafeNode step.** If the per-replica model lets a replica vote for `b`, the guard `safeCond` of the history model
    holds — provided its lock is the history's lock, locks are PROPOSE_VOTE certificates (`exec_precommit_msg_binds`,
    `checkHighQCPost_ok`) and the justification was accepted at delivery (PROPOSE_VOTE phase, +2/3: `checkHighQCPost_ok`). -/
theorem exec_propose_refines (c : Cfg) (hc : c.unlock = genUnlock) (tr : List Ev) (r : Nat)
    (lock : Option (Bft.View × Nat × Nat)) (b : Nat) (hq : Option CertD)
    (hlock : lock.map (fun x => (x.1, x.2.2)) = Cfg.lock tr r)
    (hlph : ∀ lv lph lb, lock = some (lv, lph, lb) → lph = phase_PROPOSE_VOTE)
    (hhq : ∀ cert, hq = some cert → cert.phase = phase_PROPOSE_VOTE ∧ c.proposeQC tr cert.view cert.blk)
    (h : proposeDecision lock b hq = none) :
    c.safeCond tr b (hq.map (·.view)) (Cfg.lock tr r) := by
  rw [← hlock]
  match lock, hlph, h with
  | none, _, _ => exact True.intro
  | some (lv, lph, lb), hlph, h =>
    obtain rfl := hlph lv lph lb rfl
    simp only [proposeDecision] at h
    obtain ⟨_, _, hhas, hpb, hpr, hbr⟩ := (safeNode_accepts_iff _).mp h
    simp only [safeNodeInput] at hhas hpb hpr hbr
    cases hq with
    | none => cases hhas
    | some cert =>
      obtain ⟨hcph, hcq⟩ := hhq cert rfl
      simp only [Option.map_some, Option.getD_some] at hpb hpr hbr
      have hb : b = cert.blk := blk_ext _ _ hpb hpr
      simp only [Option.map_some, Cfg.safeCond]
      rcases hbr with ⟨h1, h2⟩ | hun
      · exact .inl ((blk_ext _ _ h1 h2).trans hb.symm)
      · rw [certHdr, hcph] at hun
        exact .inr ⟨hc ▸ hun, hb ▸ hcq⟩

/-- **PRECOMMIT message.** A PRECOMMIT leader message that the per-replica model accepts carries a full PROPOSE_VOTE
    certificate of the replica's root height and of the message's round, for the block the replica holds. -/
theorem exec_precommit_msg_binds (w : World) (s : Rep) (m : MsgD) (hph : m.hdrPhase = phase_PRECOMMIT)
    (h : w.leaderVerdict s m = .ok) :
    m.qc.view = ⟨s.root, m.hdr.round⟩ ∧ m.qc.phase = phase_PROPOSE_VOTE ∧ s.blk = some m.qc.blk ∧
      w.isPartial m.qc.signers = false ∧ s.proposer = some m.sender := by
  have hnp : (m.hdrPhase == phase_PROPOSE) = false := by rw [hph]; rfl
  unfold World.leaderVerdict at h
  -- `.ok` is returned only at the end of the chain: no `if` that returns another verdict was taken
  simp only [ite_eq_iff, reduceCtorEq, and_false, false_or] at h
  obtain ⟨_, h⟩ := h
  split at h
  · cases h
  simp only [ite_eq_iff, reduceCtorEq, and_false, false_or, or_self, hnp, Bool.false_eq_true, false_and, not_false_eq_true,
    true_and, Bool.not_eq_true] at h
  obtain ⟨hroot, hpart, _, _, h⟩ := h
  -- the phase is not PROPOSE, so what is left is the PRECOMMIT/COMMIT branch: `.ok` iff `leaderMsgChecks` accepts
  split at h
  · rename_i hchk
    obtain ⟨⟨_, hround, hphase⟩, hsnd, hsaved, hb1, hb2⟩ := (leaderMsgChecks_eq_none_iff ..).mp hchk
    have hroot : m.qc.view.root = s.root := Decidable.not_not.mp (of_decide_eq_false hroot)
    have hround : m.qc.view.round = m.hdr.round := hround
    refine ⟨by rw [← hroot, ← hround], Nat.succ.inj (hphase.trans hph), ?_, hpart, ?_⟩
    · cases hblk : s.blk with
      | none => rw [hblk] at hsaved; cases hsaved
      | some x =>
        rw [hblk, Option.getD_some] at hb1 hb2
        rw [blk_ext _ _ hb1 hb2]
    · cases hp : s.proposer with
      | none => rw [hp] at hsnd; cases hsnd
      | some x => rw [hp] at hsnd; rw [Nat.succ.inj hsnd]
  · cases h

/-- `StartPrecommitVotePhase` in the per-replica model: the certificate of the message becomes the lock -/
theorem exec_precommit_locks (s s' : Rep) (sender : Nat) (c : CertD)
    (h : precommitVote s (some (sender, c)) = (s', "vote")) :
    s'.lock = some (c.view, c.phase, c.blk) ∧ s.blk = some c.blk ∧ s.proposer = some sender := by
  unfold precommitVote checkProposerAndProposal at h
  by_cases h1 : s.proposer = some sender
  · by_cases h2 : s.blk = some c.blk
    · simp only [h1, h2, bne_self_eq_false, Bool.false_eq_true, if_false, Prod.mk.injEq, and_true] at h
      exact ⟨h ▸ rfl, h2, h1⟩
    · simp [h1, h2] at h
  · simp [h1] at h

/-- "not partial" in the per-replica model is the +2/3 quorum of the history model -/
theorem exec_notPartial_quorum (w : World) (signers : List Nat)
    (h2 : 2 * w.cfg.total < 2 ^ 64) (hp : w.power signers < 2 ^ 64)
    (h : w.isPartial signers = false) : w.cfg.maj ≤ w.power signers := by
  simp only [World.isPartial, isPartialQC_iff, Bool.not_eq_false', hasMaj23_iff, minimumMaj23_eq _ h2, UInt64.toNat_ofNat',
    Nat.mod_eq_of_lt hp] at h
  exact h

/-- **C01, agreement.** Over the generated decision functions: for every committee, stake function, Byzantine set
    below one third, and every valid history (any length, any schedule of view advances including root-height
    bumps), two commit certificates carry the same block-and-results. -/
theorem agreement (committee : List Nat) (pw : Nat → Nat) (byz : Nat → Bool)
    (hb : 3 * (genCfg committee pw byz).powerOf byz < (genCfg committee pw byz).total)
    (tr : List Ev) (hv : (genCfg committee pw byz).Valid tr)
    (v1 v2 : Bft.View) (b1 b2 : Nat)
    (h1 : (genCfg committee pw byz).precommitQC tr v1 b1) (h2 : (genCfg committee pw byz).precommitQC tr v2 b2) :
    b1 = b2 :=
  Cfg.agreement_param _ hb (fun w y => (genUnlock_iff w y).mp) (fun w y => (genAdoptOk_iff w y).mp)
    (fun q qp v => (genCertBound_iff q qp v).mp) tr hv v1 v2 b1 b2 h1 h2

/-- the same, read as the property text: a correct validator commits only on a full PRECOMMIT_VOTE certificate
    (`StartCommitProcessPhase` + the controller's gate; checked per commit by the correspondence run), so any two
    blocks committed at the height by correct validators coincide — block hash and results hash. -/
theorem committed_blocks_agree (committee : List Nat) (pw : Nat → Nat) (byz : Nat → Bool)
    (hb : 3 * (genCfg committee pw byz).powerOf byz < (genCfg committee pw byz).total)
    (tr : List Ev) (hv : (genCfg committee pw byz).Valid tr) (b1 b2 : Nat)
    (h1 : ∃ v, (genCfg committee pw byz).precommitQC tr v b1) (h2 : ∃ v, (genCfg committee pw byz).precommitQC tr v b2) :
    blkHashOf b1 = blkHashOf b2 ∧ resHashOf b1 = resHashOf b2 := by
  obtain ⟨v1, h1⟩ := h1
  obtain ⟨v2, h2⟩ := h2
  rw [agreement committee pw byz hb tr hv v1 v2 b1 b2 h1 h2]
  exact ⟨rfl, rfl⟩

/-! ## non-vacuity and witnesses (four equal-stake replicas, replica 0 Byzantine) -/

def pw1 : Nat → Nat := fun _ => 1
def byz0 : Nat → Bool := fun r => r == 0
def cfg4 : Cfg := genCfg [0, 1, 2, 3] pw1 byz0

def vA : Bft.View := ⟨10, 3⟩   -- before the root bump
def vB : Bft.View := ⟨11, 0⟩   -- after the bump, round restarted
def vC : Bft.View := ⟨11, 3⟩

theorem cfg4_byz_lt_third : 3 * cfg4.powerOf cfg4.byz < cfg4.total := by decide

/-- a plain run: propose quorum, precommit quorum, commit (newest first) -/
def happyTrace : List Ev := [
  .precommit 3 vB 7 vB true, .precommit 2 vB 7 vB true, .precommit 1 vB 7 vB true,
  .propose 3 vB 7 none, .propose 2 vB 7 none, .propose 1 vB 7 none, .propose 0 vB 7 none ]

/-- the hypotheses of `agreement` are satisfiable together with a commit -/
example : cfg4.Valid happyTrace ∧ cfg4.precommitQC happyTrace vB 7 :=
  ⟨cfg4.validP_sound _ (by decide +kernel), by decide +kernel⟩

/-- the LIVENESS branch is exercised by a valid history: replica 1 locks on block 1 at (10,3), the others
    certify block 2 at (11,0), and at (11,1) replica 1 unlocks with that certificate; block 2 commits. -/
def unlockTrace : List Ev := [
  .precommit 3 ⟨11, 1⟩ 2 ⟨11, 1⟩ true, .precommit 2 ⟨11, 1⟩ 2 ⟨11, 1⟩ true, .precommit 1 ⟨11, 1⟩ 2 ⟨11, 1⟩ true,
  .propose 3 ⟨11, 1⟩ 2 (some vB), .propose 2 ⟨11, 1⟩ 2 (some vB), .propose 1 ⟨11, 1⟩ 2 (some vB),
  .propose 3 vB 2 none, .propose 2 vB 2 none, .propose 0 vB 2 none,
  .precommit 1 vA 1 vA true,
  .propose 3 vA 1 none, .propose 2 vA 1 none, .propose 1 vA 1 none, .propose 0 vA 1 none ]

example : cfg4.Valid unlockTrace ∧ cfg4.precommitQC unlockTrace ⟨11, 1⟩ 2 ∧
    Cfg.lock (unlockTrace.drop 6) 1 = some (vA, 1) :=
  ⟨cfg4.validP_sound _ (by decide +kernel), by decide +kernel, by decide +kernel⟩

/-- the bound on the Byzantine power is needed: with two of four replicas Byzantine two blocks commit -/
def cfg4two : Cfg := genCfg [0, 1, 2, 3] pw1 (fun r => r == 0 || r == 1)
def splitTrace : List Ev := [
  .precommit 3 vB 2 vB true, .precommit 1 vB 2 vB true, .precommit 0 vB 2 vB true,
  .propose 3 vB 2 none, .propose 1 vB 2 none, .propose 0 vB 2 none,
  .precommit 2 vB 1 vB true, .precommit 1 vB 1 vB true, .precommit 0 vB 1 vB true,
  .propose 2 vB 1 none, .propose 1 vB 1 none, .propose 0 vB 1 none ]
theorem agreement_needs_third :
    cfg4two.Valid splitTrace ∧ cfg4two.precommitQC splitTrace vB 1 ∧ cfg4two.precommitQC splitTrace vB 2 ∧
      ¬ 3 * cfg4two.powerOf cfg4two.byz < cfg4two.total :=
  ⟨cfg4two.validP_sound _ (by decide +kernel), by decide +kernel, by decide +kernel, by decide +kernel⟩

/-! ### F1 — what the round-only comparison allowed (SafeNode before ea0b5df) -/

/-- `msg.HighQc.Header.Round > b.HighQC.Header.Round` -/
def roundUnlock (w y : Bft.View) : Bool := decide (y.round > w.round)
def cfg4roundOnly : Cfg := { cfg4 with unlock := roundUnlock }

/-- newest first. Block 1 = B', block 2 = B. -/
def rootBumpTrace : List Ev := [
  -- stage 3: B' certified and committed at (11,3); replica 3 unlocks from (11,0) using the (10,3) certificate
  .precommit 3 vC 1 vC true, .precommit 1 vC 1 vC true, .precommit 0 vC 1 vC true,
  .propose 3 vC 1 (some vA), .propose 1 vC 1 (some vA), .propose 0 vC 1 (some vA),
  -- stage 2: B certified and committed at (11,0) by 0,2,3 (replica 1 is locked on B' and abstains)
  .precommit 3 vB 2 vB true, .precommit 2 vB 2 vB true, .precommit 0 vB 2 vB true,
  .propose 3 vB 2 none, .propose 2 vB 2 none, .propose 0 vB 2 none,
  -- stage 1: B' gets a PROPOSE_VOTE quorum at (10,3); only replica 1 sees it and locks
  .precommit 1 vA 1 vA true,
  .propose 3 vA 1 none, .propose 2 vA 1 none, .propose 1 vA 1 none, .propose 0 vA 1 none ]

/-- With the round-only comparison the model admits a valid history with two different commits
    (the history the real replicas produced before ea0b5df). -/
theorem agreement_fails_roundOnly :
    cfg4roundOnly.Valid rootBumpTrace ∧ cfg4roundOnly.precommitQC rootBumpTrace vB 2 ∧
      cfg4roundOnly.precommitQC rootBumpTrace vC 1 :=
  ⟨cfg4roundOnly.validP_sound _ (by decide +kernel), by decide +kernel, by decide +kernel⟩

/-- the round-only comparison violates the unlock obligation at the witness views -/
theorem roundUnlock_not_monotone : roundUnlock vB vA = true ∧ ¬ vB < vA := by decide

/-- with the generated comparison the same history is not valid: replica 3's vote at (11,3) is refused -/
theorem rootBumpTrace_refused : ¬ cfg4.validP rootBumpTrace :=
  fun h => absurd (cfg4.validP_drop 3 _ h).2 (by decide +kernel)

/-! ### F12 — what an unbound PRECOMMIT certificate allowed (CheckProposerMessage before 9c7b0f6) -/

/-- before 9c7b0f6 only the root height of the certificate was compared with the replica's -/
def rootOnlyBound (q : Bft.View) (_qp : Bool) (v : Bft.View) : Bool := decide (q.root = v.root)
def cfg4staleLock : Cfg := { cfg4 with certBound := rootOnlyBound }

def r0 : Bft.View := ⟨10, 0⟩
def r1 : Bft.View := ⟨10, 1⟩
def r2 : Bft.View := ⟨10, 2⟩
def r3 : Bft.View := ⟨10, 3⟩

/-- newest first; no reset involved. Block 1 certified at round 0, block 2 certified at round 1 (both PRECOMMITs
    withheld); round 2: block 1 again, the PRECOMMIT message carries the ROUND-0 certificate, all lock at (10,0)
    while precommit-voting at (10,2) — block 1 commits; round 3: block 2 justified by the round-1 certificate
    unlocks replicas 2 and 3 (10,0) < (10,1) — block 2 commits. -/
def staleLockTrace : List Ev := [
  .precommit 3 r3 2 r3 true, .precommit 2 r3 2 r3 true, .precommit 0 r3 2 r3 true,
  .propose 3 r3 2 (some r1), .propose 2 r3 2 (some r1), .propose 0 r3 2 (some r1),
  .precommit 3 r2 1 r0 true, .precommit 2 r2 1 r0 true, .precommit 1 r2 1 r0 true, .precommit 0 r2 1 r0 true,
  .propose 3 r2 1 (some r0), .propose 2 r2 1 (some r0), .propose 1 r2 1 (some r0), .propose 0 r2 1 (some r0),
  .propose 3 r1 2 none, .propose 2 r1 2 none, .propose 1 r1 2 none, .propose 0 r1 2 none,
  .propose 3 r0 1 none, .propose 2 r0 1 none, .propose 1 r0 1 none, .propose 0 r0 1 none ]

/-- With the certificate of a PRECOMMIT message not bound to the view, the model admits a valid history with two
    different commits (the history the real replicas produced before 9c7b0f6), although the unlock comparison is
    the repaired one. -/
theorem agreement_fails_staleLock :
    cfg4staleLock.Valid staleLockTrace ∧ cfg4staleLock.precommitQC staleLockTrace r2 1 ∧
      cfg4staleLock.precommitQC staleLockTrace r3 2 :=
  ⟨cfg4staleLock.validP_sound _ (by decide +kernel), by decide +kernel, by decide +kernel⟩

/-- the old check does not bind the certificate to the view -/
theorem rootOnlyBound_not_binding : rootOnlyBound r0 true r2 = true ∧ r0 ≠ r2 := by decide

/-- with the generated check the same history is not valid: the stale PRECOMMIT message is rejected -/
theorem staleLockTrace_refused : ¬ cfg4.validP staleLockTrace :=
  fun h => absurd (cfg4.validP_drop 6 _ h).2 (by decide +kernel)

end Canopy.C01
