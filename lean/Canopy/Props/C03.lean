import Canopy.Proof.Exec
import Canopy.Model.ExecFacts
/-!
# C03 — deterministic replicated execution (mechanism part)

Statement (properties.jsonl): same prefix + same block ⇒ bit-identical header and certificate
results on every execution path (propose, validate, commit with/without cached result, sync replay,
after restart), independent of cache contents and of earlier discarded speculative executions.

What is proved here is about the mechanism model `Canopy.Exec` (`Model/Exec.lean`): block execution is
an abstract deterministic function `applyBlock`; the theorems say that **every path computes
`applyBlock` of (committed state, block)**, so any two paths on nodes with the same committed state
give the same answer and the same next committed state, whatever either node did before.

* `Exec.produce_eq`, `Exec.validate_eq`, `Exec.commit_replay` (`Proof/Exec.lean`) — these paths start from
  a reset, so the working copies' contents (earlier executions, failed or not) are irrelevant;
* `Exec.commit_eq` — on a `Coherent` node the cached commit is the replay's; `Exec.Coherent.computes`
  collects what every path answers there;
* `Exec.coherent_run` — on the repaired mechanism (`resetClearsCache = true`: every controller-level reset
  of the FSM also drops the BFT's cached block result) `Coherent` holds after EVERY history;
* `paths_agree` — the property, full strength, for the repaired mechanism; `mechanism_is_repaired`
  ties the switch to the source (generated fact);
* `stale_cache_after_produce`, `stale_cache_after_failed_replay`, `paths_agree_fails_without_cache_reset`
  — the mechanism before the repair (`resetClearsCache = false`) violates the property at two
  concrete histories (`decide`); both are permanent scenarios of the Go driver (`harness/c03`);
* `speculation_no_leak` — after any sequence of speculative executions each followed by a reset
  (round interrupt), the next execution equals execution on the committed state (either mechanism).

NOT proved here, only sampled by the multi-path correspondence run: that the real `ApplyBlock` is a
function of (committed state, block) — goroutine scheduling of the parallel tree commit, map
iteration order, process-wide caches. See `checks/C03.py`.
-/
namespace Canopy.C03
open Canopy.Exec
set_option linter.unusedSectionVars false

variable {σ β ρ ε : Type} [DecidableEq β] [DecidableEq ρ] (S : Sys σ β ρ ε)

/-- Full-strength statement: after ANY two histories that leave two nodes with the same committed
state and height, every path gives the same verdict for a block and the same next committed state;
the histories may contain proposals, validations of other blocks (accepted, rejected, failing
midway), rejected peer blocks, round interrupts, restarts, commits and sync replays, and the two
nodes may have stored DIFFERENT versions (signer sets) of every earlier commit certificate. -/
def PathsAgree (S : Sys σ β ρ ε) : Prop :=
  ∀ (s : σ) (h : Nat) (ops₁ ops₂ : List (Op β)) (b : β) (v₁ v₂ : Nat),
    (run S (init s h) ops₁).committed = (run S (init s h) ops₂).committed →
    (run S (init s h) ops₁).height = (run S (init s h) ops₂).height →
    S.height b = (run S (init s h) ops₁).height →
      (validate S (run S (init s h) ops₁) b).2 = (commit S (run S (init s h) ops₂) b).2 ∧
      (commit S (run S (init s h) ops₁) b false v₁).2 = (commit S (run S (init s h) ops₂) b false v₂).2 ∧
      (commit S (run S (init s h) ops₁) b true v₁).2 = (commit S (run S (init s h) ops₂) b false v₂).2 ∧
      (commit S (run S (init s h) ops₁) b true v₁).1.committed =
        (commit S (run S (init s h) ops₂) b false v₂).1.committed ∧
      (produce S (run S (init s h) ops₁) b).2 = (produce S (run S (init s h) ops₂) b).2

/-- **paths_agree.** The property holds for the mechanism in which every controller-level reset of
the FSM also drops the cached block result and the header's last certificate is written into the
working store before the block is applied on every path. -/
theorem paths_agree (hclr : S.resetClearsCache = true) (hix : S.indexesLastCert = true) : PathsAgree S := by
  intro s h ops₁ ops₂ b v₁ v₂ hc hh hb
  have c₁ := (coherent_run hclr ops₁ (coherent_init S s h)).computes hb
  have c₂ := (coherent_run hclr ops₂ (coherent_init S s h)).computes (hh ▸ hb)
  have l₁ := c₁ false v₁ (.inl rfl)
  have s₁ := c₁ true v₁ (.inr hix)
  have l₂ := c₂ false v₂ (.inl rfl)
  rw [l₁.1, (c₂ false 0 (.inl rfl)).2.1, l₁.2.1, l₂.2.1, s₁.2.1, s₁.2.2.1, l₂.2.2.1, l₁.2.2.2.2, l₂.2.2.2.2, hc]
  exact ⟨rfl, rfl, rfl, rfl, rfl⟩

/-- the mechanism of the source tree is the repaired one: every statement that resets the
controller's FSM is the one inside `Controller.resetFSM`, and `resetFSM` clears
`Consensus.BlockResult` first (generated fact; fails when a bare `c.FSM.Reset()` reappears) -/
theorem mechanism_is_repaired : resetClearsCacheFact = true :=
  Bool.and_eq_true_iff.2 ⟨beq_iff_eq.2 rfl, beq_iff_eq.2 rfl⟩

/-- the source tree writes the candidate header's `LastQuorumCertificate` into the working store for
every height > 1 on every path — the one `IndexQC` site in `CheckAndSetLastCertificate` is guarded by
the height test alone, not by the syncing test — and `ApplyAndValidateBlock` does so before
`ApplyBlock` (generated facts) -/
theorem last_certificate_is_the_headers : indexesLastCertFact = true :=
  Bool.and_eq_true_iff.2 ⟨beq_iff_eq.2 rfl, beq_iff_eq.2 rfl⟩

/-- `ProduceProposal` assigns every field of the cached proposal's header from its inputs (no `+=`,
`++`, `x = x + …` on `p.Block.BlockHeader.*`): a cached mempool proposal served to several calls — a
leader leading again at the same height — gives each call the header the model's `produce` has, a
function of (committed state, block inputs) alone (generated fact; Go scenario
`re-proposal-from-cached-proposal`) -/
theorem proposal_header_assigned_from_inputs : headerAssignedFromInputsFact = true :=
  Bool.and_eq_true_iff.2 ⟨beq_iff_eq.2 rfl, beq_iff_eq.2 rfl⟩

/-- the source tree writes the process-wide signature cache only under a positive verification of
the tuple written (generated fact: every `SignatureCache.Set` / `addToCache()` site of `lib/crypto`
with everything enclosing it; fails when a write appears on a failure branch or outside a guard) -/
theorem signature_cache_written_only_when_verified : signatureCacheFact = true :=
  beq_iff_eq.2 rfl

/-- **cache_contents_never_change_a_verdict.** For the signature-cache mechanism of the source tree:
whatever a process verified before — any batches, of valid and forged signatures, in earlier blocks,
discarded speculative executions and mempool checks, and any cache losses — the batch pre-check of a
block (the only signature check of a block) gives every transaction the verdict a process with an
empty cache gives. So the abstract `applyBlock (committed state, block)` of `paths_agree` does not
depend on that history through the signature cache. (Go scenario `forged-signature-re-executed`;
`SigCache.warm_cache_accepts_rejected_tuple` is the counterexample for the other mechanism.) -/
theorem cache_contents_never_change_a_verdict {τ : Type} [DecidableEq τ] (verify : τ → Bool)
    (evs : List (Canopy.SigCache.Ev τ)) (xs : List τ) :
    (Canopy.SigCache.batch sigCacheCfgOfFacts verify (Canopy.SigCache.run sigCacheCfgOfFacts verify [] evs) xs).1 =
      (Canopy.SigCache.batch sigCacheCfgOfFacts verify [] xs).1 :=
  Canopy.SigCache.cache_never_changes_a_verdict
    (show sigCacheCfgOfFacts.fillsOnlyVerified = true from signature_cache_written_only_when_verified) verify evs xs

/-- non-vacuity: the histories of the two counterexamples below, and one with an interrupted validation
in between, end on the repaired mechanism with the block applied (commit by replay): state 8 = 0 + 7 + 1 -/
example :
    let S : Sys Nat Nat Nat Unit := ⟨fun s b => .ok (s + b + 1, b), fun s _ => s, fun b => if b = 13 then 0 else b, fun _ => 0, true, fun _ => 0, fun s b _ => .ok (s + b + 1, b), true⟩
    (run S (init 0 0 : Node Nat Nat Nat) [.validate 7, .produce 9, .commit 7 false 0]).committed = 8
    ∧ (run S (init 0 0 : Node Nat Nat Nat) [.validate 7, .commit 13 false 0, .commit 7 false 0]).committed = 8
    ∧ (run S (init 0 0 : Node Nat Nat Nat) [.produce 5, .validate 9, .interrupt, .validate 7, .commit 7 false 0]).committed = 8 := by
  decide

/-- every block valid (state' = state + block + 1, result = block) except block 13, whose claim is
wrong; resets leave the cached block result in place -/
def oldSys : Sys Nat Nat Nat Unit :=
  ⟨fun s b => .ok (s + b + 1, b), fun s _ => s, fun b => if b = 13 then 0 else b, fun _ => 0, false, fun _ => 0, fun s b _ => .ok (s + b + 1, b), true⟩

/-- Witness A: validate(7); produce(9); commit(7). `ProduceProposal`'s deferred `c.FSM.Reset()` drops
the working copy, the cached result stays, the commit stores block 7 over an unchanged state. -/
theorem stale_cache_after_produce :
    (run oldSys (init 0 0 : Node Nat Nat Nat) [.validate 7, .produce 9, .commit 7 false 0]).committed = 0
    ∧ exec oldSys 0 7 = some 8
    ∧ (run oldSys (init 0 0 : Node Nat Nat Nat) [.validate 7, .produce 9, .commit 7 false 0]).archive = [(7, 7)] := by
  decide

/-- Witness B: validate(7); commit(13) is replayed and rejected (reset, cached result stays);
commit(7) then stores block 7 over an unchanged state. A peer that serves one garbage block to a
syncing node is enough. -/
theorem stale_cache_after_failed_replay :
    (commit oldSys (run oldSys (init 0 0 : Node Nat Nat Nat) [.validate 7]) 13).2 = .mismatch
    ∧ (run oldSys (init 0 0 : Node Nat Nat Nat) [.validate 7, .commit 13 false 0, .commit 7 false 0]).committed = 0
    ∧ exec oldSys 0 7 = some 8 := by
  decide

theorem paths_agree_fails_without_cache_reset : ¬ PathsAgree oldSys := by
  intro h
  have := (h 0 0 [.validate 7, .commit 13 false 0] [] 7 0 0 rfl rfl rfl).2.2.2.1
  revert this
  decide

/-- a mechanism that writes the header's last certificate only outside sync: every block is valid when
begin-block consumes the header's version of the last certificate (version 2); consuming another
version gives another result -/
def syncOldSys : Sys Nat Nat Nat Unit :=
  ⟨fun s b => .ok (s + b + 1, b), fun s _ => s, id, fun b => if b = 7 then 1 else 0, true, fun _ => 2,
   fun s b v => .ok (s + b + 1 + 100 * v, b + 100 * v), false⟩

/-- without that write on the sync path a node that stored version 1 of the last certificate rejects,
when syncing, the valid block whose header embeds version 2 (unequal header), while the same node
accepts it on the live path and a node that stored version 2 accepts it when syncing -/
theorem sync_diverges_without_last_certificate_write :
    (commit syncOldSys { (init 0 1 : Node Nat Nat Nat) with lastCert := 1 } 7 true 5).2 = .mismatch
    ∧ (commit syncOldSys { (init 0 1 : Node Nat Nat Nat) with lastCert := 1 } 7 false 5).2 = .ok 7
    ∧ (commit syncOldSys { (init 0 1 : Node Nat Nat Nat) with lastCert := 2 } 7 true 5).2 = .ok 7
    ∧ ¬ PathsAgree syncOldSys := by
  refine ⟨by decide, by decide, by decide, ?_⟩
  intro h
  have := (h 0 0 [.commit 0 false 1] [.commit 0 false 2] 7 5 5 rfl rfl rfl).2.2.1
  revert this
  decide

/-- a speculative execution: a proposal, or a validation of any block (accepted or not) -/
inductive Spec (β : Type) where
  | produce (b : β)
  | validate (b : β)
  | validateRaw (b : β)

def specStep (n : Node σ β ρ) : Spec β → Node σ β ρ
  | .produce b => (produce S n b).1
  | .validate b => (validate S n b).1
  | .validateRaw b => (validateRaw S n b).1

/-- speculative executions, each followed by the reset the BFT performs (round interrupt) -/
def speculate (n : Node σ β ρ) (specs : List (Spec β)) : Node σ β ρ :=
  specs.foldl (fun n sp => roundInterrupt (specStep S n sp)) n

theorem specStep_frame (n : Node σ β ρ) (sp : Spec β) :
    (specStep S n sp).committed = n.committed ∧ (specStep S n sp).height = n.height := by
  cases sp with
  | produce b => exact ⟨(produce_frame S n b).1, (produce_frame S n b).2.2.1⟩
  | validate b => exact ⟨(validate_frame S n b).1, (validate_frame S n b).2.1⟩
  | validateRaw b => exact ⟨(validateRaw_frame S n b).1, (validateRaw_frame S n b).2.1⟩

/-- speculation never touches committed state and height, and each round interrupt drops the cached
result -/
theorem speculate_frame (n : Node σ β ρ) (specs : List (Spec β)) (hc : n.cached = none) :
    (speculate S n specs).committed = n.committed ∧ (speculate S n specs).height = n.height ∧
    (speculate S n specs).cached = none := by
  induction specs generalizing n with
  | nil => exact ⟨rfl, rfl, hc⟩
  | cons x xs ih =>
    have hx := specStep_frame S n x
    have := ih (roundInterrupt (specStep S n x)) rfl
    exact ⟨this.1.trans hx.1, this.2.1.trans hx.2, this.2.2⟩

/-- **speculation_no_leak.** After any sequence of speculative executions (proposals, validations of
any blocks, accepted, rejected or failing midway), each followed by a reset, the next execution of a
block — validation, commit, proposal — is the execution on the committed state: same verdict, same
next committed state as on a node that never speculated. -/
theorem speculation_no_leak (s : σ) (h : Nat) (specs : List (Spec β)) (b : β) (hb : S.height b = h) :
    let n := speculate S (init s h : Node σ β ρ) specs
    (validate S n b).2 = verdict S s b ∧
    (commit S n b).2 = verdict S s b ∧
    (commit S n b).1.committed = (commit S (init s h : Node σ β ρ) b).1.committed ∧
    (produce S n b).2 = (S.applyBlock s b).map (·.2) := by
  intro n
  obtain ⟨h1, h2, h3⟩ := speculate_frame S (init s h : Node σ β ρ) specs rfl
  have hbn : S.height b = n.height := hb.trans h2.symm
  have k := (coherent_of_cached_none (S := S) h3).computes hbn false 0 (.inl rfl)
  have k0 := (coherent_init S s h).computes hb false 0 (.inl rfl)
  rw [k.1, k.2.1, k.2.2.1, k0.2.2.1, k.2.2.2.2, h1]
  exact ⟨rfl, rfl, rfl, rfl⟩

/-- non-vacuity: three discarded executions, one of them failing midway -/
example :
    let S : Sys Nat Nat Nat Unit :=
      ⟨fun s b => if b = 4 then .error () else .ok (s + b + 1, b), fun s b => s + 1000 * b, id, fun _ => 0, true, fun _ => 0, fun _ _ _ => .error (), true⟩
    (speculate S (init 0 0 : Node Nat Nat Nat) [.validate 3, .validateRaw 4, .produce 5]).working = 0
    ∧ (validateRaw S (init 0 0 : Node Nat Nat Nat) 4).1.working = 4000 := by
  decide

/-! ## generated structural facts (regenerated from `/repo` on every run)

The model above assumes: `ProduceProposal` resets the controller FSM when it returns;
`ValidateProposal` starts with a reset; `CommitCertificate` replays only when no result is passed
in, resets before the replay and on every exit; all of these go through `resetFSM`;
`HandlePeerBlock` chooses the cached result by block-hash equality alone; the BFT writes the cached
result only in the proposal validation and the round interrupt; `Reset` rebuilds tracker, caches
and store view;
`ResetCaches` clears every cache field that is read through (all but the immutable shared history);
every `CheckMempool` runs on a freshly reset or freshly copied mempool FSM. -/

open Canopy.Gen.Exec in
theorem produceProposal_defers_reset : produceProposalDefers = ["c.resetFSM()"] := rfl

open Canopy.Gen.Exec in
theorem validateProposal_begins_with_reset :
    validateProposalFirst = ["c.resetFSM()"] ∧
    validateProposalCalls = ["c.resetFSM", "c.SetFSMInConsensusModeForProposals", "qc.CheckProposalBasic",
      "c.Consensus.ValidateByzantineEvidence", "c.ApplyAndValidateBlock", "c.NewCertificateResults",
      "qc.Results.Equals"] := ⟨rfl, rfl⟩

open Canopy.Gen.Exec in
theorem commitCertificate_shape :
    commitCertificateDefers.head? = some "c.resetFSM()" ∧
    commitReplayBranch.head? = some "c.resetFSM()" ∧
    commitReplayBranch.contains "blockResult, err = c.ApplyAndValidateBlock(block, true)" = true ∧
    commitCertificateCalls = ["c.resetFSM", "c.resetFSM", "c.ApplyAndValidateBlock", "storeI.IndexQC",
      "storeI.IndexBlock", "storeI.Commit", "fsm.New", "c.Mempool.FSM.Discard", "c.FSM.Copy",
      "c.Mempool.CheckMempool", "c.Mempool.FSM.Reset"] :=
  ⟨rfl, rfl,
    List.elem_eq_true_of_mem (by simp only [commitReplayBranch, List.mem_cons, true_or, or_true]), rfl⟩

open Canopy.Gen.Exec in
/-- every call site of `resetFSM`: the six controller-level resets and the BFT's `ResetFSM` hook -/
theorem resetFSM_callers : resetFSMCallers =
    ["ProduceProposal: defer c.resetFSM()", "ValidateProposal: c.resetFSM()",
     "CommitCertificate: defer c.resetFSM()", "CommitCertificate: c.resetFSM()",
     "CommitCertificateParallel: defer c.resetFSM()", "CommitCertificateParallel: c.resetFSM()",
     "ResetFSM: c.resetFSM()"] := rfl

open Canopy.Gen.Exec in
theorem handlePeerBlock_cache_rule : handlePeerBlockCacheRule =
    ["result := c.Consensus.BlockResult",
     "if result == nil || result.BlockHeader == nil || !bytes.Equal(result.BlockHeader.Hash, block.BlockHeader.Hash) { result = nil }",
     "if err = c.CommitCertificate(qc, block, result, msg.Time); err != nil { return nil, err }"] := rfl

open Canopy.Gen.Exec in
/-- inside the BFT the cached result is written by the proposal validation and cleared by the round
interrupt, and by nothing else (in particular not by `NewHeight`/`NewRound`); every other drop of
the cached result happens in `Controller.resetFSM` -/
theorem cached_result_writers : bftBlockResultWrites =
    ["StartProposeVotePhase: b.BlockResult, err = b.ValidateProposal(msg.RcBuildHeight, msg.Qc, byzantineEvidence)",
     "RoundInterrupt: b.BlockResult = nil"] := rfl

open Canopy.Gen.Exec in
theorem applyAndValidate_compares_hash : applyAndValidateCalls =
    ["c.CheckAndSetLastCertificate", "c.FSM.ApplyBlock", "lib.ErrFailedTransactions", "compare.SetHash",
     "bytes.Equal", "lib.ErrUnequalBlockHash"] := rfl

open Canopy.Gen.Exec in
theorem reset_rebuilds_everything :
    resetStmts = ["s.slashTracker = NewSlashTracker()", "s.ResetCaches()", "s.store.(lib.StoreI).Reset()"] :=
  rfl

open Canopy.Gen.Exec in
/-- every cache field that exists, and every cache field any FSM code mentions, is cleared by
`ResetCaches` — except `sharedCache`, the rolling cache of *historical* validator lists keyed by
committed height (immutable history shared between snapshots) -/
theorem resetCovers :
    (∀ f ∈ cacheFields, f ≠ "sharedCache" → f ∈ resetCachesAssigns) ∧
    (∀ f ∈ cacheFieldsUsed, f ≠ "sharedCache" → f ∈ resetCachesAssigns) ∧
    (∀ f ∈ cacheFieldsUsed, f ∈ cacheFields) := by decide +kernel

open Canopy.Gen.Exec in
/-- every mempool check runs on a mempool FSM that was reset or rebuilt just before, except the very
first one in `Start`, which runs on the copy made by `NewMempool` -/
theorem checkMempool_runs_on_fresh_copy : checkMempoolCallers =
    ["CommitCertificate: fsm.New, c.Mempool.FSM.Discard, c.FSM.Copy -> CheckMempool",
     "CommitCertificateParallel: fsm.New -> CheckMempool",
     "loadProposalBlockLocked: c.Mempool.FSM.Reset -> CheckMempool",
     "finishSyncing: c.Mempool.FSM.Discard, c.FSM.Copy -> CheckMempool",
     "Start:  -> CheckMempool",
     "CheckMempool: c.Mempool.FSM.Reset -> CheckMempool"] := rfl

open Canopy.Gen.Exec in
/-- scope of the one cache that is NOT write-through: `cache.liveValidators` (a validator list filled
by the first `getCurrentValidators` and cleared only by `ResetCaches`; validator writes do not update
it). On a state machine's own state it is reached only through `LotteryWinner` and `PollsToResults`;
on a live (controller / mempool) state machine `LotteryWinner` is called only by
`CalculateRewardRecipients`, only on nested chains (`!isOwnRoot`), i.e. after `ApplyBlock`, in a
lifetime that began with a reset or a fresh copy (`checkMempool_runs_on_fresh_copy`,
`validateProposal_begins_with_reset`) — on the proposer path and on the replica path alike, so both
read the post-block validator list. Own-root chains take the lottery from a historical snapshot. -/
theorem liveValidators_cache_scope :
    liveValidatorsReaders = ["LotteryWinner -> GetCommitteeMembers", "LotteryWinner -> GetDelegates",
      "GetCommitteeMembers -> getValidatorSet", "GetDelegates -> getValidatorSet",
      "PollsToResults -> GetCommitteeMembers", "getValidatorSet -> getCurrentValidators"] ∧
    liveLotteryCalls = ["if !isOwnRoot: fsm.LotteryWinner(c.Config.ChainId, true)",
      "if !isOwnRoot: fsm.LotteryWinner(c.Config.ChainId)",
      "anywhere: fsm.LotteryWinner(c.Config.ChainId, true)", "anywhere: fsm.LotteryWinner(c.Config.ChainId)"] :=
  ⟨rfl, rfl⟩

end Canopy.C03
