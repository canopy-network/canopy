import Canopy.Proof.Atomic
import Canopy.Model.ExecFacts
import Canopy.Props.C03
/-!
# C07 — transaction and block atomicity

Statement (properties.jsonl): a transaction that fails at any step leaves state, events, indexes and
in-memory trackers exactly as if it had never been submitted, so the state after a block equals the
sequential application of exactly its successful transactions between the begin- and end-block
actions; a proposal or peer block rejected at any stage leaves committed and working state unchanged.

Model: `Canopy.Atomic` (`Model/Atomic.lean`): the mechanism of `fsm.ApplyTransactions` — store
pointer, nested store transactions, read-through caches, event tracker, slash tracker, the pre-check
pass, the sequential pass with its hand-written restoration on failure, the oversize remainder — for
ARBITRARY handlers (programs of cached reads, write-through writes, event/tracker updates and guards
that abort after partial writes), against a cache-free specification in which a failing transaction
simply does not happen.

* `mechanism_of_source` — the restorations the model's mechanism performs are exactly the statements
  extracted from the Go source (`Gen/Exec.lean`, regenerated on every run): failure branch =
  reset caches, reset events, restore tracker, restore store pointer; after the loop the oversize
  remainder's traces are dropped. Removing any of them from the source breaks this theorem.
* `coherent` — every cached value equals a store read, after `ApplyTransactions`, whatever failed.
* `mechanism_refines_spec` — store, events, tracker, included/failed/oversize lists of the mechanism
  are those of the specification: state after the transactions = sequential application of exactly
  the successful ones.
* `block_refines_spec` — the same for a whole block (begin-block, transactions, end-block: the
  end-block handler reads through the caches and sees the specification state).
* `failed_tx_no_effect` — one failing iteration (rejected by the pre-check, or failing at ANY point
  of its handler after ANY partial writes) leaves the same store, the same reads through the caches,
  the same events and tracker, the same included list and block size; only the list of failed
  transactions grows. (The size test precedes the execution, as in the code: a failing transaction
  that does not fit still turns the block oversize.)
* `reject_leaves_unchanged` — a rejected proposal (with the BFT's round interrupt) and a rejected
  peer block leave committed state, height, archive unchanged and the working copy equal to the
  committed state (model `Canopy.Exec`).
* `*_is_needed` — each restoration is necessary: without it a concrete two-transaction block (checked
  by `decide`) ends in a state the specification does not have.
* `resetCovers` — every cache field is cleared by `ResetCaches` (except the immutable shared history).
-/
namespace Canopy.C07
open Canopy.Atomic

open Canopy.Gen.Exec in
theorem mechanism_of_source : cfgOfFacts = Cfg.all := by
  simp only [cfgOfFacts, failResetsCachesFact, failResetsEventsFact, failRestoresTrackerFact,
    failRestoresStoreFact, oversizeRestoresFact, failureBranch, seqBody, afterLoop, oversizeEnter,
    List.contains_eq_mem, List.mem_cons, true_or, or_true, decide_true, Bool.and_self, Cfg.all]

open Canopy.Gen.Exec in
/-- the extracted statements, verbatim -/
theorem failure_branch_statements :
    failureBranch = ["r.AddFailed(lib.NewFailedTx(tx, e))", "s.ResetCaches()", "s.events.Reset()",
      "s.slashTracker = preTxSlashTracker", "s.SetStore(currentStore)", "continue"] ∧
    successBranch = ["if err = txn.Flush(); err != nil { return err }", "s.SetStore(currentStore)"] ∧
    afterLoop = ["if oversize { s.ResetCaches(); s.slashTracker = preOversizeSlashTracker }"] ∧
    oversizeEnter = ["if !allowOversize { return ErrMaxBlockSize() }", "oversize = true",
      "preOversizeSlashTracker = s.slashTracker.Clone()", "if _, e := s.TxnWrap(); e != nil { return e }"] ∧
    precheckDiscardsFact = true ∧
    applyTransactionSteps = ["s.events.Refer", "s.CheckTx", "s.Plugin.DeliverTx", "s.maybeFaucetTopUpForSendTx",
      "s.AccountDeductFees", "s.HandleMessage", "s.SetAccount", "s.events.Reset"] := by
  refine ⟨rfl, rfl, rfl, rfl, ?_, rfl⟩
  simp only [precheckDiscardsFact, preCheckBody, List.contains_eq_mem, List.mem_cons, true_or, or_true,
    decide_true, Bool.and_self]

open Canopy.Gen.Exec in
/-- every cache field that exists, and every cache field any FSM code mentions, is cleared by
`ResetCaches` — except `sharedCache`, the rolling cache of *historical* validator lists keyed by
committed height (immutable history shared between snapshots) -/
theorem resetCovers :
    (∀ f ∈ cacheFields, f ≠ "sharedCache" → f ∈ resetCachesAssigns) ∧
    (∀ f ∈ cacheFieldsUsed, f ≠ "sharedCache" → f ∈ resetCachesAssigns) ∧
    (∀ f ∈ cacheFieldsUsed, f ∈ cacheFields) := Canopy.C03.resetCovers

/-- **mechanism_refines_spec.** `ApplyTransactions` as the source has it, on a coherent state machine:
the store, the events, the tracker and the included / failed / oversize lists are those of the
specification; both reject the block in the same cases. -/
theorem mechanism_refines_spec (max : Nat) (allow : Bool) (F : Fsm) (hc : Coherent F) (he : F.events = [])
    (txs : List Tx) :
    match run cfgOfFacts max allow F txs, specRun max allow F.pure txs with
    | some L, some S => Coherent L.F ∧ L.F.pure = S.final ∧ L.included = S.included ∧
        L.failed = S.failed ∧ L.oversized = S.oversized ∧ L.blockEvents = S.blockEvents
    | none, none => True
    | _, _ => False := by
  rw [mechanism_of_source]
  exact run_refines max allow F hc he txs

/-- **coherent.** Every cached value equals a store read after `ApplyTransactions`, whatever failed -/
theorem coherent (max : Nat) (allow : Bool) (F : Fsm) (hc : Coherent F) (he : F.events = [])
    (txs : List Tx) (L : Loop) (h : run cfgOfFacts max allow F txs = some L) :
    Coherent L.F ∧ L.F.get = L.F.store := by
  have := mechanism_refines_spec max allow F hc he txs
  rw [h] at this
  cases hs : specRun max allow F.pure txs with
  | none => rw [hs] at this; exact this.elim
  | some S => rw [hs] at this; exact ⟨this.1, get_of_coherent this.1⟩

/-- **block_refines_spec.** A whole block on the mechanism = the block on the specification: the state
after a block is begin-block, then exactly the successful transactions in order, then end-block. -/
theorem block_refines_spec (max : Nat) (allow : Bool) (F : Fsm) (hc : Coherent F) (b : Handler)
    (txs : List Tx) (e : Handler) :
    match applyBlock cfgOfFacts max allow F b txs e, specBlock max allow F.pure b txs e with
    | some (F2, inc), some (P2, inc') => Coherent F2 ∧ F2.pure = P2 ∧ inc = inc'
    | none, none => True
    | _, _ => False := by
  rw [mechanism_of_source]
  obtain ⟨hs, hcoh⟩ := block_refines max allow F hc b txs e
  rw [← hs]
  cases hm : applyBlock Cfg.all max allow F b txs e with
  | none => trivial
  | some r => exact ⟨hcoh r hm, rfl, rfl⟩

/-- **failed_tx_no_effect.** An iteration whose transaction fails — in the pre-check, in its own
`CheckTx`, or at any later point of its handler, after any partial writes — leaves store, reads
through the caches, events and tracker as they were, includes nothing and changes no counter. -/
theorem failed_tx_no_effect (max : Nat) (allow : Bool) (L L' : Loop) (t : Tx) (p : Bool)
    (hc : Coherent L.F) (he : L.F.events = [])
    (hf : p = false ∨ (runActs L.F t.fullActs).2 = false)
    (h : stepTx cfgOfFacts max allow L t p = some L') :
    L'.F.pure = L.F.pure ∧ L'.F.get = L.F.get ∧ Coherent L'.F ∧
    L'.included = L.included ∧ L'.blockEvents = L.blockEvents ∧ L'.size = L.size ∧
    L'.failed = L.failed ++ [t] := by
  rw [mechanism_of_source] at h
  -- the iteration follows the specification, where a failing transaction is only recorded
  obtain ⟨hs, hok⟩ := stepTx_abs max allow L t p ⟨hc, he⟩
  rw [h] at hs
  obtain ⟨h1, h2, h3, h4, h5⟩ :=
    specStep_failed (hf.imp_right (runActs_sim t.fullActs L.F hc).2.2) hs.symm
  have hc' := (hok L' h).1
  refine ⟨h1, ?_, hc', h2, h3, h4, h5⟩
  rw [get_of_coherent hc', get_of_coherent hc]
  exact congrArg Pure.view h1

/-- a transfer of 10 from key 1 to key 2 (with a cached read of key 0 in its check) -/
def exXfer (id : Nat) : Tx :=
  ⟨id, fun _ => true, [0], [.put 1 (fun v => (v 1).map (· - 10)), .put 2 (fun v => some ((v 2).getD 0 + 10))], 1⟩
/-- a handler that writes two keys, emits an event, marks the tracker and THEN fails -/
def exBad : Tx :=
  ⟨9, fun _ => true, [], [.put 1 (fun _ => some 0), .put 3 (fun _ => some 77), .emit 5, .slash 6, .guard (fun _ => false)], 1⟩
def exF : Fsm := ⟨fun k => if k = 1 then some 100 else none, noCache, [], []⟩

/-- non-vacuity: the failing transaction between two successful transfers leaves no trace -/
example :
    (run Cfg.all 10 false exF [exXfer 1, exBad, exXfer 2]).map (fun L => (L.F.get 1, L.F.get 2, L.F.get 3))
      = some (some 80, some 20, none) ∧
    (run Cfg.all 10 false exF [exXfer 1, exBad, exXfer 2]).map (fun L => (L.F.tracker, L.blockEvents)) = some ([], []) ∧
    (run Cfg.all 10 false exF [exXfer 1, exBad, exXfer 2]).map (fun L => (L.included.map (·.id), L.failed.map (·.id)))
      = some ([1, 2], [9]) := by
  decide +kernel

/-- a transaction that writes key 0 and then fails; a reader of key 0 after it -/
def wBad : Tx := ⟨1, fun _ => true, [], [.put 0 (fun _ => some 5), .emit 7, .slash 8, .guard (fun _ => false)], 1⟩
def wReader : Tx := ⟨2, fun _ => true, [], [.put 1 (fun v => v 0)], 1⟩
def wF : Fsm := ⟨fun _ => none, noCache, [], []⟩

/-- without `s.ResetCaches()` in the failure branch the next transaction reads the failed write
through the cache: key 1 becomes 5, the specification says absent -/
theorem cache_reset_is_needed :
    (run { Cfg.all with failResetCaches := false } 10 false wF [wBad, wReader]).map (fun L => L.F.store 1) = some (some 5)
    ∧ (specRun 10 false wF.pure [wBad, wReader]).map (fun S => S.final.view 1) = some none := by decide +kernel

/-- without `s.SetStore(currentStore)` the failed transaction's writes stay in the store -/
theorem store_restore_is_needed :
    (run { Cfg.all with failRestoreStore := false } 10 false wF [wBad, wReader]).map (fun L => L.F.store 0) = some (some 5)
    ∧ (specRun 10 false wF.pure [wBad, wReader]).map (fun S => S.final.view 0) = some none := by decide +kernel

/-- without `s.events.Reset()` the failed transaction's events are attributed to the next one -/
theorem event_reset_is_needed :
    (run { Cfg.all with failResetEvents := false } 10 false wF [wBad, wReader]).map (fun L => L.blockEvents) = some [7]
    ∧ (specRun 10 false wF.pure [wBad, wReader]).map (fun S => S.blockEvents) = some [] := by decide +kernel

/-- without restoring the slash tracker the failed transaction's marks stay -/
theorem tracker_restore_is_needed :
    (run { Cfg.all with failRestoreTracker := false } 10 false wF [wBad, wReader]).map (fun L => L.F.tracker) = some [8]
    ∧ (specRun 10 false wF.pure [wBad, wReader]).map (fun S => S.final.tracker) = some [] := by decide +kernel

/-- two writers of key 0, each of size 1, block limit 1: the second is the oversize remainder -/
def wInc (id : Nat) : Tx := ⟨id, fun _ => true, [], [.put 0 (fun v => some ((v 0).getD 0 + 1)), .slash id], 1⟩

/-- without the restoration after the loop (the defect repaired by "drop caches and slash-tracker
entries left by the oversize remainder") the proposer's end-block reads see the remainder: key 0
reads 2 through the cache while the store — and every replica — has 1 -/
theorem oversize_restore_is_needed :
    (run { Cfg.all with oversizeRestore := false } 1 true wF [wInc 1, wInc 2]).map (fun L => (L.F.get 0, L.F.store 0, L.F.tracker, L.included.map (·.id)))
      = some (some 2, some 1, [1, 2], [1])
    ∧ (specRun 1 true wF.pure [wInc 1, wInc 2]).map (fun S => (S.final.view 0, S.final.tracker)) = some (some 1, [1])
    ∧ (run Cfg.all 1 true wF [wInc 1, wInc 2]).map (fun L => (L.F.get 0, L.F.tracker)) = some (some 1, [1]) := by decide +kernel

open Canopy.Exec in
/-- **reject_leaves_unchanged.** (model `Canopy.Exec`, for the abstract `applyBlock`.)
A proposal rejected by `ValidateProposal` — wrong height, failing execution, mismatching header or
results — followed by the BFT's round interrupt, and a peer block rejected by `HandlePeerBlock`, leave
the committed state, the height and the archive unchanged and the working copy equal to the committed
state; the round interrupt drops the cached block result. -/
theorem reject_leaves_unchanged {σ β ρ ε : Type} [DecidableEq β] [DecidableEq ρ] (S : Sys σ β ρ ε)
    (n : Node σ β ρ) (b : β) :
    ((∀ r, (validate S n b).2 ≠ .ok r) → (validate S n b).1 = roundInterrupt n) ∧
    (∀ (sync : Bool) (v : Nat), (∀ r, (commit S n b sync v).2 ≠ .ok r) →
      (S.height b = n.height → n.cached ≠ some b) →
      (commit S n b sync v).1.committed = n.committed ∧ (commit S n b sync v).1.height = n.height ∧
      (commit S n b sync v).1.archive = n.archive ∧
      (S.height b = n.height → (commit S n b sync v).1.working = n.committed)) :=
  ⟨validate_reject, fun _ _ hx _ => commit_reject_unchanged hx⟩

/-! ## the governance-proposal mode is part of the state a rejected proposal leaves unchanged -/

/-- governance-proposal mode of the two state machines -/
inductive VoteMode where
  | acceptAll | strict
  deriving DecidableEq, Repr

/-- where `ValidateProposal` returns: at the stateless check, at a later check, or with a result -/
inductive Exit where
  | stateless | later | accepted
  deriving DecidableEq, Repr

/-- the mode after `ValidateProposal`: it switches to `strict`; the deferred restore runs on every
return that comes after its registration. `deferDirectly`: the registration directly follows the
switch (else it sits below the stateless check). -/
def modeAfterValidate (deferDirectly : Bool) : Exit → VoteMode
  | .stateless => if deferDirectly then .acceptAll else .strict
  | _ => .acceptAll

/-- a committed block with a governance transaction the local approve list does not name is executed
in the mode the last `ValidateProposal` left -/
def commitAccepts : VoteMode → Bool
  | .acceptAll => true
  | .strict => false

open Canopy.Exec in
/-- the source tree registers the restore directly after the switch (generated fact; Go scenario
`governance-block-after-rejected-proposal`) -/
theorem proposal_mode_restore_registered_first : proposalModeRestoredFact = true := beq_iff_eq.2 rfl

open Canopy.Exec in
/-- **rejected_proposal_restores_mode.** For the mechanism of the source tree a proposal rejected at
any stage leaves the governance-proposal mode at accept-all, so a later committed block with a
governance transaction is executed as +2/3 executed it. -/
theorem rejected_proposal_restores_mode (e : Exit) :
    modeAfterValidate proposalModeRestoredFact e = .acceptAll ∧
    commitAccepts (modeAfterValidate proposalModeRestoredFact e) = true := by
  rw [proposal_mode_restore_registered_first]
  cases e <;> exact ⟨rfl, rfl⟩

/-- with the registration below the stateless check the property fails -/
theorem late_defer_leaves_strict_mode :
    modeAfterValidate false .stateless = .strict ∧ commitAccepts (modeAfterValidate false .stateless) = false := by
  decide

end Canopy.C07
