import Canopy.Proof.Replay
import Canopy.Proof.ProtoTx
import Canopy.Props.C06W
import Canopy.Gen.Proto
/-!
# C06 — replay protection

Model: `Canopy.Proto` (protobuf wire model + `Transaction` schema, `Model/Proto.lean`) and
`Canopy.Replay` (`CheckTx` / `CheckReplay` / `CheckSignature` / `ApplyTransactions` for sends,
`Model/Replay.lean`). Identity of a transaction is `txId raw = SHA-256(raw)` — the hash of the RAW
bytes — while the signature covers `signBytes (decode raw) = canon (decode raw without signature)`.

Result, in one paragraph. The replay clause at full strength (`NoReplay`) was **false of the code
before the repairs** 058e982 / dd98b36 (`strictTx = strictKey = false`): `no_replay_false`, and
still false with the first repair alone: `no_replay_false_without_key_check` (concrete witnesses in
`Props/C06W.lean`, built from real signed transactions; the Go driver re-offers them, and the whole
re-encoding family, to the real state machine on every run). It holds for byte strings that are the
canonical marshalling of their content with canonically encoded keys (`no_replay_partial`), hence
for the admission path that enforces exactly that: `no_replay_repaired` is the live obligation, and
`admission_enforces_canonical_encodings` pins — from the regenerated source facts — that the code
is that path. The cross-chain, window and nonce-floor clauses hold as well (`cross_chain`, `window`,
`nonce_floor`, `nonce_floor_rises`).

Scope of `no_replay_repaired`: single-key, non-RLP transactions, under `SigUnique`. RLP.V2 is covered
by the nonce floor, legacy RLP by the Ethereum-hash alias of the indexer (modelled and run against
the code; the conversion itself is uninterpreted). A multi-signature account is, in the model,
several keys with one address (`Scheme.multi`), which `SigUnique` excludes: co-signers who hold the
members' individual signatures can assemble other (key order, signer subset) pairs for the same
signed content and these execute again on the real code (measured: evidence `multisig_*`); someone
holding only on-chain data cannot (six constructions refused).

Cryptography is symbolic (`Replay.Env`, `SigUnique`): no theorem says anything about Ed25519, BLS or
ECDSA; which malleated signatures / key encodings the real verifiers accept is measured by the
correspondence run, not proved.
-/
namespace Canopy.C06
open Canopy Canopy.Proto Canopy.Replay

/-! ## the tie to the source: facts regenerated from `/repo` on every run -/

/-- field numbers and kinds of `Transaction`, `Signature` (tx.proto) and `google.protobuf.Any` are
the ones `Proto.applyTx` / `applySig` / `applyAny` and `canon` hard-wire -/
theorem tx_schema : Gen.Proto.schema "Transaction" =
    [(1, "message_type", "string", ""), (2, "msg", "google.protobuf.Any", ""), (3, "signature", "Signature", ""),
     (4, "created_height", "uint64", ""), (5, "time", "uint64", ""), (6, "fee", "uint64", ""), (7, "memo", "string", ""),
     (8, "network_id", "uint64", ""), (9, "chain_id", "uint64", ""), (10, "nonce", "uint64", "")] := by decide +kernel

theorem signature_schema : Gen.Proto.schema "Signature" =
    [(1, "public_key", "bytes", ""), (2, "signature", "bytes", "")] := by decide +kernel

theorem send_schema : (Gen.Proto.schema "MessageSend").map (fun f => (f.1, f.2.2.1)) =
    [(1, "bytes"), (2, "bytes"), (3, "uint64"), (4, "uint64"), (5, "uint64"), (6, "uint64")] := by decide +kernel

/-- decoder limits of `lib/util.go` and the set of messages that get the strict treatment -/
theorem decoder_limits : Gen.Proto.protoMaxFieldBytes = protoMaxFieldBytes ∧
    Gen.Proto.protoMaxMessageBytes = protoMaxMessageBytes ∧
    Gen.Proto.criticalMessages = ["Block", "Transaction", "QuorumCertificate"] := ⟨rfl, rfl, rfl⟩

/-- identity = hash of the raw bytes; duplicates inside one block are looked up by the same hash -/
theorem identity_is_hash_of_raw_bytes : Gen.Proto.src_txIdentity = "hashString := crypto.HashString(tx)" ∧
    Gen.Proto.src_sameBlockDedup = "if found := deDuplicator.Found(hashString); found { return lib.ErrDuplicateTx(hashString) }" :=
  ⟨rfl, rfl⟩

/-- `GetSignBytes` re-marshals every field except the signature -/
theorem sign_bytes_fields : Gen.Proto.txSignBytesFields =
    [("MessageType", "x.MessageType"), ("Msg", "x.Msg"), ("Signature", "nil"), ("Time", "x.Time"),
     ("CreatedHeight", "x.CreatedHeight"), ("Fee", "x.Fee"), ("Memo", "x.Memo"), ("NetworkId", "x.NetworkId"),
     ("ChainId", "x.ChainId"), ("Nonce", "x.Nonce")] := rfl

/-- the window tail and the network/chain head of `CheckReplay`, and the window constant, are what
`Replay.inWindow` / `Replay.checkReplay` transcribe -/
theorem check_replay_src :
    Gen.Proto.BlockAcceptanceRange = blockAcceptanceRange ∧
    Gen.Proto.src_CheckReplay_window = "maxHeight, minHeight := s.Height() + BlockAcceptanceRange, uint64(0); if s.Height() > BlockAcceptanceRange { minHeight = s.Height() - BlockAcceptanceRange }; if tx.CreatedHeight > maxHeight || tx.CreatedHeight < minHeight { return lib.ErrInvalidTxHeight() }; return nil" ∧
    Gen.Proto.src_CheckReplay_head = ["if uint64(s.NetworkID) != tx.NetworkId { return lib.ErrWrongNetworkID() }", "if s.Config.ChainId != tx.ChainId { return lib.ErrWrongChainId() }", "if s.Height() < 2 { return nil }"] :=
  ⟨rfl, rfl, rfl⟩

theorem check_basic_src : Gen.Proto.src_CheckBasic =
    "if x == nil { return ErrEmptyTransaction() }; if x.Msg == nil { return ErrEmptyMessage() }; if x.MessageType == \"\" { return ErrUnknownMessageName(x.MessageType) }; if x.Signature == nil || x.Signature.Signature == nil || x.Signature.PublicKey == nil { return ErrEmptySignature() }; if x.CreatedHeight == 0 { return ErrInvalidTxHeight() }; if x.Time == 0 { return ErrInvalidTxTime() }; if len(x.Memo) > 200 { return ErrInvalidMemo() }; if x.NetworkId == 0 { return ErrNilNetworkID() }; if x.ChainId == 0 { return ErrEmptyChainId() }; return nil" :=
  rfl

theorem nonce_src : Gen.Proto.src_nonceFloor = "if tx.Nonce < account.Nonce || tx.Nonce == math.MaxUint64 { return nil, ErrInvalidTxNonce() }" ∧
    Gen.Proto.src_nonceBump = "account.Nonce = result.tx.Nonce + 1" := ⟨rfl, rfl⟩

/-- public keys are parsed by length; 64 and 65 bytes both give an Ethereum key -/
theorem pubkey_switch : Gen.Proto.pubKeySwitch =
    [(["Ed25519PubKeySize"], "return BytesToED25519Public(bz), nil"),
     (["ETHSECP256K1PubKeySize", "ETHSECP256K1PubKeySize + 1"], "return BytesToEthSECP256K1Public(bz)"),
     (["SECP256K1PubKeySize"], "return BytesToSECP256K1Public(bz)"),
     (["BLS12381PubKeySize"], "return BytesToBLS12381Public(bz)")] ∧
    (Gen.Proto.Ed25519PubKeySize, Gen.Proto.ETHSECP256K1PubKeySize, Gen.Proto.SECP256K1PubKeySize, Gen.Proto.BLS12381PubKeySize) = (32, 64, 33, 48) :=
  ⟨rfl, rfl⟩

/-- decoding the deterministic marshalling of a well-formed transaction gives it back, with no unknown fields -/
theorem parse_canon (t : TxContent) (h : t.WF) : decodeLoose (canon t) = some (t, false) :=
  decodeLoose_canon t h

/-- the same through the whole `lib.Unmarshal` path (size cap, pre-flight scan, unknown-field refusal) -/
theorem unmarshal_marshal (t : TxContent) (h : t.WF) (hs : t.SizeOK) : decodeTx (canon t) = some t := by
  have hp : preflight (canon t) = true := by
    rw [canon_eq]
    exact preflight_enc (tx_fields_preOK t h hs)
  simp [decodeTx, Nat.not_lt.mpr hs.total, hp, decodeLoose_canon t h]

/-- different well-formed contents have different canonical bytes -/
theorem canon_injective (t₁ t₂ : TxContent) (h₁ : t₁.WF) (h₂ : t₂.WF) (h : canon t₁ = canon t₂) : t₁ = t₂ :=
  Proto.canon_injective t₁ t₂ h₁ h₂ h

/-- non-vacuity: the real signed send is a well-formed content in canonical encoding -/
example : decodeTx C06W.edRaw ≠ none ∧ (decodeTx C06W.edRaw).map canon = some C06W.edRaw := by
  -- it is accepted by the path that compares the bytes with their re-marshalling
  obtain ⟨t, a, g, s, snd, f⟩ := accepted_inv (C06W.honest_accepted true false).1
  rw [f.dec]
  exact ⟨nofun, congrArg some (f.canonical rfl).symm⟩

/-- **Full statement** (`Replay.NoReplay`): for every environment and every later chain state,
`Included e c raw₁ → signedPart raw₂ = signedPart raw₁ → ¬ accepted e c raw₂`.
**It is false of the admission path without the two comparisons** (`strictTx = strictKey = false`, the
code before 058e982 / dd98b36; `admission_enforces_canonical_encodings` shows the code makes both): -/
theorem no_replay_false : ¬ ∀ (e : Env) (c : Chain), c.strictTx = false → c.strictKey = false → NoReplay e c := by
  intro h
  exact C06W.no_replay_fails_witness_explicit_default.refutes (h _ _ rfl rfl)

/-- comparing bytes with their re-marshalling is not enough: the public-key encoding must be pinned too -/
theorem no_replay_false_without_key_check :
    ¬ ∀ (e : Env) (c : Chain), c.strictTx = true → c.strictKey = false → NoReplay e c := by
  intro h
  exact C06W.key_check_needed.refutes (h _ _ rfl rfl)

/-- **Partial** (what holds whether or not the admission path makes the two comparisons): among
byte strings that are the canonical marshalling of their own content, carry canonically encoded keys
and are not RLP-wrapped, a second byte string with the same signed content is never accepted — under
the symbolic-signature assumptions `SigUnique` (one signature per key and payload, one key per
address). The two encoding hypotheses are what `strictTx` / `strictKey` enforce: `no_replay_repaired`. -/
theorem no_replay_partial (e : Env) (c : Chain) (raw₁ raw₂ : Bytes) (hu : SigUnique e)
    (hi : Included e c raw₁) (hh : 2 ≤ c.height) (hs : signedPart raw₂ = signedPart raw₁)
    (hc₁ : ∀ t, decodeTx raw₁ = some t → raw₁ = canon t) (hc₂ : ∀ t, decodeTx raw₂ = some t → raw₂ = canon t)
    (hk₁ : ∀ t g, decodeTx raw₁ = some t → t.signature = some g → pkCanonical g.publicKey = true)
    (hk₂ : ∀ t g, decodeTx raw₂ = some t → t.signature = some g → pkCanonical g.publicKey = true)
    (hm : ∀ t, decodeTx raw₁ = some t → isRlpMemo t.memo = false) :
    accepted e c raw₂ = false := by
  obtain ⟨hidx, c₀, hacc₀, _, _⟩ := hi
  refine Bool.eq_false_iff.mpr fun hacc => ?_
  obtain ⟨t₁, a₁, g₁, s₁, snd₁, f₁⟩ := accepted_inv hacc₀
  obtain ⟨t₂, a₂, g₂, s₂, snd₂, f₂⟩ := accepted_inv hacc
  have heq := same_bytes_of_same_signed hu f₁ f₂ hs (hc₁ t₁ f₁.dec) (hc₂ t₂ f₂.dec)
    (hk₁ t₁ g₁ f₁.dec (checkBasic_ok f₁.basic).2.1) (fun _ => hk₂ t₂ g₂ f₂.dec (checkBasic_ok f₂.basic).2.1) (hm t₁ f₁.dec)
  rw [heq, accepted_indexed hh hidx] at hacc
  cases hacc

/-- **Repaired code**: when `CheckTx` refuses non-canonical bytes and `CheckSignature` refuses
non-canonical key encodings, the full statement holds for every transaction that is not RLP-wrapped
(those are covered by the Ethereum-hash alias and, for RLP.V2, by `nonce_floor`). -/
theorem no_replay_repaired (e : Env) (c : Chain) (hu : SigUnique e) (h1 : c.strictTx = true) (h2 : c.strictKey = true)
    (raw₁ raw₂ : Bytes) (hi : Included e c raw₁) (hh : 2 ≤ c.height) (hs : signedPart raw₂ = signedPart raw₁)
    (hm : ∀ t, decodeTx raw₁ = some t → isRlpMemo t.memo = false) :
    accepted e c raw₂ = false := by
  obtain ⟨hidx, c₀, hacc₀, hst₀, hsk₀⟩ := hi
  refine Bool.eq_false_iff.mpr fun hacc => ?_
  obtain ⟨t₁, a₁, g₁, s₁, snd₁, f₁⟩ := accepted_inv hacc₀
  obtain ⟨t₂, a₂, g₂, s₂, snd₂, f₂⟩ := accepted_inv hacc
  have hr₁ := hm t₁ f₁.dec
  have heq := same_bytes_of_same_signed hu f₁ f₂ hs (f₁.canonical (hst₀.trans h1)) (f₂.canonical h1)
    (key_canonical f₁ (hsk₀.trans h2) hr₁) (key_canonical f₂ h2) hr₁
  rw [heq, accepted_indexed hh hidx] at hacc
  cases hacc

/-- **the code is the repaired admission path**: `CheckTx` compares the submitted bytes with
`lib.Marshal` of their decoded form, `CheckSignature` compares the submitted key bytes with
`PublicKeyI.Bytes()` of the parsed key (facts regenerated from `fsm/transaction.go`; removing either
comparison breaks this theorem, and the drivers then run the model of the unrepaired path, whose
re-encoding family the Go oracle replays) -/
theorem admission_enforces_canonical_encodings :
    Gen.Proto.canonicalTxEnforced = true ∧ Gen.Proto.canonicalKeyEnforced = true := ⟨rfl, rfl⟩

/-! ## cross-chain, window, nonce floor (hold of the code as it stands) -/

/-- a transaction signed for another network or chain is never accepted -/
theorem cross_chain (e : Env) (c : Chain) (raw : Bytes) (t : TxContent) (hd : decodeTx raw = some t)
    (h : t.networkId ≠ c.networkId ∨ t.chainId ≠ c.chainId) : accepted e c raw = false := by
  refine Bool.eq_false_iff.mpr fun hacc => ?_
  obtain ⟨a, g, s, snd, f⟩ := accepted_inv_of_decode hd hacc
  obtain ⟨h1, h2, _⟩ := checkReplay_ok f.replay
  exact h.elim (· h1.symm) (· h2.symm)

/-- outside `[height − 4320, height + 4320]` a transaction (other than RLP.V2) is never accepted -/
theorem window (e : Env) (c : Chain) (raw : Bytes) (t : TxContent) (hd : decodeTx raw = some t)
    (hh : 2 ≤ c.height) (hm : t.memo ≠ rlpV2Memo)
    (h : c.height + 4320 < t.createdHeight ∨ t.createdHeight + 4320 < c.height) : accepted e c raw = false := by
  refine Bool.eq_false_iff.mpr fun hacc => ?_
  have := accepted_in_window hd hacc hh hm
  omega

/-- the only memo exempt from the window is the RLP.V2 indicator: the condition of the early return of
`CheckReplay`, as regenerated from the source, evaluated to the set of memos it holds for -/
theorem window_exemption_src :
    Gen.Proto.src_windowExemption = "tx.Memo == RLPV2Indicator" ∧ Gen.Proto.windowExemptMemos = [rlpV2Memo] :=
  ⟨rfl, rfl⟩

/-- **expiry**: every accepted transaction whose memo is not one of the memos the code exempts
(`Gen.Proto.windowExemptMemos`, from the source) was created within 4320 blocks of the chain height -/
theorem expiry (e : Env) (c : Chain) (raw : Bytes) (t : TxContent) (hd : decodeTx raw = some t)
    (hh : 2 ≤ c.height) (hacc : accepted e c raw = true) (hm : t.memo ∉ Gen.Proto.windowExemptMemos) :
    t.createdHeight ≤ c.height + 4320 ∧ c.height ≤ t.createdHeight + 4320 := by
  rw [window_exemption_src.2] at hm
  have hm' : t.memo ≠ rlpV2Memo := by simpa using hm
  exact accepted_in_window hd hacc hh hm'

/-- non-vacuity of `window`: inside the window the honest transaction is accepted (created at 1,
chain at height 1 and — re-encoded — at height 3), and a chain 4322 blocks later refuses it -/
example : accepted C06W.env (C06W.chain₀ false false) C06W.edRaw = true ∧
    accepted C06W.env { C06W.chain₂ false false with height := 4322 } C06W.ed_varint_pad = false := by
  refine ⟨(C06W.honest_accepted false false).1, ?_⟩
  have hd : (decodeTx C06W.ed_varint_pad).map (fun t => (t.createdHeight, t.memo)) = some (1, []) := by
    decide +kernel
  cases ht : decodeTx C06W.ed_varint_pad with
  | none =>
    rw [ht] at hd
    cases hd
  | some t =>
    rw [ht] at hd
    obtain ⟨h1, h2⟩ := Prod.mk.inj (Option.some.inj hd)
    exact window _ _ _ t ht (by decide) (by rw [h2]; decide) (.inr (by rw [h1]; decide))

/-- RLP.V2: the nonce of an accepted transaction is not below the nonce floor of its sender. The
statement only says that SOME account `sender` with this bound exists; that it is the address
`checkSignature` returned is `Replay.AcceptedFacts.sig` / `.nonce`, from which this is projected. -/
theorem nonce_floor (e : Env) (c : Chain) (raw : Bytes) (h : accepted e c raw = true) :
    ∃ t sender, decodeTx raw = some t ∧ (t.memo = rlpV2Memo → (c.account sender).nonce ≤ t.nonce) := by
  obtain ⟨t, a, g, s, snd, f⟩ := accepted_inv h
  exact ⟨t, snd, f.dec, fun hm => (f.nonce hm).1⟩

/-- executing an RLP.V2 transaction raises the sender's floor past the nonce it used, so the same
Ethereum transaction (and any other with a nonce up to it) is refused afterwards -/
theorem nonce_floor_rises (c c' : Chain) (k : Checked) (hm : k.tx.memo = rlpV2Memo)
    (h : applyChecked c k = .ok c') : (c'.account k.sender).nonce = k.tx.nonce + 1 := by
  rw [Replay.nonce_after h k.sender, if_pos ⟨hm, rfl⟩]

/-- every writer of an account nonce in fsm/*.go, and every `Account{…}` record built from scratch
(regenerated from the source): the nonce is assigned in `ApplyTransaction` only (`UnmarshalJSON` copies
it, `rlpToCanopyTransaction` fills the TRANSACTION's nonce), and no code path rebuilds an account record
field by field — a literal that left `Nonce` out would reset the RLP.V2 floor -/
theorem account_nonce_writes_src :
    Gen.Proto.accountNonceWrites =
      ["account.go:UnmarshalJSON: x.Nonce = a.Nonce",
       "ethereum.go:rlpToCanopyTransaction: transaction.Nonce = tx.Nonce()",
       "transaction.go:ApplyTransaction: account.Nonce = result.tx.Nonce + 1"] ∧
    Gen.Proto.accountLiterals = [] := ⟨rfl, rfl⟩

/-- **the nonce floor has one writer**: executing a transaction leaves every account's nonce as it
was, except that an RLP.V2 transaction sets its sender's to its own nonce + 1; in particular receiving
a send — plain or with a vesting schedule — never changes the recipient's nonce -/
theorem nonce_written_only_by_rlpv2 (c c' : Chain) (k : Checked) (h : applyChecked c k = .ok c') (a : Bytes) :
    (c'.account a).nonce =
      if k.tx.memo = rlpV2Memo ∧ k.sender = a then k.tx.nonce + 1 else (c.account a).nonce :=
  Replay.nonce_after h a

/-- … and therefore never goes down (an accepted RLP.V2 transaction has `floor ≤ nonce`: `Replay.AcceptedFacts.nonce`) -/
theorem nonce_floor_monotone (c c' : Chain) (k : Checked) (h : applyChecked c k = .ok c')
    (hf : k.tx.memo = rlpV2Memo → (c.account k.sender).nonce ≤ k.tx.nonce) (a : Bytes) :
    (c.account a).nonce ≤ (c'.account a).nonce := by
  rw [Replay.nonce_after h a]
  split
  · next hc =>
    obtain ⟨hm, rfl⟩ := hc
    exact Nat.le_succ_of_le (hf hm)
  · exact Nat.le_refl _

/-- the Ethereum-hash alias under which the indexer files an RLP-backed transaction and the hash
`CheckReplay` looks up are the same function of the raw bytes — go-ethereum's `Transaction.Hash()`, which
ignores the envelope (an EIP-4844 sidecar): the model's `Env.ethHash` / `indexedHashes` use one table for
both. A hash of the raw envelope would make the network / canonical forms of one signed blob transaction
distinct (oracle `C06:replay-by-eth-envelope-twin`). -/
theorem eth_alias_src :
    Gen.Proto.ethAliasReturns = ["return ethTx.Hash().Bytes()", "return tx.Hash().Bytes(), nil"] := rfl

/-! ## multi-signature keys: the signer bitmap's padding

A serialized `crypto.MultiPublicKey` pads its signer bitmap to whole bytes. The padding bits are
outside the sign bytes, the address and the aggregation; while the parser accepts them raised, ANYONE
can turn an included multi-signature transaction into another byte string with a valid signature
(measured on the real code: oracle `C06:replay-by-multisig-bitmap-padding`). The model carries the
repaired rule as `Chain.strictPad` (read from the source: `Gen.Proto.multisigPaddingEnforced`): -/

/-- **the code is the repaired parser** (8c75cbd): `NewMultiBLSFromPublicKey` looks at the bits of the
signer bitmap beyond the last key (fact regenerated from lib/crypto/bls.go; removing the test breaks this
theorem, the drivers then run the model without the rule, and the Go oracle replays an included multisig
send with a raised padding bit: `C06:replay-by-multisig-bitmap-padding`) -/
theorem multisig_padding_src : Gen.Proto.multisigPaddingEnforced = true := rfl

/-- an accepted transaction signed by a multi-signature key has, under the repaired parser, a bitmap of
exactly ⌈n/8⌉ bytes whose padding bits are zero -/
theorem accepted_multisig_key_unpadded (e : Env) (c : Chain) (raw : Bytes) (hp : c.strictPad = true)
    (h : accepted e c raw = true) :
    ∃ t g, decodeTx raw = some t ∧ t.signature = some g ∧
      (isRlpMemo t.memo = false → ∀ k, pkDecode g.publicKey = some (.multi, k) → multiPadOk g.publicKey = true) := by
  obtain ⟨t, a, g, s, snd, f⟩ := accepted_inv h
  refine ⟨t, g, f.dec, (checkBasic_ok f.basic).2.1, fun hr k hk => ?_⟩
  obtain ⟨sch, k', hd, _, _, _, _, hpad⟩ := checkSignature_ok hr f.sig
  rw [hk] at hd
  simp only [Option.some.injEq, Prod.mk.injEq] at hd
  exact hpad hp hd.1.symm

/-- the rule on a miniature key (three one-byte "keys", threshold 2): bitmap `05` is a key, `0d`
(padding bit 3 raised), `85` and a two-byte bitmap are not -/
example :
    multiPadOk [0x0a, 0x01, 0xaa, 0x0a, 0x01, 0xbb, 0x0a, 0x01, 0xcc, 0x12, 0x01, 0x05, 0x18, 0x02] = true ∧
    multiPadOk [0x0a, 0x01, 0xaa, 0x0a, 0x01, 0xbb, 0x0a, 0x01, 0xcc, 0x12, 0x01, 0x0d, 0x18, 0x02] = false ∧
    multiPadOk [0x0a, 0x01, 0xaa, 0x0a, 0x01, 0xbb, 0x0a, 0x01, 0xcc, 0x12, 0x01, 0x85, 0x18, 0x02] = false ∧
    multiPadOk [0x0a, 0x01, 0xaa, 0x0a, 0x01, 0xbb, 0x0a, 0x01, 0xcc, 0x12, 0x02, 0x05, 0x00, 0x18, 0x02] = false := by
  decide

end Canopy.C06
