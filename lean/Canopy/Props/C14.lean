import Canopy.Proof.Evidence
import Canopy.Proof.Slash
/-!
# C14 — slashing accountability: only provable equivocation, once, within caps

Model: `Canopy.Model.Evidence` (hand transcription of bft/evidence.go, lib/consensus.go `GetDoubleSigners`,
fsm/byzantine.go, store/indexer.go; view equality, tracker conditions and stake arithmetic are the
**generated** `Gen.Evidence.*`). Signatures are symbolic as in C02: `sig.parts` is the multiset of
individual `(key, payload)` signatures inside an aggregate; an adversary can only aggregate signatures
that exist. The model is run against the real `CheckBasic/Check/ProcessDSE/AddDSE/ValidateByzantineEvidence`
with real BLS committees and against a real `fsm.StateMachine` on every check.

Three clauses of the property were found FALSE of the code by this check:
* **expired evidence** — `ProcessDSE` asked for the minimum evidence height *as of the evidence's own root
  height*, so the bound it compared with was never above that height. Repaired in /repo (c09f5c7: the bound
  is asked as of the replica's current root height). `expired_ignored` is proved at full strength for the
  repaired wiring, which `expiry_wiring` pins from the source; the behaviour before the repair is kept as
  witness theorems (`expiry_vacuous_before_fix`, `expired_ignored_fails_before_fix`) and the Go driver keeps the
  scenario as a permanent corpus case;
* **cap** — under protocol version 1 (`IsFeatureEnabled(2) = false`, the default genesis) `SlashValidator`
  has no tracker and no cap (`cap_fails_protocol_v1`; a recorded known finding). Under version ≥ 2 the cap is
  proved (`cap_partial`);
* **only provable equivocation** — on the root chain an ELECTION_VOTE certificate, whose sign bytes cover header and
  proposer key only, was accepted as certificate results, slash list included
  (`election_certificate_carried_slash_list_before_fix`). Repaired in /repo: `MessageCertificateResults.Check` refuses
  the phase (`certificateResults_rejects_election_phase`); see (e).
-/
namespace Canopy.C14
open Canopy Canopy.Gate Canopy.Evidence
open Canopy.Gen.Evidence (viewEquals)

/-! ## (a) only provable equivocation -/

/-- the generated view equality is equality of all six fields -/
theorem viewEquals_iff (x v : View) : viewEquals (some x) (some v) = true ↔ x = v :=
  ⟨viewEquals_eq, fun h => h ▸ viewEquals_refl x⟩

/-- **implicated_sound**: if an honest replica accepts a proposer's slash list against the attached
evidence, then for every listed validator `v` — and for every height it is listed for — the attached
evidence contains two certificates with EQUAL view (`View.Equals`: height, root height, round, phase,
network, chain), each individually valid against the committee of that root height (partial allowed),
over two DIFFERENT payloads, whose aggregates both contain `v`'s own individual signature; the phase is
above PROPOSE and the root height is not below the minimum the controller answered. -/
theorem implicated_sound (env : Env) (slash : List (Option DS)) (be : List (Option DSE))
    (hacc : validateByzantineEvidence env (some slash) be = none) (ds : DS) (hds : some ds ∈ slash) :
    (∃ x ∈ be, ∃ h, Equivocation false env x ds.id h) ∧
    (∀ h ∈ ds.heights, ∃ x ∈ be, Equivocation false env x ds.id h) :=
  validate_sound hacc hds

/-- the same for `ProcessDSE` itself (what a proposer puts into its own slash list, `CalculateSlashRecipients`) -/
theorem processDSE_sound (env : Env) (be : List (Option DSE)) (res : List DS) (h : processDSE env be = .ok res)
    (d : DS) (hd : d ∈ res) : ∀ h ∈ d.heights, ∃ x ∈ be, Equivocation false env x d.id h :=
  fun h' hh' => ((processDSE_backed h d hd).2 h' hh').2

/-- evidence replayed after its slash was indexed on the root chain yields nothing new: `ProcessDSE` never
returns a (validator, height) the root chain already holds in its double-signer index -/
theorem replayed_evidence_filtered (env : Env) (be : List (Option DSE)) (res : List DS) (h : processDSE env be = .ok res)
    (d : DS) (hd : d ∈ res) : ∀ h ∈ d.heights, env.alreadySlashed d.id h = false :=
  fun h' hh' => ((processDSE_backed h d hd).2 h' hh').1

/-- a leader only pools evidence (`AddDSE`) that proves somebody's equivocation -/
theorem pooled_evidence_sound (env : Env) (dup : Bool) (x : Option DSE) (h : addDSE env dup x = .added) :
    ∃ k hh, Equivocation false env (x.map strip) k hh := addDSE_sound h

/-- what the signatures that exist say about a key: at most one payload per view -/
def SignsOncePerView (world : List (KeyId × Payload)) (k : KeyId) : Prop :=
  ∀ p q, (k, p) ∈ world → (k, q) ∈ world → p.header = q.header → p = q

/-- every individual signature inside every aggregate of the evidence exists in the world
(M-sig: aggregates are assembled from existing signatures; re-ordering, re-pairing, sub-aggregating,
replaying and cross-committee reuse are all allowed) -/
def AssembledFrom (world : List (KeyId × Payload)) (be : List (Option DSE)) : Prop :=
  ∀ a b, some ⟨a, b⟩ ∈ be → ∀ q, (a = some q ∨ b = some q) → ∀ sig, q.signature = some sig → ∀ s ∈ sig.parts, s ∈ world

/-- no evidence assembled from existing signatures shows an equivocation of a key that signed at most one
payload per view: the two payloads of an `Equivocation` carry the same view and both bear the key's signature -/
theorem not_equivocation_of_signsOnce {world : List (KeyId × Payload)} {k : KeyId} (hk : SignsOncePerView world k)
    {be : List (Option DSE)} (hw : AssembledFrom world be) {preFix : Bool} {env : Env} {x : Option DSE} (hx : x ∈ be)
    {h : UInt64} : ¬ Equivocation preFix env x k h := by
  rintro ⟨a, b, hd, ms, sa, sb, minH, rfl, va, vb, -, -, -, hne, pa, pb, -⟩
  have wa := hw _ _ hx a (Or.inl rfl) sa va.signature _ pa
  have wb := hw _ _ hx b (Or.inr rfl) sb vb.signature _ pb
  exact hne (hk _ _ wa wb (by rw [signPayload_header, signPayload_header]))

/-- **honest_never_implicated**: a validator whose existing signatures cover at most one payload per view
is in no accepted slash list, whatever evidence is assembled from the signatures that exist. -/
theorem honest_never_implicated (world : List (KeyId × Payload)) (k : KeyId) (hk : SignsOncePerView world k)
    (env : Env) (slash : List (Option DS)) (be : List (Option DSE)) (hw : AssembledFrom world be)
    (hacc : validateByzantineEvidence env (some slash) be = none) :
    ∀ ds, some ds ∈ slash → ds.id ≠ k := by
  intro ds hds hid
  obtain ⟨⟨x, hx, h, e⟩, -⟩ := implicated_sound env slash be hacc ds hds
  exact not_equivocation_of_signsOnce hk hw hx (hid ▸ e)

/-- and it is in no list `ProcessDSE` computes -/
theorem honest_never_in_processDSE (world : List (KeyId × Payload)) (k : KeyId) (hk : SignsOncePerView world k)
    (env : Env) (be : List (Option DSE)) (hw : AssembledFrom world be) (res : List DS)
    (h : processDSE env be = .ok res) : ∀ d ∈ res, d.id ≠ k := by
  intro d hd hid
  obtain ⟨x, hx, h0, e⟩ := (processDSE_backed h).equivocation hd
  exact not_equivocation_of_signsOnce hk hw hx (hid ▸ e)

/-! ### non-vacuity: a real equivocation that IS slashed, and the honest co-signers that are not -/

/-- the error of a failed call (`Except` has no decidable equality of its own) -/
def errOf {α} : Except String α → Option String
  | .error e => some e
  | .ok _ => none

def exView : View := { height := 50, round := 0, phase := 6, rootHeight := 3, networkId := 1, chainId := 7 }
def exMembers : List Member := [⟨[1], 10⟩, ⟨[2], 10⟩, ⟨[3], 10⟩, ⟨[4], 10⟩]
def h32 (b : UInt8) : Bytes := List.replicate 32 b
def exPay (blk : UInt8) : Payload := { header := exView, blockHash := h32 blk, resultsHash := h32 8, proposerKey := [] }
def exQC (blk : UInt8) (bm : List Bool) (signers : List KeyId) : QC :=
  { header := some exView, blockHash := some (h32 blk), resultsHash := some (h32 8), proposerKey := none, block := none, results := none,
    signature := some { lenOK := true, parts := signers.map (·, exPay blk), group := exMembers.map (·.key), bitmap := bm } }
/-- block 9 signed by 1, 2, 3; block 5 signed by 1 and 4: validator 1 equivocated, 2, 3, 4 signed once -/
def exA : QC := exQC 9 [true, true, true, false, false, false, false, false] [[1], [2], [3]]
def exB : QC := exQC 5 [true, false, false, true, false, false, false, false] [[1], [4]]
def exEvidence : Option DSE := some ⟨some exA, some exB⟩
def exEnvAt (root : UInt64) (minAt : UInt64 → Option UInt64) : Env :=
  { networkId := 1, chainId := 7, rootHeight := root, globalMaxBlockSize := 100000, committeeAt := fun r => if r == 3 then some exMembers else none,
    minEvidenceAt := minAt, alreadySlashed := fun _ _ => false }
def exEnv := exEnvAt 4

/-- the equivocator is found (and only the equivocator) … -/
example : (processDSE (exEnv fun _ => some 0) [exEvidence]).toOption = some [⟨[1], [3]⟩] := by decide +kernel
/-- … a slash list naming it is accepted … -/
example : validateByzantineEvidence (exEnv fun _ => some 0) (some [some ⟨[1], [3]⟩]) [exEvidence] = none := by decide +kernel
/-- … a list that adds the honest co-signer 2, or another height, is refused … -/
example : validateByzantineEvidence (exEnv fun _ => some 0) (some [some ⟨[1], [3]⟩, some ⟨[2], [3]⟩]) [exEvidence] =
    some Gen.Err.lib.ErrMismatchEvidenceAndHeader := by decide +kernel
example : validateByzantineEvidence (exEnv fun _ => some 0) (some [some ⟨[1], [3, 4]⟩]) [exEvidence] =
    some Gen.Err.lib.ErrMismatchEvidenceAndHeader := by decide +kernel
/-- … the same certificate twice, or two aggregates over one payload, is not evidence -/
example : errOf (processDSE (exEnv fun _ => some 0) [some ⟨some exA, some exA⟩]) = some Gen.Err.lib.ErrNonEquivocatingVote := by decide +kernel
/-- the honest hypothesis is satisfiable and the equivocator does not satisfy it -/
example : SignsOncePerView [([1], exPay 9), ([2], exPay 9), ([1], exPay 5)] [2] := by
  intro p q hp hq _
  -- key 2 occurs once in the world, with `exPay 9`
  have ne : (2 : UInt8) ≠ 1 := by decide
  simp only [List.mem_cons, Prod.mk.injEq, List.mem_nil_iff, List.cons.injEq, ne, and_true, true_and, false_and,
    false_or, or_false] at hp hq
  rw [hp, hq]
example : ¬ SignsOncePerView [([1], exPay 9), ([2], exPay 9), ([1], exPay 5)] [1] := by
  intro h
  have := h (exPay 9) (exPay 5) (by simp) (by simp) rfl
  exact absurd this (by decide)

/-! ## (b) at most once per (validator, height) -/

/-- **once**: over any sequence of blocks, each containing any slashing operations (any proposer-supplied
double-signer lists — supersets, repeats, replays of earlier blocks — and any other slashes), no
(validator, height) pair is handed to the double-sign slash twice: the index is checked before, and
written together with, every slash. (Failed operations leave no trace: C07.) -/
theorem once (P : Params) (addrOf : KeyId → Option Addr) (L : Ledger) (hL : OnceInv L) (blocks : List (List Op)) :
    (runBlocks P addrOf L blocks).slashLog.Nodup :=
  (runBlocks_once P addrOf blocks L hL).1

/-- the initial ledger satisfies the invariant -/
theorem once_init (vals : Addr → Option Val) : OnceInv { Ledger.empty with vals := vals } :=
  ⟨List.nodup_nil, fun _ h => (List.not_mem_nil h).elim⟩

/-- one call: success means every listed (validator, height) was not yet in the index and is afterwards -/
theorem once_step (P : Params) (addrOf : KeyId → Option Addr) (L L' : Ledger) (hL : OnceInv L) (c : UInt64)
    (dss : List (Option DS)) (h : handleDoubleSigners P addrOf L c dss = .ok L') :
    ∀ ds, some ds ∈ dss → ∃ a, addrOf ds.id = some a ∧ ∀ x ∈ ds.heights, L.indexed a x = false ∧ L'.indexed a x = true := by
  obtain ⟨L1, sl, h1, rfl⟩ := handleDoubleSigners_ok h
  obtain ⟨-, i3⟩ := indexAll_ok h1
  intro ds hds
  obtain ⟨a, ha, hh⟩ := i3 ds hds
  exact ⟨a, ha, fun x hx => by rw [(slashValidators_index P c P.dsPercent sl L1).1]; exact hh x hx⟩

/-- a replay is refused as a whole -/
theorem replay_rejected (P : Params) (addrOf : KeyId → Option Addr) (L : Ledger) (hL : OnceInv L) (c : UInt64)
    (dss : List (Option DS)) (ds : DS) (hds : some ds ∈ dss) (a : Addr) (ha : addrOf ds.id = some a)
    (x : UInt64) (hx : x ∈ ds.heights) (hidx : L.indexed a x = true) :
    ∃ e, handleDoubleSigners P addrOf L c dss = .error e := by
  cases h : handleDoubleSigners P addrOf L c dss with
  | error e => exact ⟨e, rfl⟩
  | ok L' =>
    obtain ⟨a', ha', hh⟩ := once_step P addrOf L L' hL c dss h ds hds
    rw [ha] at ha'; cases ha'
    rw [(hh x hx).1] at hidx; contradiction

def exAddrOf : KeyId → Option Addr := fun k => some k
def exLedger : Ledger := { Ledger.empty with vals := fun a => if a == [1] then some ⟨1000, [1, 2], false⟩ else none }
def exP : Params := { committeeScoped := true, maxSlash := 15, dsPercent := 10 }

/-- non-vacuity: the first slash for (validator 1, height 3) happens (1000 → 900), the replay in the next block is refused -/
example : stakeOf (runBlocks exP exAddrOf exLedger [[.doubleSign 1 [some ⟨[1], [3]⟩]]]) [1] = 900 := by decide +kernel
example : errOf (handleDoubleSigners exP exAddrOf (runBlocks exP exAddrOf exLedger [[.doubleSign 1 [some ⟨[1], [3]⟩]]]) 1 [some ⟨[1], [3]⟩]) =
    some Gen.Err.lib.ErrInvalidDoubleSigner := by decide +kernel

/-! ## (c) expired evidence -/

/-- FULL STATEMENT of the clause "expired evidence is ignored", for the node as it is wired: the replica is at
root height `r` (`b.RootHeight`, `0 < r ≤` the root chain's height `cur`), the unstaking period is `ub`, and
`LoadMinimumEvidenceHeight(_, h)` is answered by the root chain's RPC (`TimeMachine(h)` then
`LoadMinimumEvidenceHeight`, i.e. `wiredMinEvidence cur ub h`). Then no accepted slash rests on evidence whose root
height lies before the unstaking window that ends at `r`. `preFix` selects the wiring before / after repair c09f5c7. -/
def ExpiredIgnored (preFix : Bool) : Prop :=
  ∀ (cur ub : UInt64) (env : Env), env.rootHeight ≠ 0 → env.rootHeight ≤ cur →
    (∀ h, env.minEvidenceAt h = some (wiredMinEvidence cur ub h)) →
    ∀ (slash : List (Option DS)) (be : List (Option DSE)) (ds : DS) (h : UInt64),
      validateByzantineEvidenceWith preFix env (some slash) be = none → some ds ∈ slash → h ∈ ds.heights →
      ¬ h < Gen.Evidence.minEvidenceHeight env.rootHeight ub

/-- whatever bound the controller answers: every accepted (validator, height) has `bound ≤ height` -/
theorem expired_ignored_bound (env : Env) (bound : UInt64) (hbound : env.minEvidenceAt env.rootHeight = some bound)
    (slash : List (Option DS)) (be : List (Option DSE))
    (hacc : validateByzantineEvidence env (some slash) be = none) (ds : DS) (hds : some ds ∈ slash) :
    ∀ h ∈ ds.heights, bound ≤ h := by
  intro h hh
  obtain ⟨x, -, e⟩ := (implicated_sound env slash be hacc ds hds).2 h hh
  obtain ⟨minH, hm, hle⟩ := e.minHeight
  cases hbound.symm.trans hm
  exact hle

/-- **expired_ignored** (full strength, the repaired wiring): expired evidence never supports an accepted slash. -/
theorem expired_ignored : ExpiredIgnored false := by
  intro cur ub env h0 hle hwire slash be ds h hacc hds hh
  -- asked as of the replica's own root height, the wired bound is not clamped
  exact UInt64.not_lt.mpr (wiredMinEvidence_of_le h0 hle ▸
    expired_ignored_bound env _ (hwire _) slash be hacc ds hds h hh)

/-- the check itself: evidence below the minimum handed to `Check` is rejected with ErrEvidenceTooOld, first of all -/
theorem check_expired (env : Env) (a b : QC) (ha hb : View) (ms : List Member) (m : UInt64) (h : ha.rootHeight < m) :
    check env a b ha hb ms m = some Gen.Err.lib.ErrEvidenceTooOld := by
  unfold check
  exact if_pos h

/-- one expired piece of evidence makes the whole proposal's evidence fail -/
theorem expired_fails_list (env : Env) (be : List (Option DSE)) (a b : QC) (hd : View) (ms : List Member) (m : UInt64)
    (hx : some ⟨some a, some b⟩ ∈ be) (ha : a.header = some hd) (hb : b.header = some hd)
    (hms : env.committeeAt hd.rootHeight = some ms) (hm : env.minEvidenceAt env.rootHeight = some m) (hexp : hd.rootHeight < m)
    (slash : List (Option DS)) (hne : slash ≠ []) : validateByzantineEvidence env (some slash) be ≠ none := by
  have hone : processOneWith false env (some ⟨some a, some b⟩) = .error Gen.Err.lib.ErrEvidenceTooOld := by
    unfold processOneWith unpack
    simp only [ha, hb, viewEquals_refl, Bool.not_true, Bool.false_eq_true, ↓reduceIte, hms, hm, check_expired env a b hd hd ms m hexp]
  obtain ⟨e', he'⟩ := processDSEFrom_error be [] hx hone
  intro hacc
  obtain ⟨_, hproc, -⟩ := validate_none hne hacc
  rw [processDSEWith, he'] at hproc
  cases hproc

/-- the wiring, pinned from the source on every run: `ProcessDSE` asks as of `b.RootHeight` (c09f5c7), the
controller forwards to the root chain's RPC, whose handler evaluates `LoadMinimumEvidenceHeight` on
`TimeMachine(requested height)` -/
theorem expiry_wiring :
    Gen.Evidence.processDSE_minHeightArgs = "rootChainId, b.RootHeight" ∧
    Gen.Evidence.processDSE_committeeHeight = "x.VoteA.Header.RootHeight" ∧
    Gen.Evidence.src_controllerLoadMin = "return c.RCManager.GetMinimumEvidenceHeight(rootChainId, rootHeight)" ∧
    Gen.Evidence.src_rcManagerGetMin = "return sub.MinimumEvidenceHeight(height)" ∧
    Gen.Evidence.src_clientMin = "p = new(uint64); err = c.heightRequest(MinimumEvidenceHeightRouteName, height, p); return" ∧
    Gen.Evidence.src_serverMin = "s.heightParams(w, r, func(...){return s.LoadMinimumEvidenceHeight()})" ∧
    Gen.Evidence.src_timeMachineClamp = "if height == 0 || height > s.height { height = s.height }" :=
  ⟨rfl, rfl, rfl, rfl, rfl, rfl, rfl⟩

/-! ### the behaviour before repair c09f5c7, kept as witnesses -/

/-- before the repair `ProcessDSE` asked for the bound as of the evidence's own root height `h`: that bound is
never above `h`, for every root-chain height and unstaking period — the expiry test of `Check` could not fire
(root height 0 aside). -/
theorem expiry_vacuous_before_fix (cur ub h : UInt64) (h0 : h ≠ 0) : ¬ h < wiredMinEvidence cur ub h := by
  -- the state asked is clamped to a height `x ≤ h`, and the bound answered there is at most `x`
  unfold wiredMinEvidence
  have hz : (h == 0) = false := beq_eq_false_iff_ne.mpr h0
  rw [hz, Bool.false_or, UInt64.not_lt]
  refine UInt64.le_trans (minEvidenceHeight_le _ ub) ?_
  split
  · rename_i hc; exact UInt64.le_of_lt (of_decide_eq_true hc)
  · exact UInt64.le_refl h

/-- **before the repair the full statement was false**: replica and root chain at height 1000, unstaking period 2
(minimum evidence height 998); the equivocation of root height 3 was accepted. The Go driver keeps the scenario the
oracle found (root chain at 10, unstaking 3, evidence of root height 6) as a corpus case that the repaired code must reject. -/
theorem expired_ignored_fails_before_fix : ¬ ExpiredIgnored true := by
  intro h
  have := h 1000 2 (exEnvAt 1000 fun r => some (wiredMinEvidence 1000 2 r)) (by decide) (by decide) (fun _ => rfl)
    [some ⟨[1], [3]⟩] [exEvidence] ⟨[1], [3]⟩ 3 (by decide +kernel) List.mem_cons_self List.mem_cons_self
  exact this (by decide +kernel)

/-- the same evidence, same state, after the repair: refused as too old -/
example : validateByzantineEvidenceWith false (exEnvAt 1000 fun r => some (wiredMinEvidence 1000 2 r))
    (some [some ⟨[1], [3]⟩]) [exEvidence] = some Gen.Err.lib.ErrEvidenceTooOld := by decide +kernel

/-! ## (d) the per-committee cap within one block -/

/-- FULL STATEMENT of the cap clause for parameters `P`: within one block, whatever slashing operations it
contains, the percentages charged to any (validator, committee) add up to at most `MaxSlashPerCommittee`. -/
def CapHolds (P : Params) : Prop :=
  ∀ (addrOf : KeyId → Option Addr) (L : Ledger) (ops : List Op), OpsBounded P ops →
    ∀ a c, (runBlock P addrOf L ops).charged a c ≤ P.maxSlash.toNat

/-- **cap_partial**: under protocol version ≥ 2 (committee-scoped slashing) the cap holds, for every block
content; the tracker is exactly the sum charged. (`OpsBounded`, `hds`: the percentages do not wrap 64 bits —
always true of the percentages `ValidatorParams.Check` admits, which are ≤ 100.) -/
theorem cap_partial (P : Params) (hs : P.committeeScoped = true) (hds : P.dsPercent.toNat + P.maxSlash.toNat < 2 ^ 64) :
    CapHolds P := by
  intro addrOf L ops hb a c
  exact ((runOps_cap addrOf hs hds ops hb (newBlock L) newBlock_cap) a c).2

/-- and the tracker the code keeps is exactly what was charged -/
theorem tracker_exact (P : Params) (hs : P.committeeScoped = true) (hds : P.dsPercent.toNat + P.maxSlash.toNat < 2 ^ 64)
    (addrOf : KeyId → Option Addr) (L : Ledger) (ops : List Op) (hb : OpsBounded P ops) (a : Addr) (c : UInt64) :
    ((runBlock P addrOf L ops).tracker a c).toNat = (runBlock P addrOf L ops).charged a c :=
  ((runOps_cap addrOf hs hds ops hb (newBlock L) newBlock_cap) a c).1

/-- the tracker is written before the first state change and before every return other than the two "nothing
happens" returns of the protocol-v2 block: no early return of `SlashValidator` (validator deleted, validator
force-unstaked because the slash left it below the minimum stake, store errors) can leave a stake cut that the
tracker does not know about. Pinned from the source on every run; `applySlash` of the model relies on it. -/
theorem tracker_updated_before_early_returns :
    Gen.Evidence.slashValidator[Gen.Evidence.slashValidator_addSlashLine]? =
      some "  s.slashTracker.AddSlash(validator.Address, chainId, percent)" ∧
    Gen.Evidence.slashValidator[Gen.Evidence.slashValidator_firstChangeLine]? =
      some "if err = s.SubFromTotalSupply(slashAmount); err != nil {" ∧
    Gen.Evidence.slashValidator_addSlashLine < Gen.Evidence.slashValidator_firstChangeLine ∧
    Gen.Evidence.slashValidator_returnLines.filter (· < Gen.Evidence.slashValidator_addSlashLine) = [3, 7] ∧
    Gen.Evidence.slashValidator[3]? = some "    return nil" ∧ Gen.Evidence.slashValidator[7]? = some "    return nil" :=
  ⟨rfl, rfl, by decide, rfl, rfl, rfl⟩

def exPmin : Params := { committeeScoped := true, maxSlash := 15, dsPercent := 10, minStake := 950 }

/-- non-vacuity of the force-unstake branch: stake 1000, minimum 950, three double-sign heights in one entry:
1000 → 900 (below the minimum: force-unstaked, still a member, tracker 10) → 855 (cut to the remaining 5 %,
ejected) → third slash refused; 15 % charged in total -/
example : (runBlock exPmin exAddrOf exLedger [.doubleSign 1 [some ⟨[1], [1, 2, 3]⟩]]).vals [1] = some ⟨855, [2], true⟩ ∧
    (runBlock exPmin exAddrOf exLedger [.doubleSign 1 [some ⟨[1], [1, 2, 3]⟩]]).charged [1] 1 = 15 := by decide +kernel

def exP1 : Params := { committeeScoped := false, maxSlash := 15, dsPercent := 10 }

/-- **the full statement is false under protocol version 1**: two 10 % slashes by committee 1 in one block charge 20 % > 15 %
(1000 → 900 → 810 < 850). The Go oracle reproduces this on a real state machine at protocol version 1
(signature `C14:slash-cap-not-enforced-protocol-v1`). -/
theorem cap_fails_protocol_v1 : ¬ CapHolds exP1 := by
  intro h
  have hb : OpsBounded exP1 [.slash 1 10 [[1]], .slash 1 10 [[1]]] := by
    intro op hop
    simp at hop
    rcases hop with rfl | rfl <;> decide
  exact absurd (h exAddrOf exLedger _ hb [1] 1) (by decide +kernel)
example : stakeOf (runBlock exP1 exAddrOf exLedger [.slash 1 10 [[1]], .slash 1 10 [[1]]]) [1] = 810 := by decide +kernel
/-- non-vacuity under version 2: the second slash is cut to the remaining 5 % and the validator leaves the committee -/
example : stakeOf (runBlock exP exAddrOf exLedger [.slash 1 10 [[1]], .slash 1 10 [[1]]]) [1] = 855 ∧
    (runBlock exP exAddrOf exLedger [.slash 1 10 [[1]], .slash 1 10 [[1]]]).charged [1] 1 = 15 ∧
    (runBlock exP exAddrOf exLedger [.slash 1 10 [[1]], .slash 1 10 [[1]]]).vals [1] = some ⟨855, [2], false⟩ := by decide +kernel

/-- **the stake bound, exactly**: under protocol version ≥ 2 with cap `M ≤ 100`, if within one block committee `c`
slashes validator `a` any number `n` of times (any percentages), then
`stake_before · (100 − M) ≤ 100 · stake_after + 100 · n`,
i.e. `stake_after ≥ stake_before·(100−M)/100 − n`: the cap, minus one unit of rounding per slash
(a deleted validator counts as stake 0). -/
theorem cap_stake_bound (P : Params) (hs : P.committeeScoped = true) (hmax : P.maxSlash.toNat ≤ 100)
    (L : Ledger) (a : Addr) (c : UInt64) (ps : List UInt64) (hps : ∀ p ∈ ps, p.toNat + P.maxSlash.toNat < 2 ^ 64) :
    (stakeOf L a).toNat * (100 - P.maxSlash.toNat) ≤
      100 * (stakeOf (ps.foldl (fun L p => slashValidators P L c p [a]) (newBlock L)) a).toNat + 100 * ps.length :=
  -- the potential of a fresh block, nothing charged yet, is the left side
  slashMany_potential hs hmax a c ps hps (newBlock L) newBlock_cap

/-- one slash, exactly: the stake left is `⌊stake·(100−percent)/100⌋` -/
theorem slash_exact (s p : UInt64) (hp : p.toNat ≤ 100) :
    (Gen.Evidence.stakeAfterSlash s p).toNat = s.toNat * (100 - p.toNat) / 100 :=
  stakeAfterSlash_floor s p hp

/-! ## (e) the slash list of a nested committee on the root chain (certificate-results transactions)

A nested chain's slash list reaches `HandleDoubleSigners` of the root chain inside the `Results` of a certificate
of the nested committee. `QuorumCertificate.SignBytes` of an ELECTION_VOTE certificate covers header and proposer
key only, and `CheckBasic` lets such a certificate carry `Results`/`ResultsHash`/`BlockHash` (that is the shape of
the PROPOSE message). Found by this check: the root chain accepted it as certificate results, so the proposer a
committee had elected — one Byzantine member — could attach a slash list of its own making and have honest
validators slashed. Repaired: `MessageCertificateResults.Check` refuses ELECTION_VOTE certificates. -/

/-- **certificate_results_sound**: an accepted certificate-results transaction carries a certificate that is not an
ELECTION_VOTE certificate, whose aggregate consists of the individual signatures — over a payload that contains
exactly the hash of the attached results — of members of the committee in force at its root height holding +2/3,
and the transaction was signed by the certificate's proposer. So the slash list inside the results is one that
+2/3 of the committee signed (each honest signer after `ValidateByzantineEvidence`, `implicated_sound`). -/
theorem certificate_results_sound (env : Env) (P : Params) (addrOf : KeyId → Option Addr) (L : Ledger) (cd : CommitteeData)
    (q : QC) (signedByProposer : Bool) (slash : Option (List (Option DS))) (r : Ledger × CommitteeData)
    (h : certificateResults env P addrOf L cd q signedByProposer slash = .ok r) :
    CertifiedResults env q ∧ signedByProposer = true :=
  certificateResults_certified h

/-- every selected signer's own signature over the payload naming these results is inside the aggregate -/
theorem certificate_results_signed (env : Env) (P : Params) (addrOf : KeyId → Option Addr) (L : Ledger) (cd : CommitteeData)
    (q : QC) (sp : Bool) (slash : Option (List (Option DS))) (r : Ledger × CommitteeData)
    (h : certificateResults env P addrOf L cd q sp slash = .ok r) :
    ∃ hd ms sig res, q.header = some hd ∧ env.committeeAt hd.rootHeight = some ms ∧ q.signature = some sig ∧
      q.results = some res ∧ (payloadOf q hd).resultsHash = res.hash ∧
      ∀ k ∈ (selected sig.bitmap ms).map (·.key), (k, payloadOf q hd) ∈ sig.parts := by
  obtain ⟨⟨hd, ms, sig, res, e1, _, e3, e4, e5, _, e7, e8, _⟩⟩ := (certificateResults_certified h).1
  exact ⟨hd, ms, sig, res, e1, e3, e4, e5, e8, agg_parts e7⟩

/-- the sign bytes of an ELECTION_VOTE certificate are blind to whatever results are attached -/
theorem election_sign_bytes_ignore_results (q q' : QC) (hd : View) (h : hd.phase = Gen.Evidence.phaseElectionVote)
    (hp : q.proposerKey = q'.proposerKey) : signPayload q hd = signPayload q' hd := by
  unfold signPayload
  simp [h, hp]

def exElectionView : View := { exView with phase := 2 }
/-- the committee elected member 4 (unanimously); member 4 attaches results of its own making -/
def exForged : QC :=
  { header := some exElectionView, blockHash := some (h32 1), resultsHash := some (h32 7), proposerKey := some [4],
    block := none, results := some ⟨true, h32 7⟩,
    signature := some { lenOK := true, group := exMembers.map (·.key), bitmap := [true, true, true, true, false, false, false, false],
                        parts := exMembers.map fun m => (m.key, { header := exElectionView, blockHash := [], resultsHash := [], proposerKey := [4] }) } }
def exLedger2 : Ledger :=
  { Ledger.empty with vals := fun a => if a == [2] || a == [4] then some ⟨1000, [1, 7], false⟩ else none }

/-- **before the repair** the forged transaction was accepted and honest member 2 — one signature in that view —
lost 10 %: reproduced on the real state machine by the Go oracle
(`C14:honest-validator-implicated:election-certificate-carries-slash-list`) -/
theorem election_certificate_carried_slash_list_before_fix :
    (certificateResultsWith false (exEnv fun _ => some 0) exP exAddrOf exLedger2 {} exForged true (some [some ⟨[2], [3]⟩])).toOption.map
      (fun r => stakeOf r.1 [2]) = some 900 := by decide +kernel

/-- the same transaction under the repaired check: refused for its phase -/
example : errOf (certificateResults (exEnv fun _ => some 0) exP exAddrOf exLedger2 {} exForged true (some [some ⟨[2], [3]⟩])) =
    some Gen.Err.lib.ErrWrongPhase := by decide +kernel

/-- non-vacuity: results that +2/3 signed in PRECOMMIT_VOTE are accepted and their slash list is applied -/
def exSigned : QC :=
  { header := some exView, blockHash := some (h32 1), resultsHash := some (h32 7), proposerKey := some [2],
    block := none, results := some ⟨true, h32 7⟩,
    signature := some { lenOK := true, group := exMembers.map (·.key), bitmap := [true, true, true, false, false, false, false, false],
                        parts := [[1], [2], [3]].map fun k => (k, { header := exView, blockHash := h32 1, resultsHash := h32 7, proposerKey := [2] }) } }
example : (certificateResults (exEnv fun _ => some 0) exP exAddrOf exLedger2 {} exSigned true (some [some ⟨[4], [3]⟩])).toOption.map
    (fun r => (stakeOf r.1 [4], r.2)) = some (900, ⟨3, 50⟩) := by decide +kernel
/-- … the same certificate sent by somebody other than its proposer, or with other results, is refused -/
example : errOf (certificateResults (exEnv fun _ => some 0) exP exAddrOf exLedger2 {} exSigned false (some [some ⟨[4], [3]⟩])) =
    some Gen.Evidence.fsmErrUnauthorizedTx := by decide +kernel
example : errOf (certificateResults (exEnv fun _ => some 0) exP exAddrOf exLedger2 {}
    { exSigned with resultsHash := some (h32 6), results := some ⟨true, h32 6⟩ } true (some [some ⟨[1], [3]⟩])) =
    some Gen.Err.lib.ErrInvalidAggrSignature := by decide +kernel

/-- **the repair is in the source** (pinned on every run): `MessageCertificateResults.Check` refuses ELECTION_VOTE
certificates, after `CheckBasic` (so the header exists) -/
theorem certificateResults_rejects_election_phase :
    Gen.Evidence.certResultsCheck.idxOf "if err := x.Qc.CheckBasic(); err != nil {" <
      Gen.Evidence.certResultsCheck.idxOf "if x.Qc.Header.Phase == lib.Phase_ELECTION_VOTE {" ∧
    Gen.Evidence.certResultsCheck[Gen.Evidence.certResultsCheck.idxOf "if x.Qc.Header.Phase == lib.Phase_ELECTION_VOTE {" + 1]? =
      some "  return lib.ErrWrongPhase()" := by
  -- the lines are told apart as propositions `"…" = "…"` between literals, which `simp` refutes directly;
  -- evaluating `==` on strings is far slower to check
  simp only [Gen.Evidence.certResultsCheck, List.idxOf_cons, Bool.beq_eq_decide_eq, String.reduceEq, decide_false, decide_true,
    cond_false, cond_true]
  exact ⟨by decide, rfl⟩

theorem certResultsCheck_shape : Gen.Evidence.certResultsCheck = [
  "if x == nil {",
  "  return ErrEmptyCertificateResults()",
  "}",
  "if err := x.Qc.CheckBasic(); err != nil {",
  "  return err",
  "}",
  "results := x.Qc.Results",
  "if results == nil {",
  "  return ErrEmptyCertificateResults()",
  "}",
  "if x.Qc.Block != nil {",
  "  return lib.ErrNilBlock()",
  "}",
  "if x.Qc.Header.Phase == lib.Phase_ELECTION_VOTE {",
  "  return lib.ErrWrongPhase()",
  "}",
  "if err := checkChainId(x.Qc.Header.ChainId); err != nil {",
  "  return err",
  "}",
  "if err := results.RewardRecipients.CheckBasic(); err != nil {",
  "  return err",
  "}",
  "if results.RewardRecipients.NumberOfSamples != 0 {",
  "  return ErrInvalidNumOfSamples()",
  "}",
  "if results.Checkpoint != nil {",
  "  if len(results.Checkpoint.BlockHash) > 100 {",
  "    return lib.ErrInvalidBlockHash()",
  "  }",
  "}",
  "return checkOrders(results.Orders)"] := rfl

theorem handleMessageCertificateResults_shape : Gen.Evidence.handleMessageCertificateResults = [
  "rootChainId, err := s.GetRootChainId()",
  "if err != nil {",
  "  return err",
  "}",
  "if msg.Qc.Header.ChainId == rootChainId || msg.Qc.Header.ChainId == s.Config.ChainId {",
  "  return ErrInvalidCertificateResults()",
  "}",
  "chainId := msg.Qc.Header.ChainId",
  "var committee *lib.ValidatorSet",
  "if s.LastValidatorSet != nil {",
  "  committee = s.LastValidatorSet[msg.Qc.Header.RootHeight + 1][chainId]",
  "}",
  "if committee == nil {",
  "  valSet, err := s.LoadCommittee(chainId, msg.Qc.Header.RootHeight)",
  "  if err != nil {",
  "    return err",
  "  }",
  "  committee = &valSet",
  "}",
  "isPartialQC, err := msg.Qc.Check(*committee, 0, &lib.View{NetworkId: uint64(s.NetworkID), ChainId: chainId}, false)",
  "if err != nil {",
  "  return err",
  "}",
  "if isPartialQC {",
  "  return lib.ErrNoMaj23()",
  "}",
  "err = s.HandleCertificateResults(msg.Qc, committee)",
  "return err"] := rfl

theorem handleCertificateResults_shape : Gen.Evidence.handleCertificateResults = [
  "if qc == nil || qc.Results == nil {",
  "  return lib.ErrNilCertResults()",
  "}",
  "if qc.Header == nil {",
  "  return lib.ErrEmptyView()",
  "}",
  "if qc.Results.RewardRecipients == nil {",
  "  return lib.ErrNilRewardRecipients()",
  "}",
  "retired, err := s.CommitteeIsRetired(qc.Header.ChainId)",
  "if err != nil {",
  "  return err",
  "}",
  "if retired {",
  "  return ErrNonSubsidizedCommittee()",
  "}",
  "data, err := s.GetCommitteeData(qc.Header.ChainId)",
  "if err != nil {",
  "  return err",
  "}",
  "if qc.Header.RootHeight < data.LastRootHeightUpdated {",
  "  return lib.ErrInvalidQCRootChainHeight()",
  "}",
  "if qc.Header.Height <= data.LastChainHeightUpdated {",
  "  return lib.ErrInvalidQCCommitteeHeight()",
  "}",
  "results, chainId, isNested := qc.Results, qc.Header.ChainId, committee == nil",
  "if qc.Header.ChainId != s.Config.ChainId || isNested {",
  "  if err = s.HandleDexBatch(qc.Header.ChainId, results, isNested); err != nil {",
  "    return err",
  "  }",
  "}",
  "s.HandleCommitteeSwaps(results.Orders, chainId)",
  "if err = s.HandleCheckpoint(chainId, results); err != nil {",
  "  return err",
  "}",
  "nonSignerPercent, err := s.HandleByzantine(qc, committee)",
  "if err != nil {",
  "  return err",
  "}",
  "for i, p := range results.RewardRecipients.PaymentPercents {",
  "  if p == nil {",
  "    return lib.ErrInvalidPercentAllocation()",
  "  }",
  "  results.RewardRecipients.PaymentPercents[i].Percent = lib.Uint64ReducePercentage(p.Percent, uint64(nonSignerPercent))",
  "}",
  "if qc.Results.Retired && qc.Header.ChainId != s.Config.ChainId {",
  "  if err = s.RetireCommittee(qc.Header.ChainId); err != nil {",
  "    return err",
  "  }",
  "}",
  "err = s.UpsertCommitteeData(&lib.CommitteeData{ChainId: chainId, LastRootHeightUpdated: qc.Header.RootHeight, LastChainHeightUpdated: qc.Header.Height, PaymentPercents: results.RewardRecipients.PaymentPercents})",
  "if err != nil {",
  "  return err",
  "}",
  "return nil"] := rfl

theorem certResults_signer_and_errors :
    Gen.Evidence.src_certResultsAuthorizedSigner = "address, e := s.pubKeyBytesToAddress(x.Qc.ProposerKey); if e != nil { return nil, e }; return [][]byte{address}, nil" ∧
    Gen.Evidence.fsmErrUnauthorizedTx = "state_machine/3" ∧ Gen.Evidence.fsmErrEmptyCertificateResults = "state_machine/89" :=
  ⟨rfl, rfl, rfl⟩

/-! ## the code has the shape the model transcribes (pinned from the source on every run) -/

theorem dseCheckBasic_shape : Gen.Evidence.dseCheckBasic = [
  "if x == nil {",
  "  return lib.ErrEmptyEvidence()",
  "}",
  "if x.VoteA == nil || x.VoteB == nil || x.VoteA.Header == nil || x.VoteB.Header == nil {",
  "  return lib.ErrEmptyQuorumCertificate()",
  "}",
  "if !x.VoteA.Header.Equals(x.VoteB.Header) {",
  "  return lib.ErrMismatchEvidenceAndHeader()",
  "}",
  "return nil"] := rfl

theorem dseCheck_shape : Gen.Evidence.dseCheck = [
  "if x.VoteA.Header.RootHeight < minimumEvidenceHeight {",
  "  return lib.ErrEvidenceTooOld()",
  "}",
  "if x.VoteA.Block != nil || x.VoteB.Block != nil {",
  "  return lib.ErrNonNilBlock()",
  "}",
  "if x.VoteA.Results != nil || x.VoteB.Results != nil {",
  "  return lib.ErrNonNilCertResults()",
  "}",
  "if _, err := x.VoteA.Check(vs, 0, view, false); err != nil {",
  "  return err",
  "}",
  "if _, err := x.VoteB.Check(vs, 0, view, false); err != nil {",
  "  return err",
  "}",
  "if !x.VoteA.Header.Equals(x.VoteB.Header) {",
  "  return lib.ErrInvalidEvidenceHeights()",
  "}",
  "if bytes.Equal(x.VoteB.SignBytes(), x.VoteA.SignBytes()) {",
  "  return lib.ErrNonEquivocatingVote()",
  "}",
  "if x.VoteA.Header.Phase <= Propose {",
  "  return lib.ErrWrongPhase()",
  "}",
  "return nil"] := rfl

theorem processDSE_shape : Gen.Evidence.processDSE = [
  "results = make([]*lib.DoubleSigner, 0)",
  "for _, x := range dse {",
  "  if err := x.CheckBasic(); err != nil {",
  "    return nil, err",
  "  }",
  "  committeeHeight := x.VoteA.Header.RootHeight",
  "  rootChainId := b.Controller.LoadRootChainId(committeeHeight - 1)",
  "  vs, err := b.LoadCommittee(rootChainId, committeeHeight)",
  "  if err != nil {",
  "    return nil, err",
  "  }",
  "  minEvidenceHeight, err := b.LoadMinimumEvidenceHeight(rootChainId, b.RootHeight)",
  "  if err != nil {",
  "    return nil, err",
  "  }",
  "  if err = x.Check(vs, b.View, *minEvidenceHeight); err != nil {",
  "    return nil, err",
  "  }",
  "  if bytes.Equal(x.VoteB.SignBytes(), x.VoteA.SignBytes()) {",
  "    return nil, lib.ErrNonEquivocatingVote()",
  "  }",
  "  sig1, sig2 := x.VoteA.Signature, x.VoteB.Signature",
  "  doubleSigners, err := sig1.GetDoubleSigners(sig2, vs)",
  "  if err != nil {",
  "    return nil, err",
  "  }",
  "  out:",
  "  for _, pubKey := range doubleSigners {",
  "    pk, er := crypto.NewPublicKeyFromBytes(pubKey)",
  "    if er != nil {",
  "      return nil, lib.ErrPubKeyFromBytes(er)",
  "    }",
  "    if b.IsValidDoubleSigner(rootChainId, committeeHeight, pk.Address().Bytes()) {",
  "      for i, doubleSigner := range results {",
  "        if bytes.Equal(doubleSigner.Id, pubKey) {",
  "          results[i].AddHeight(committeeHeight)",
  "          continue out",
  "        }",
  "      }",
  "      results = append(results, &lib.DoubleSigner{Id: pubKey, Heights: []uint64{committeeHeight}})",
  "    } else {",
  "    }",
  "  }",
  "}",
  "return"] := rfl

theorem validateByzantineEvidence_shape : Gen.Evidence.validateByzantineEvidence = [
  "if slashRecipients == nil {",
  "  return nil",
  "}",
  "if len(slashRecipients.DoubleSigners) != 0 {",
  "  doubleSigners, err := b.ProcessDSE(be.DSE.Evidence...)",
  "  if err != nil {",
  "    return err",
  "  }",
  "  for _, ds := range slashRecipients.DoubleSigners {",
  "    if ds == nil {",
  "      return lib.ErrEmptyDoubleSigner()",
  "    }",
  "    if !slices.ContainsFunc(doubleSigners, func(...){if signer == nil || !bytes.Equal(ds.Id, signer.Id) { return false }; for _, height := range ds.Heights { if !slices.Contains(signer.Heights, height) { return false } }; return true}) {",
  "      return lib.ErrMismatchEvidenceAndHeader()",
  "    }",
  "  }",
  "}",
  "return nil"] := rfl

theorem getDoubleSigners_shape : Gen.Evidence.getDoubleSigners = [
  "key, key2 := vs.MultiKey.Copy(), vs.MultiKey.Copy()",
  "if er := key.SetBitmap(x.Bitmap); er != nil {",
  "  return nil, ErrInvalidSignerBitmap(er)",
  "}",
  "if er := key2.SetBitmap(y.Bitmap); er != nil {",
  "  return nil, ErrInvalidSignerBitmap(er)",
  "}",
  "for i, val := range vs.ValidatorSet.ValidatorSet {",
  "  signed, e := key.SignerEnabledAt(i)",
  "  if e != nil {",
  "    return nil, ErrInvalidSignerBitmap(e)",
  "  }",
  "  if signed {",
  "    signed, e = key2.SignerEnabledAt(i)",
  "    if e != nil {",
  "      return nil, ErrInvalidSignerBitmap(e)",
  "    }",
  "    if signed {",
  "      doubleSigners = append(doubleSigners, val.PublicKey)",
  "    }",
  "  }",
  "}",
  "return"] := rfl

theorem signBytes_shape : Gen.Evidence.signBytes = [
  "if x.Header != nil && x.Header.Phase == Phase_ELECTION_VOTE {",
  "  minified := &QuorumCertificate{Header: x.Header, ProposerKey: x.ProposerKey}",
  "  signBytes, _ = Marshal(minified)",
  "  return",
  "}",
  "results, block, aggregateSignature := x.Results, x.Block, x.Signature",
  "x.Results, x.Block, x.Signature = nil, nil, nil",
  "signBytes, _ = Marshal(x)",
  "x.Results, x.Block, x.Signature = results, block, aggregateSignature",
  "return"] := rfl

theorem handleDoubleSigners_shape : Gen.Evidence.handleDoubleSigners = [
  "store, ok := s.Store().(lib.StoreI)",
  "if !ok {",
  "  return ErrWrongStoreType()",
  "}",
  "var slashList [][]byte",
  "for _, doubleSigner := range doubleSigners {",
  "  if doubleSigner == nil || doubleSigner.Id == nil {",
  "    return lib.ErrEmptyDoubleSigner()",
  "  }",
  "  if len(doubleSigner.Heights) == 0 {",
  "    return lib.ErrInvalidDoubleSignHeights()",
  "  }",
  "  pubKey, e := crypto.NewPublicKeyFromBytes(doubleSigner.Id)",
  "  if e != nil {",
  "    return lib.ErrPubKeyFromBytes(e)",
  "  }",
  "  address := pubKey.Address().Bytes()",
  "  for _, height := range doubleSigner.Heights {",
  "    isValidDS, err := store.IsValidDoubleSigner(address, height)",
  "    if err != nil {",
  "      return err",
  "    }",
  "    if !isValidDS {",
  "      return lib.ErrInvalidDoubleSigner()",
  "    }",
  "    if err = store.IndexDoubleSigner(address, height); err != nil {",
  "      return err",
  "    }",
  "    slashList = append(slashList, pubKey.Address().Bytes())",
  "  }",
  "}",
  "return s.SlashDoubleSigners(chainId, params, slashList)"] := rfl

theorem slashValidator_scoped_shape : Gen.Evidence.slashValidatorScoped = [
  "if committeeScoped := s.IsFeatureEnabled(2); committeeScoped {",
  "  if !slices.Contains(validator.Committees, chainId) {",
  "    return nil",
  "  }",
  "  slashTotal := s.slashTracker.GetTotalSlashPercent(validator.Address, chainId)",
  "  if slashTotal >= p.MaxSlashPerCommittee {",
  "    return nil",
  "  }",
  "  if slashTotal + percent >= p.MaxSlashPerCommittee {",
  "    percent = p.MaxSlashPerCommittee - slashTotal",
  "    for i, id := range newCommittees {",
  "      if id == chainId {",
  "        newCommittees = append(newCommittees[:i], newCommittees[i + 1:]...)",
  "        break",
  "      }",
  "    }",
  "  }",
  "  s.slashTracker.AddSlash(validator.Address, chainId, percent)",
  "}"] := rfl

theorem slashValidator_shape : Gen.Evidence.slashValidator = [
  "newCommittees := slices.Clone(validator.Committees)",
  "if committeeScoped := s.IsFeatureEnabled(2); committeeScoped {",
  "  if !slices.Contains(validator.Committees, chainId) {",
  "    return nil",
  "  }",
  "  slashTotal := s.slashTracker.GetTotalSlashPercent(validator.Address, chainId)",
  "  if slashTotal >= p.MaxSlashPerCommittee {",
  "    return nil",
  "  }",
  "  if slashTotal + percent >= p.MaxSlashPerCommittee {",
  "    percent = p.MaxSlashPerCommittee - slashTotal",
  "    for i, id := range newCommittees {",
  "      if id == chainId {",
  "        newCommittees = append(newCommittees[:i], newCommittees[i + 1:]...)",
  "        break",
  "      }",
  "    }",
  "  }",
  "  s.slashTracker.AddSlash(validator.Address, chainId, percent)",
  "}",
  "addr := crypto.NewAddressFromBytes(validator.Address)",
  "var stakeAfterSlash uint64",
  "switch  { case percent >= 100 || validator.StakedAmount == 0: stakeAfterSlash = 0; case percent == 0: stakeAfterSlash = validator.StakedAmount; default: stakeAfterSlash = lib.SafeMulDiv(validator.StakedAmount, 100 - percent, 100) }",
  "slashAmount := validator.StakedAmount - stakeAfterSlash",
  "if err = s.SubFromTotalSupply(slashAmount); err != nil {",
  "  return err",
  "}",
  "if stakeAfterSlash == 0 {",
  "  if err = s.EventSlash(validator.Address, slashAmount); err != nil {",
  "    return err",
  "  }",
  "  if validator.UnstakingHeight != 0 {",
  "    if err = s.Delete(KeyForUnstaking(validator.UnstakingHeight, addr)); err != nil {",
  "      return err",
  "    }",
  "  }",
  "  if validator.MaxPausedHeight != 0 {",
  "    if err = s.Delete(KeyForPaused(validator.MaxPausedHeight, addr)); err != nil {",
  "      return err",
  "    }",
  "  }",
  "  return s.DeleteValidator(validator)",
  "}",
  "if err = s.SubFromStakedSupply(slashAmount); err != nil {",
  "  return err",
  "}",
  "if validator.Delegate {",
  "  if err = s.SubFromDelegateSupply(slashAmount); err != nil {",
  "    return err",
  "  }",
  "  if err = s.UpdateDelegations(addr, validator, stakeAfterSlash, newCommittees); err != nil {",
  "    return err",
  "  }",
  "} else if err = s.UpdateCommittees(addr, validator, stakeAfterSlash, newCommittees); err != nil { return err }",
  "validator.Committees = newCommittees",
  "validator.StakedAmount = stakeAfterSlash",
  "if isSet, e := s.SetValidatorUnstakingIfBelowMinimum(validator, p); isSet || e != nil {",
  "  return e",
  "}",
  "if err = s.SetValidator(validator); err != nil {",
  "  return err",
  "}",
  "return s.EventSlash(validator.Address, slashAmount)"] := rfl

theorem ledger_helpers_shape :
    Gen.Evidence.slashValidators = [
      "for _, addr := range addresses {",
      "  validator, err := s.GetValidator(crypto.NewAddressFromBytes(addr))",
      "  if err != nil {",
      "    continue",
      "  }",
      "  if err = s.SlashValidator(validator, chainId, percent, p); err != nil {",
      "    return err",
      "  }",
      "}",
      "return nil"] ∧
    Gen.Evidence.slashDoubleSigners = ["return s.SlashValidators(doubleSignerAddrs, chainId, params.DoubleSignSlashPercentage, params)"] ∧
    Gen.Evidence.trackerAddSlash = ["(*s)[s.toKey(address)][chainId] += percent"] ∧
    Gen.Evidence.trackerGetTotal = ["return (*s)[s.toKey(address)][chainId]"] ∧
    Gen.Evidence.indexerIsValidDoubleSigner = [
      "bz, err := t.db.Get(t.doubleSignerHeightKey(address, height))",
      "if err != nil {",
      "  return false, err",
      "}",
      "return !bytes.Equal(bz, doubleSignerPrefix), nil"] ∧
    Gen.Evidence.indexerIndexDoubleSigner = ["return t.indexDoubleSignerByHeight(address, height)"] ∧
    Gen.Evidence.indexerIndexByHeight = ["return t.db.Set(t.doubleSignerHeightKey(address, height), doubleSignerPrefix)"] ∧
    Gen.Evidence.addHeight = ["if slices.Contains(x.Heights, height) {", "  return", "}", "x.Heights = append(x.Heights, height)"] ∧
    Gen.Evidence.fsmReset = ["s.slashTracker = NewSlashTracker()", "s.ResetCaches()", "s.store.(lib.StoreI).Reset()"] ∧
    Gen.Evidence.phasePropose = 3 ∧ Gen.Evidence.phaseElectionVote = 2 :=
  ⟨rfl, rfl, rfl, rfl, rfl, rfl, rfl, rfl, rfl, rfl, rfl⟩

theorem addDSE_shape : Gen.Evidence.addDSE = [
  "if err = ev.CheckBasic(); err != nil {",
  "  return",
  "}",
  "ev.VoteA.Block, ev.VoteA.Results = nil, nil",
  "ev.VoteB.Block, ev.VoteB.Results = nil, nil",
  "badSigners, err := b.ProcessDSE(ev)",
  "if err != nil {",
  "  return err",
  "}",
  "if len(badSigners) == 0 {",
  "  return lib.ErrInvalidEvidence()",
  "}",
  "if e.DeDuplicator == nil {",
  "  e.DeDuplicator = make(<*ast.MapType>)",
  "}",
  "bz, _ := lib.Marshal(ev)",
  "key1 := lib.BytesToString(bz)",
  "if _, isDuplicate := e.DeDuplicator[key1]; isDuplicate {",
  "  return",
  "}",
  "e.Evidence = append(e.Evidence, ev)",
  "e.DeDuplicator[key1] = true",
  "return"] := rfl

theorem minEvidenceHeight_shape :
    Gen.Evidence.loadMinimumEvidenceHeight = [
      "historicalFSM, err := s.TimeMachine(s.Height())",
      "if err != nil {",
      "  return 0, err",
      "}",
      "defer historicalFSM.Discard()",
      "valParams, err := historicalFSM.GetParamsVal()",
      "if err != nil {",
      "  return 0, err",
      "}",
      "height, unstakingBlocks := historicalFSM.Height(), valParams.GetUnstakingBlocks()",
      "if height < unstakingBlocks {",
      "  return 0, nil",
      "}",
      "return height - unstakingBlocks, nil"] ∧
    Gen.Evidence.src_safeMulDiv = "if c == 0 { return 0 }; bigA := new(big.Int).SetUint64(a); bigB := new(big.Int).SetUint64(b); bigC := new(big.Int).SetUint64(c); num := new(big.Int).Mul(bigA, bigB); res := new(big.Int).Div(num, bigC); return res.Uint64()" :=
  ⟨rfl, rfl⟩

end Canopy.C14
