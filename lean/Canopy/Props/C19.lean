import Canopy.Proof.Key
import Canopy.Gen.Keys
import Canopy.Proof.SignBytes
import Canopy.Gen.Proto
import Canopy.Model.ProtoCrit
import Canopy.Proof.Merkle
/-!
# C19 (a) — composite store keys never collide and never fall into each other's prefix range

The key builders are the *generated* translations of `fsm/key.go` and `store/indexer.go`
(`Canopy.Gen.fsm.*`, `Canopy.Gen.indexer.*`). `FsmKey` has one constructor per translated FSM builder
(`fsm_emitted`; `KeyForParams`, a string argument through `prefixForParamSpace`, is not translated —
`fsm.skipped` — and no theorem speaks of it), `C19Idx.IdxKey` one per indexer builder other than the
state-change journal's. What is proved: equal bytes mean equal *segment lists* (`encode_injective`),
and a byte-prefix scan over an encoded key returns only keys whose leading segments are that key's
(`prefix_range`). Reading family and components off the segment list is spelled out for the families
consensus relies on (`committee_components`, `unstaking_components`, `account_validator_disjoint`,
`committee_scan_exact`). The segment list does not always name the builder:
`indexer.eventHeightKey h` and `indexer.eventBlockHeightKey h` write the same segments.

Hypothesis carried explicitly (`FsmKey.WF`, `IdxKey.WF`; what the real `JoinLenPrefix` does not give for
free): every caller-supplied byte string has length ≤ 255 (lengths ≥ 256 are truncated to one byte).
Addresses (20 bytes), hashes (32) and order ids (20) satisfy it; the correspondence run exercises the
boundary. Not a hypothesis but built into the model: arguments are present. The Go code skips a `nil`
argument without leaving a marker; `Bytes` has no `nil` and the generated builders call `joinLenPrefix`
on all their arguments (a builder the code guards against a `nil` argument: `C19Idx`, "Absent components").
-/
namespace Canopy.C19
open Canopy Canopy.Gen

/-! ## structural facts the translation relies on -/

/-- the translator inlines `Indexer.key` as `JoinLenPrefix(prefix, param1, param2)` -/
theorem indexer_key_is_join : src_indexer_key = "return lib.JoinLenPrefix(prefix, param1, param2)" := rfl

/-- the translated FSM builders are exactly the constructors of `FsmKey` (a new builder must be added
there); `KeyForParams` is the one builder of `fsm/key.go` the translator leaves out -/
theorem fsm_emitted : fsm.emitted = ["AccountPrefix", "CommitteePrefix", "CommitteesDataPrefix", "DelegatePrefix", "KeyForAccount", "KeyForCommittee", "KeyForDelegate", "KeyForLockedBatch", "KeyForNextBatch", "KeyForNonSigner", "KeyForOrder", "KeyForPaused", "KeyForPool", "KeyForRetiredCommittee", "KeyForUnstaking", "KeyForValidator", "LastProposersPrefix", "NonSignerPrefix", "OrderBookPrefix", "PausedPrefix", "PoolPrefix", "RetiredCommitteesPrefix", "SupplyPrefix", "UnstakingPrefix", "ValidatorPrefix"] ∧ fsm.skipped = ["KeyForParams"] := ⟨rfl, rfl⟩

theorem indexer_emitted : indexer.emitted = ["blockHashKey", "blockHeightKey", "checkpointKey", "checkpointsCommitteeKey", "doubleSignerHeightKey", "eventAddressKey", "eventBlockHeightKey", "eventChainIdKey", "eventHeightAndIndexKey", "eventHeightKey", "qcHeightKey", "stateChangeVersionPrefix", "txHashKey", "txHeightAndIndexKey", "txHeightKey", "txRecipientKey", "txSenderKey"] ∧ indexer.skipped = [] := ⟨rfl, rfl⟩

/-- distinct key families have distinct one-byte family prefixes -/
theorem fsm_prefixes_nodup : (fsm.prefixTable.map (·.2)).Nodup := by decide +kernel
theorem indexer_prefixes_nodup : (indexer.prefixTable.map (·.2)).Nodup := by decide +kernel
theorem fsm_prefixes_single_byte : ∀ p ∈ fsm.prefixTable, p.2.length = 1 := by decide
theorem indexer_prefixes_single_byte : ∀ p ∈ indexer.prefixTable, p.2.length = 1 := by decide

inductive FsmKey
  | accountPrefix | poolPrefix | supplyPrefix | validatorPrefix | nonSignerPrefix | lastProposersPrefix
  | committeesDataPrefix | retiredCommitteesPrefix
  | unstakingPrefix (h : UInt64) | pausedPrefix (h : UInt64) | committeePrefix (id : UInt64)
  | delegatePrefix (id : UInt64) | orderBookPrefix (id : UInt64)
  | pool (n : UInt64) | nonSigner (a : Bytes) | order (c : UInt64) (id : Bytes)
  | unstaking (h : UInt64) (a : Bytes) | paused (h : UInt64) (a : Bytes)
  | committee (c : UInt64) (a : Bytes) (stake : UInt64) | delegate (c : UInt64) (a : Bytes) (stake : UInt64)
  | retiredCommittee (c : UInt64) | account (a : Bytes) | validator (a : Bytes)
  | lockedBatch (c : UInt64) | nextBatch (c : UInt64)

/-- the real encoding: the generated builder for each constructor -/
def FsmKey.encode : FsmKey → Bytes
  | .accountPrefix => fsm.AccountPrefix | .poolPrefix => fsm.PoolPrefix | .supplyPrefix => fsm.SupplyPrefix
  | .validatorPrefix => fsm.ValidatorPrefix | .nonSignerPrefix => fsm.NonSignerPrefix
  | .lastProposersPrefix => fsm.LastProposersPrefix | .committeesDataPrefix => fsm.CommitteesDataPrefix
  | .retiredCommitteesPrefix => fsm.RetiredCommitteesPrefix
  | .unstakingPrefix h => fsm.UnstakingPrefix h | .pausedPrefix h => fsm.PausedPrefix h
  | .committeePrefix i => fsm.CommitteePrefix i | .delegatePrefix i => fsm.DelegatePrefix i
  | .orderBookPrefix i => fsm.OrderBookPrefix i
  | .pool n => fsm.KeyForPool n | .nonSigner a => fsm.KeyForNonSigner a | .order c i => fsm.KeyForOrder c i
  | .unstaking h a => fsm.KeyForUnstaking h a | .paused h a => fsm.KeyForPaused h a
  | .committee c a s => fsm.KeyForCommittee c a s | .delegate c a s => fsm.KeyForDelegate c a s
  | .retiredCommittee c => fsm.KeyForRetiredCommittee c | .account a => fsm.KeyForAccount a
  | .validator a => fsm.KeyForValidator a | .lockedBatch c => fsm.KeyForLockedBatch c
  | .nextBatch c => fsm.KeyForNextBatch c

/-- the segment list each key is meant to denote -/
def FsmKey.segs : FsmKey → List Bytes
  | .accountPrefix => [[1]] | .poolPrefix => [[2]] | .supplyPrefix => [[10]] | .validatorPrefix => [[3]]
  | .nonSignerPrefix => [[8]] | .lastProposersPrefix => [[9]] | .committeesDataPrefix => [[12]]
  | .retiredCommitteesPrefix => [[14]]
  | .unstakingPrefix h => [[5], formatUint64 h] | .pausedPrefix h => [[6], formatUint64 h]
  | .committeePrefix i => [[4], formatUint64 i] | .delegatePrefix i => [[11], formatUint64 i]
  | .orderBookPrefix i => [[13], formatUint64 i]
  | .pool n => [[2], formatUint64 n] | .nonSigner a => [[8], a] | .order c i => [[13], formatUint64 c, i]
  | .unstaking h a => [[5], formatUint64 h, a] | .paused h a => [[6], formatUint64 h, a]
  | .committee c a s => [[4], formatUint64 c, formatUint64 s, a]
  | .delegate c a s => [[11], formatUint64 c, formatUint64 s, a]
  | .retiredCommittee c => [[14], formatUint64 c] | .account a => [[1], a] | .validator a => [[3], a]
  | .lockedBatch c => [[15], [1], formatUint64 c] | .nextBatch c => [[15], [2], formatUint64 c]

/-- caller-supplied components fit the one-byte length prefix -/
def FsmKey.WF : FsmKey → Prop
  | .nonSigner a | .account a | .validator a | .order _ a | .unstaking _ a | .paused _ a
  | .committee _ a _ | .delegate _ a _ => a.length ≤ 255
  | _ => True

theorem FsmKey.encode_eq (k : FsmKey) : k.encode = joinLenPrefix k.segs := by
  cases k <;> rfl

theorem FsmKey.segsOK (k : FsmKey) (h : k.WF) : SegsOK k.segs := by
  cases k <;> simp [FsmKey.segs, segsOK_cons, segsOK_nil, formatUint64_length] <;> exact h

/-- **No collision**: two well-formed FSM keys with equal bytes denote the same segment list. -/
theorem FsmKey.encode_injective (k₁ k₂ : FsmKey) (h₁ : k₁.WF) (h₂ : k₂.WF)
    (h : k₁.encode = k₂.encode) : k₁.segs = k₂.segs := by
  rw [encode_eq, encode_eq] at h
  exact join_injective _ _ (segsOK _ h₁) (segsOK _ h₂) h

/-- **Prefix ranges**: if the bytes of `k₁` are a byte-prefix of the bytes of `k₂` (i.e. `k₂` is
returned by a prefix scan over `k₁`), then `k₁`'s segments are a leading sub-list of `k₂`'s: a scan
never picks up a key of another family or of another id/height/chain under the same family. -/
theorem FsmKey.prefix_range (k₁ k₂ : FsmKey) (h₁ : k₁.WF) (h₂ : k₂.WF)
    (h : k₁.encode <+: k₂.encode) : k₁.segs <+: k₂.segs := by
  rw [encode_eq, encode_eq] at h
  exact join_prefix _ _ (segsOK _ h₁) (segsOK _ h₂) h

/-- the segment list determines the components (spelled out for the families consensus relies on) -/
theorem committee_components (c c' s s' : UInt64) (a a' : Bytes)
    (ha : a.length ≤ 255) (ha' : a'.length ≤ 255)
    (h : fsm.KeyForCommittee c a s = fsm.KeyForCommittee c' a' s') : c = c' ∧ a = a' ∧ s = s' := by
  have := FsmKey.encode_injective (.committee c a s) (.committee c' a' s') ha ha' h
  simp only [FsmKey.segs, List.cons.injEq, and_true, true_and] at this
  exact ⟨formatUint64_injective this.1, this.2.2, formatUint64_injective this.2.1⟩

theorem unstaking_components (h h' : UInt64) (a a' : Bytes) (ha : a.length ≤ 255) (ha' : a'.length ≤ 255)
    (e : fsm.KeyForUnstaking h a = fsm.KeyForUnstaking h' a') : h = h' ∧ a = a' := by
  have := FsmKey.encode_injective (.unstaking h a) (.unstaking h' a') ha ha' e
  simp only [FsmKey.segs, List.cons.injEq, and_true, true_and] at this
  exact ⟨formatUint64_injective this.1, this.2⟩

theorem account_validator_disjoint (a b : Bytes) (ha : a.length ≤ 255) (hb : b.length ≤ 255) :
    fsm.KeyForAccount a ≠ fsm.KeyForValidator b := by
  intro e
  have := FsmKey.encode_injective (.account a) (.validator b) ha hb e
  simp [FsmKey.segs] at this

/-- a committee scan for chain `c` never returns a member of chain `c'` -/
theorem committee_scan_exact (c c' s : UInt64) (a : Bytes) (ha : a.length ≤ 255)
    (h : fsm.CommitteePrefix c <+: fsm.KeyForCommittee c' a s) : c = c' := by
  have := FsmKey.prefix_range (.committeePrefix c) (.committee c' a s) trivial ha h
  simp only [FsmKey.segs, List.cons_prefix_cons, true_and] at this
  exact formatUint64_injective this.1

example : (FsmKey.committee 1 [0xAA, 0xBB] 7).WF := by simp [FsmKey.WF]

/-- what `JoinLenPrefix` does *not* give: a 256-byte segment's length byte wraps to 0, so the
hypothesis `length ≤ 255` is necessary (witness: collision of two different segment lists). -/
theorem join_collides_at_256 :
    joinLenPrefix [List.replicate 256 (0 : UInt8)] = joinLenPrefix (List.replicate 257 []) := by
  decide +kernel

/-!
# C19 (b) — sign bytes and identity hashes: different meaning, different bytes

Every sign-bytes function of the code is `lib.Marshal ∘ project` (`Model/SignBytes.lean`,
`Model/Proto.lean`): deterministic marshalling of a projection of the item. `lib.Marshal` is injective
on well-formed contents (`Proto.canon_injective`, `SignBytes.canonQc_inj`, `canonMsg_inj`: consequences
of the wire round trip `parse (encFields fs) = some fs`), so two items share sign bytes only if their
projections are equal. What each projection keeps is regenerated from the Go source and pinned below.
Identity hashes are `H ∘ lib.Marshal`; `H` (SHA-256) is idealised as collision-free, nothing is proved
about it.

`WF` hypotheses: integers fit 64 bits, strings are valid UTF-8, byte strings have a length that fits a
varint (`Small`, i.e. < 2^64 — every byte string that exists). Sub-messages the sign-bytes functions
never open (`CertificateResult`, `AggregateSignature`, `VDF`) are carried as their canonical bytes.
-/
open Canopy.Proto Canopy.SignBytes

/-! ## what the sign-bytes functions keep (facts from `lib/certificate.go`, `bft/msg.go`, `lib/tx.go`) -/

theorem qc_signbytes_facts :
    Gen.Proto.qcElectionVoteFields = [("Header", "x.Header"), ("ProposerKey", "x.ProposerKey")] ∧
    Gen.Proto.qcStrippedFields = ["Results", "Block", "Signature"] := ⟨rfl, rfl⟩

/-- the literals `bft.Message.SignBytes` marshals: leader message; its certificate; the vote; the
pacemaker message and its certificate -/
theorem msg_signbytes_facts : Gen.Proto.msgSignBytesLiterals =
    [("Message", [("Header", "x.Header"), ("Vrf", "x.Vrf"), ("HighQc", "x.HighQc"), ("LastDoubleSignEvidence", "x.LastDoubleSignEvidence")]),
     ("QC", [("Header", "x.Qc.Header"), ("BlockHash", "x.Qc.BlockHash"), ("ResultsHash", "x.Qc.ResultsHash"), ("ProposerKey", "x.Qc.ProposerKey"), ("Signature", "x.Qc.Signature")]),
     ("QC", [("Header", "x.Qc.Header"), ("BlockHash", "x.Qc.BlockHash"), ("ResultsHash", "x.Qc.ResultsHash"), ("ProposerKey", "x.Qc.ProposerKey")]),
     ("Message", [("Qc", "<literal>")]),
     ("QC", [("Header", "x.Qc.Header")])] := rfl

theorem msg_kind_facts :
    Gen.Proto.src_IsProposerMessage = "h := x.Header; if h == nil { return false }; return h.Phase == Election || h.Phase == Propose || h.Phase == Precommit || h.Phase == Commit" ∧
    Gen.Proto.src_IsReplicaMessage = "if x.Qc == nil || x.Qc.Header == nil || x.Header != nil { return false }; h := x.Qc.Header; return h.Phase == ElectionVote || h.Phase == ProposeVote || h.Phase == PrecommitVote" ∧
    Gen.Proto.src_IsPacemakerMessage = "if x.Qc == nil || x.Qc.Header == nil { return false }; return x.Qc.Header.Phase == RoundInterrupt" :=
  ⟨rfl, rfl, rfl⟩

/-- field numbers of the modelled schemas and the values of `Phase` -/
theorem signbytes_schemas :
    (Gen.Proto.schema "View").map (fun f => (f.1, f.2.1)) =
      [(1, "network_id"), (2, "chain_id"), (3, "height"), (4, "root_height"), (5, "round"), (6, "phase")] ∧
    (Gen.Proto.schema "QuorumCertificate").map (fun f => (f.1, f.2.1)) =
      [(1, "header"), (2, "results"), (3, "results_hash"), (4, "block"), (5, "block_hash"), (6, "proposer_key"), (7, "signature")] ∧
    (Gen.Proto.schema "DoubleSignEvidence").map (fun f => (f.1, f.2.1)) = [(1, "vote_a"), (2, "vote_b")] ∧
    (Gen.Proto.schema "Message").map (fun f => (f.1, f.2.1, f.2.2.2)) =
      [(1, "header", ""), (2, "vrf", ""), (3, "qc", ""), (4, "high_qc", ""), (5, "last_double_sign_evidence", "repeated"),
       (6, "vdf", ""), (7, "signature", ""), (8, "timestamp", ""), (9, "rcBuildHeight", "")] ∧
    (Gen.Proto.enumValues.find? (·.1 == "Phase")).map (·.2) =
      some [("UNKNOWN", 0), ("ELECTION", phElection), ("ELECTION_VOTE", phElectionVote), ("PROPOSE", phPropose),
            ("PROPOSE_VOTE", phProposeVote), ("PRECOMMIT", phPrecommit), ("PRECOMMIT_VOTE", phPrecommitVote),
            ("COMMIT", phCommit), ("COMMIT_PROCESS", 8), ("ROUND_INTERRUPT", phRoundInterrupt), ("PACEMAKER", 10)] := by
  decide +kernel

/-- two transactions with equal sign bytes agree on everything but the signature -/
theorem tx_signbytes_injective (t₁ t₂ : TxContent) (h₁ : t₁.unsigned.WF) (h₂ : t₂.unsigned.WF)
    (h : signBytes t₁ = signBytes t₂) : t₁.unsigned = t₂.unsigned :=
  Proto.canon_injective _ _ h₁ h₂ h

/-- two well-formed transactions that differ have different canonical bytes (hence, `H` being
collision-free, different `GetHash` identities) -/
theorem tx_identity_injective (t₁ t₂ : TxContent) (h₁ : t₁.WF) (h₂ : t₂.WF) (h : t₁ ≠ t₂) : canon t₁ ≠ canon t₂ :=
  fun e => h (Proto.canon_injective _ _ h₁ h₂ e)

/-- equal certificate sign bytes ⇒ equal view (height, round, phase, …) and proposer key -/
theorem qc_signbytes_header {q₁ q₂ : QcC} (h₁ : q₁.WF) (h₂ : q₂.WF) (h : qcSignBytes q₁ = qcSignBytes q₂) :
    q₁.header = q₂.header ∧ q₁.proposerKey = q₂.proposerKey := by
  have e := qcSignBytes_inj h₁ h₂ h
  have eh := congrArg QcC.header e
  have ep := congrArg QcC.proposerKey e
  rw [signProjection_header, signProjection_header] at eh
  rw [signProjection_pk, signProjection_pk] at ep
  exact ⟨eh, ep⟩

/-- … and, outside the ELECTION_VOTE case, equal block hash and results hash: two votes for
different payloads in one view never share sign bytes (this is the test `bytes.Equal(VoteA.SignBytes(),
VoteB.SignBytes())` of the double-sign evidence check) -/
theorem qc_signbytes_payload (q₁ q₂ : QcC) (h₁ : q₁.WF) (h₂ : q₂.WF) (hv : q₁.isElectionVote = false)
    (h : qcSignBytes q₁ = qcSignBytes q₂) : q₁.blockHash = q₂.blockHash ∧ q₁.resultsHash = q₂.resultsHash := by
  have e := qcSignBytes_inj h₁ h₂ h
  have hh := (qc_signbytes_header h₁ h₂ h).1
  have hv₂ : q₂.isElectionVote = false := by rw [← isElectionVote_of_header hh]; exact hv
  simp only [QcC.signProjection, hv, hv₂, Bool.false_eq_true, if_false, QcC.mk.injEq] at e
  exact ⟨e.2.2.2.2.1, e.2.2.1⟩

/-- the ELECTION_VOTE special case is disjoint from the general case: the phase is inside the bytes -/
theorem election_vote_disjoint (q₁ q₂ : QcC) (h₁ : q₁.WF) (h₂ : q₂.WF) (hv₁ : q₁.isElectionVote = true)
    (hv₂ : q₂.isElectionVote = false) : qcSignBytes q₁ ≠ qcSignBytes q₂ := by
  intro h
  have hh := (qc_signbytes_header h₁ h₂ h).1
  rw [isElectionVote_of_header hh, hv₂] at hv₁
  exact absurd hv₁ (by decide)

/-- non-vacuity, and what the special case deliberately drops: two ELECTION_VOTE certificates for
the same view and candidate share sign bytes whatever their block / results hashes -/
example :
    let v : ViewC := ⟨1, 1, 10, 5, 0, phElectionVote⟩
    qcSignBytes ⟨some v, none, [1], [], [2], [7], none⟩ = qcSignBytes ⟨some v, none, [3], [], [4], [7], none⟩ ∧
    qcSignBytes ⟨some { v with phase := phProposeVote }, none, [1], [], [2], [7], none⟩ ≠
      qcSignBytes ⟨some { v with phase := phProposeVote }, none, [3], [], [4], [7], none⟩ := by decide +kernel

/-- two leader messages with equal sign bytes agree on header, VRF, the certificate's header / block
hash / results hash / proposer key / aggregate signature, the high-QC and the evidence -/
theorem proposer_signbytes_injective (m₁ m₂ : MsgC) (h₁ : m₁.WF) (h₂ : m₂.WF) (p₁ : m₁.isProposer = true)
    (p₂ : m₂.isProposer = true) (h : msgSignBytes m₁ = msgSignBytes m₂) :
    m₁.proposerProjection = m₂.proposerProjection := by
  rw [msgSignBytes_proposer m₁ p₁, msgSignBytes_proposer m₂ p₂] at h
  exact canonMsg_inj _ _ (proposerProjection_wf h₁) (proposerProjection_wf h₂) h

/-- two votes with equal sign bytes are votes for the same view and proposer, and (except election
votes) the same block and results -/
theorem vote_signbytes_injective (m₁ m₂ : MsgC) (q₁ q₂ : QcC) (h₁ : m₁.WF) (h₂ : m₂.WF)
    (n₁ : m₁.isProposer = false) (n₂ : m₂.isProposer = false) (r₁ : m₁.isReplica = true) (r₂ : m₂.isReplica = true)
    (hq₁ : m₁.qc = some q₁) (hq₂ : m₂.qc = some q₂) (h : msgSignBytes m₁ = msgSignBytes m₂) :
    q₁.header = q₂.header ∧ q₁.proposerKey = q₂.proposerKey ∧
      (q₁.isElectionVote = false → q₁.blockHash = q₂.blockHash ∧ q₁.resultsHash = q₂.resultsHash) := by
  rw [msgSignBytes_replica m₁ q₁ n₁ r₁ hq₁, msgSignBytes_replica m₂ q₂ n₂ r₂ hq₂] at h
  have w₁ := voteProjection_wf (h₁.qc q₁ hq₁).1
  have w₂ := voteProjection_wf (h₂.qc q₂ hq₂).1
  obtain ⟨eh, ep⟩ := qc_signbytes_header w₁ w₂ h
  refine ⟨eh, ep, fun hv => ?_⟩
  exact qc_signbytes_payload (voteProjection q₁) (voteProjection q₂) w₁ w₂
    (by simpa [QcC.isElectionVote, voteProjection] using hv) h

/-- a leader message never shares sign bytes with a vote or with a pacemaker message (vote against
pacemaker message is not stated) -/
theorem msg_kinds_disjoint (m₁ m₂ : MsgC) (h₁ : m₁.WF) (h₂ : m₂.WF) (p₁ : m₁.isProposer = true)
    (n₂ : m₂.isProposer = false) (k : m₂.isReplica = true ∨ (m₂.isReplica = false ∧ m₂.isPacemaker = true)) :
    msgSignBytes m₁ ≠ msgSignBytes m₂ := by
  rcases k with r | ⟨r, k⟩
  · exact proposer_replica_disjoint m₁ m₂ h₁ h₂ p₁ n₂ r
  · exact proposer_pacemaker_disjoint m₁ m₂ h₁ h₂ p₁ n₂ r k

/-- **Observation (recorded, not a theorem about safety)**: `vdf`, `timestamp` and `rcBuildHeight` of a
leader message are outside its sign bytes — two proposals that differ only there share sign bytes.
`rcBuildHeight` is read by `StartProposeVotePhase` (which passes it to `ValidateProposal`) and
`StartPrecommitVotePhase`, `timestamp` by the block gossip (`GossipBlock`). -/
theorem proposer_fields_outside_signbytes :
    let v : ViewC := ⟨1, 1, 10, 5, 0, phPropose⟩
    let m : MsgC := { MsgC.empty with header := some v, timestamp := 1, rcBuildHeight := 5 }
    msgSignBytes m = msgSignBytes { m with timestamp := 2, rcBuildHeight := 6, vdf := some [1, 2, 3] } := rfl

/-! ## RLP-backed transactions: one signed Ethereum payload, one wrapper -/

/-- `VerifyRLPBytes` ties the submitted wrapper to the raw Ethereum transaction by comparing
`GetHash()` of the transaction rebuilt from the raw RLP with `GetHash()` of the submitted one — the
digest of the WHOLE canonical transaction, Signature container (claimed public key, raw RLP) included;
`GetSignBytes()` would leave the claimed key out (facts regenerated from fsm/ethereum.go) -/
theorem rlp_binding_src : Gen.Proto.rlpBindingDigests = ["compare.GetHash", "tx.GetHash"] ∧
    Gen.Proto.src_GetHash = "protoBytes, err := Marshal(x); if err != nil { return nil, err }; return crypto.Hash(protoBytes), nil" :=
  ⟨rfl, rfl⟩

/-- the binding is injective in EVERY wrapper field: two well-formed wrappers whose canonical bytes
both equal the bytes of the wrapper rebuilt from one raw Ethereum transaction are the same wrapper —
same claimed public key, same payload, same heights, fee, memo, ids, nonce (`H` collision-free) -/
theorem rlp_wrapper_unique (rebuilt : Bytes) (t₁ t₂ : TxContent) (h₁ : t₁.WF) (h₂ : t₂.WF)
    (b₁ : canon t₁ = rebuilt) (b₂ : canon t₂ = rebuilt) : t₁ = t₂ :=
  Proto.canon_injective t₁ t₂ h₁ h₂ (b₁.trans b₂.symm)

/-- what would be lost by comparing sign bytes instead: they are blind to the Signature container, so
wrappers naming different keys would both be bound -/
theorem signbytes_blind_to_claimed_key (t : TxContent) (g₁ g₂ : SigC) :
    signBytes { t with signature := some g₁ } = signBytes { t with signature := some g₂ } := by
  simp [signBytes, TxContent.unsigned]

/-! ## Merkle roots (transaction root, validator root)

`Merkle.root` is the reference semantics of `crypto.MerkleTree` (hash the items, pair up level by level,
an odd last node with itself); the driver recomputes the real roots with it for every length class. -/

/-- the code the model transcribes (facts regenerated from lib/crypto/hash.go): the padded linear-array
construction, its three cases, and the next power of two by bit smearing over all of 1, 2, 4, 8, 16 -/
theorem merkle_src :
    Gen.Proto.src_crypto_nextPowerOfTwo = "v--; v |= v >> 1; v |= v >> 2; v |= v >> 4; v |= v >> 8; v |= v >> 16; v++; return v" ∧
    Gen.Proto.src_crypto_MerkleTree = "if len(items) == 0 { return []byte{}, [][]byte{}, nil }; offset := nextPowerOfTwo(len(items)); size := offset * 2 - 1; store = make([][]byte, size); for i, item := range items { store[i] = Hash(item) }; for i := 0; i < size - 1; i += 2 { switch  { default: store[offset] = Hash(concat(store[i], store[i + 1])); case store[i] == nil: store[offset] = nil; case store[i + 1] == nil: store[offset] = Hash(concat(store[i], store[i])) }; offset++ }; return store[size - 1], store, nil" ∧
    Gen.Proto.src_crypto_concat = "out := make([]byte, len(a) + len(b)); copy(out, a); copy(out[len(a):], b); return out" :=
  ⟨rfl, rfl, rfl⟩

/-- **two item lists of EQUAL length with the same Merkle root are equal**, for an injective leaf hash
and a node hash that is injective in the pair (the collision-free idealisation of SHA-256 and of the
unframed concatenation of two 32-byte hashes, as explicit hypotheses) -/
theorem merkle_root_injective_same_length {α β : Type} (leaf : β → α) (node : α → α → α)
    (hleaf : ∀ x y, leaf x = leaf y → x = y) (hnode : Merkle.NodeInj node)
    (l₁ l₂ : List β) (hl : l₁.length = l₂.length) (h : Merkle.root leaf node l₁ = Merkle.root leaf node l₂) :
    l₁ = l₂ := by
  cases l₁ with
  | nil => exact (List.eq_nil_of_length_eq_zero hl.symm).symm
  | cons a r =>
    unfold Merkle.root at h
    rw [← hl] at h
    have hm := Merkle.rootAux_inj node hnode _ ((a :: r).map leaf) (l₂.map leaf)
      (by simpa using hl) (by simp) (by simp) h
    exact (List.map_inj_right hleaf).mp hm

/-- the root of a non-empty list exists (is never the empty placeholder) -/
theorem merkle_root_nonempty {α β : Type} (leaf : β → α) (node : α → α → α) (l : List β) (h : l ≠ []) :
    (Merkle.root leaf node l).isSome = true :=
  Merkle.rootAux_isSome node _ _ (by simpa [List.length_pos_iff] using h) (by simp)

/-- remark (true of the real code too, not a failure): lists of DIFFERENT length can share a root —
an odd last node is paired with itself, so `[a, b, c]` and `[a, b, c, c]` collide. `BlockHeader.NumTxs`
(inside the block hash) and the replay filter (no transaction twice) keep it from mattering. -/
example {α β : Type} (leaf : β → α) (node : α → α → α) (a b c : β) :
    Merkle.root leaf node [a, b, c] = Merkle.root leaf node [a, b, c, c] := rfl

/-!
# C19 (c) — decoding untrusted bytes

The modelled decoders (`Proto.preflight` = `lib.preflightProtoBytes`, `Proto.parse`, `Proto.decodeTx` =
`lib.Unmarshal` for the critical `Transaction`, `decodeLenPrefixed`) are total functions, defined by
structural recursion on a fuel bounded by the input's length (`decodeLenPrefixed`: by recursion on the
length of what is left): Lean's termination checker is the proof that *the model* neither hangs nor
crashes on any byte string. That the real decoders and the handlers behind them do not panic or hang
is sampled by the correspondence run (panic trap, per-case timeout), not proved.
-/

/-- an element larger than `protoMaxFieldBytes` is refused by the pre-flight scan wherever it occurs
after well-formed fields -/
theorem oversize_element_rejected (fs : List Field) (h : ∀ f ∈ fs, f.PreOK) (num : Nat) (b rest : Bytes)
    (h1 : 1 ≤ num) (h2 : num ≤ maxFieldNum) (hb : protoMaxFieldBytes < b.length) (hs : b.length < 2 ^ 64) :
    decodeTx (encFields fs ++ (encField ⟨num, .len b⟩ ++ rest)) = none := by
  have := preflight_rejects_oversize fs h num b rest h1 h2 hb hs
  simp [decodeTx, this]

/-- a message larger than `protoMaxMessageBytes` is refused -/
theorem oversize_message_rejected (raw : Bytes) (h : protoMaxMessageBytes < raw.length) : decodeTx raw = none := by
  simp [decodeTx, h]

/-- unknown fields are reported by the decoder and refused for the critical message -/
theorem unknown_fields_rejected (raw : Bytes) (t : TxContent) (h : decodeLoose raw = some (t, true)) :
    decodeTx raw = none := by
  cases hd : decodeTx raw with
  | none => rfl
  | some t' =>
    -- an accepted message decodes with the unknown-field flag down
    have := (decodeTx_ok raw t' hd).1
    rw [h] at this
    cases this

/-- whatever is accepted passed the scan, fits the size cap and carries no unknown field -/
theorem accepted_bytes_are_clean (raw : Bytes) (t : TxContent) (h : decodeTx raw = some t) :
    decodeLoose raw = some (t, false) ∧ preflight raw = true ∧ raw.length ≤ protoMaxMessageBytes :=
  decodeTx_ok raw t h

/-- a field number the schema does not know (here: any number above 10) is reported as unknown,
at the top level of a transaction -/
theorem unknown_field_reported (s : St TxContent) (f : Field) (h : 10 < f.num) : applyTx s f = some (s.1, true) := by
  obtain ⟨num, val⟩ := f
  obtain ⟨n, rfl⟩ : ∃ n, num = n + 11 := ⟨num - 11, by simp only at h; omega⟩
  -- past the ten declared numbers the match reaches its default whatever the value is
  rfl

/-- the ELECTION branch of `CheckProposerMessage` applies `checkSignatureBasic` to the VRF (and to
nothing else) before it reads `x.Vrf.PublicKey`, and `checkSignatureBasic` demands presence and the
48 / 96 element sizes: `MsgC.electionWellFormed` is that test (facts regenerated from bft/msg.go) -/
theorem election_vrf_check_src :
    Gen.Proto.electionBasicChecks = ["x.Vrf"] ∧
    Gen.Proto.src_electionBranch = "if x.Header.Height != p.height { return false, lib.ErrWrongCertHeight(x.Header.Height, p.height) }; if err = checkSignatureBasic(x.Vrf); err != nil { return false, err }; if !bytes.Equal(x.Signature.PublicKey, x.Vrf.PublicKey) { return false, ErrMismatchPublicKeys() }; return" ∧
    Gen.Proto.src_checkSignatureBasic = "if signature == nil || len(signature.PublicKey) == 0 || len(signature.Signature) == 0 { return ErrPartialSignatureEmpty() }; if len(signature.PublicKey) != crypto.BLS12381PubKeySize { return ErrInvalidPublicKey() }; if len(signature.Signature) != crypto.BLS12381SignatureSize { return ErrInvalidSignatureLength() }; return nil" ∧
    Gen.Proto.BLS12381PubKeySize = 48 :=
  ⟨rfl, rfl, rfl, rfl⟩

/-- an ELECTION message that passes the test carries a VRF (so the dereference is defined) of a
48-byte key equal to the sender's and a 96-byte output: oversize or missing elements are refused -/
theorem election_wellformed_has_vrf (m : MsgC) (k : Bytes) (h : m.electionWellFormed k = true) :
    ∃ g, m.vrf = some g ∧ g.publicKey = k ∧ g.publicKey.length = 48 ∧ g.signature.length = 96 := by
  unfold MsgC.electionWellFormed sigBasicOk at h
  cases hv : m.vrf with
  | none => simp [hv] at h
  | some g =>
    simp only [hv, Bool.and_eq_true, beq_iff_eq] at h
    exact ⟨g, rfl, h.2, h.1.1, h.1.2⟩

/-! ### unknown fields at every nesting position of the critical messages

`ProtoCrit.checkCritical` is the generic, schema-directed model of `lib.Unmarshal` for `Block`,
`Transaction`, `QuorumCertificate` over the regenerated schemas; the driver compares it with the real
decoder on a reflection-generated corpus (unknown field / wrong wire type / group injected at every
message position, `protoMaxListLen` ± at every list position). -/

/-- the walker reaches the elements of repeated message fields (the list-length test does not return
before the recursion, the list case recurses) and uses the modelled list bound -/
theorem walker_src : Gen.Proto.walkerInspectsListElements = true ∧
    Gen.Proto.protoMaxListLen = ProtoCrit.protoMaxListLen ∧ Gen.Proto.protoMaxRecursion = 32 := ⟨rfl, rfl, rfl⟩

/-- the schemas reachable from the three critical messages: the set is closed under message-typed
fields and contains no `map` / `oneof` field (the constructs the generic model does not cover) -/
def criticalSchemas : List String :=
  ["Block", "BlockHeader", "VDF", "QuorumCertificate", "View", "CertificateResult", "AggregateSignature",
   "RewardRecipients", "PaymentPercents", "SlashRecipients", "DoubleSigner", "Orders", "LockOrder", "Checkpoint",
   "DexBatch", "DexLimitOrder", "DexLiquidityDeposit", "DexLiquidityWithdraw", "PoolPoints", "Transaction", "Signature"]

theorem critical_schemas_closed :
    criticalSchemas.all (fun n => (Gen.Proto.schema n).all fun d =>
      d.2.2.2 != "map" && d.2.2.2 != "oneof" &&
      (match ProtoCrit.kindOf Gen.Proto.messages Gen.Proto.enums d.2.2.1 with
       | .msg t => t == "google.protobuf.Any" || criticalSchemas.contains t
       | .unsupported => false
       | _ => true)) = true := by decide +kernel

/-- an unknown field inside an ELEMENT of a repeated message field
(`results.reward_recipients.payment_percents[0]`) refuses the certificate; so does an unknown field
in an element of a list inside a list element position, a group, and a declared number with another
wire type; the same bytes without the extra field are accepted -/
theorem unknown_in_list_element_rejected :
    let S := Gen.Proto.messages
    let E := Gen.Proto.enums
    ProtoCrit.checkCritical S E "QuorumCertificate" [0x12, 0x07, 0x0a, 0x05, 0x0a, 0x03, 0x0a, 0x01, 0x01] = .ok ∧
    ProtoCrit.checkCritical S E "QuorumCertificate" [0x12, 0x0a, 0x0a, 0x08, 0x0a, 0x06, 0x0a, 0x01, 0x01, 0xc0, 0x3e, 0x01] = .walk ∧
    ProtoCrit.checkCritical S E "QuorumCertificate" [0x12, 0x0b, 0x0a, 0x09, 0x0a, 0x07, 0x0a, 0x01, 0x01, 0xbb, 0x3e, 0xbc, 0x3e] = .walk ∧
    ProtoCrit.checkCritical S E "QuorumCertificate" [0x12, 0x09, 0x0a, 0x07, 0x0a, 0x05, 0x0a, 0x01, 0x01, 0x08, 0x01] = .walk ∧
    ProtoCrit.checkCritical S E "QuorumCertificate" [0x12, 0x0a, 0x12, 0x08, 0x0a, 0x06, 0x0a, 0x01, 0x01, 0xc0, 0x3e, 0x01] = .walk := by
  decide +kernel

/-- a field number the schema does not declare is flagged at whatever level it occurs -/
theorem undeclared_number_flagged (S : ProtoCrit.Schemas) (E : List String) (rec : String → Bytes → Option ProtoCrit.Flags)
    (decls : List ProtoCrit.FieldDecl) (f : Field) (h : decls.find? (·.1 == f.num) = none) :
    ProtoCrit.checkField S E rec decls f = some (⟨true, false, false⟩, 0) := by
  simp [ProtoCrit.checkField, h]

/-- non-vacuity: the honest transaction with one unknown field appended is refused, a group wire type
is refused, a truncated varint is refused — and the untouched bytes are accepted -/
example : decodeTx [0x0a, 0x01, 0x61, 0x78, 0x01] = none ∧ decodeTx [0x0b] = none ∧ decodeTx [0x20, 0x80] = none ∧
    decodeTx [0x0a, 0x01, 0x61] ≠ none := by decide +kernel

end Canopy.C19
