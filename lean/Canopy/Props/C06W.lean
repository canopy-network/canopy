import Canopy.Proof.Replay
import Canopy.Model.C06Witness
/-!
# C06 — the replay clause is false without the canonical-encoding checks: concrete witnesses

Each `no_replay_fails_witness_*` exhibits a real, honestly signed `send` (`C06W.edRaw` / `C06W.ethRaw`,
produced by the repository's own signing and marshalling code) that has been included, and a
*different* byte string carrying the same signed content that the admission path without the two
comparisons (`strictTx = false`, `strictKey = false`: the code before /repo 058e982 / dd98b36) accepts
afterwards; `key_check_needed` does the same for `strictTx = true`, `strictKey = false`, and
`repaired_rejects_witnesses` shows all five refused once both are made. The Go driver offers exactly
these byte strings to the real state machine on every run (`witness` ops; on the code before the
repairs the recipient was paid twice: oracle signatures `C06:replay-by-reencoding` /
`C06:replay-by-pubkey-encoding`).

What has to be computed on the closed byte strings — their decodings, their SHA-256 identities, the
acceptance of the honest bytes and of the 65-byte key — is one kernel evaluation (`evaluated`). That the
re-encodings are accepted again is then `Replay.accepted_reencoded` (same decoding, unindexed hash), that
the comparison with the canonical form refuses them `Replay.accepted_noncanonical`, that the identical
bytes are refused `Replay.accepted_indexed`.
-/
namespace Canopy.C06W
open Canopy Canopy.Proto Canopy.Replay

/-- the chain at genesis (height 1): both senders funded -/
def chain₀ (strictTx strictKey : Bool) : Chain :=
  { networkId := 1, chainId := 1, height := 1, minFee := 10000, legacyRlpDisabled := false,
    strictTx := strictTx, strictKey := strictKey, index := [],
    accounts := [⟨edAddr, 1000000000000, 0⟩, ⟨ethAddr, 1000000000000, 0⟩] }

/-- a later state (height 3): the two sends have been executed and indexed -/
def chain₂ (strictTx strictKey : Bool) : Chain :=
  { networkId := 1, chainId := 1, height := 3, minFee := 10000, legacyRlpDisabled := false,
    strictTx := strictTx, strictKey := strictKey, index := [txId edRaw, txId ethRaw],
    accounts := [⟨edAddr, 1000000000000 - 11000, 0⟩, ⟨ethAddr, 1000000000000 - 11000, 0⟩, ⟨recipient, 2000, 0⟩] }

/-- the four re-encodings of `edRaw` -/
def reencodings : List Bytes := [ed_explicit_default, ed_varint_pad, ed_field_order, ed_dup_last_wins]

/-- What is computed on the closed byte strings, in one evaluation so that each is decoded and hashed
once: the honest transactions are accepted at genesis by every code version, and `edRaw` at height 3 were
it not indexed; each re-encoding is other bytes with the very decoding of `edRaw` and an unindexed hash;
the 65-byte key is other bytes with the same signed content, accepted by every code version that does
not compare the key with its canonical form (its bytes are canonical). -/
theorem evaluated :
    (∀ a b, accepted env (chain₀ a b) edRaw = true ∧ accepted env (chain₀ a b) ethRaw = true) ∧
    (∀ b, accepted env { chain₂ false b with index := [] } edRaw = true) ∧
    (decodeTx edRaw).all (fun t => !isRlpMemo t.memo) = true ∧
    (∀ w ∈ reencodings, w ≠ edRaw ∧ decodeTx w = decodeTx edRaw ∧ txId w ∉ [txId edRaw, txId ethRaw]) ∧
    eth_pubkey_65 ≠ ethRaw ∧ signedPart eth_pubkey_65 = signedPart ethRaw ∧
      ∀ a b, accepted env (chain₂ a b) eth_pubkey_65 = !b := by decide +kernel

/-- non-vacuity: the honest transactions are accepted at genesis, whatever the code version -/
theorem honest_accepted (a b : Bool) :
    accepted env (chain₀ a b) edRaw = true ∧ accepted env (chain₀ a b) ethRaw = true :=
  evaluated.1 a b

/-- a re-encoding of `edRaw` is accepted exactly where the bytes are not compared with their canonical
form: there by `accepted_reencoded`; where they are, `edRaw` is the canonical form of the shared decoding -/
theorem reencoding_accepted {w : Bytes} (h : w ∈ reencodings) (a b : Bool) : accepted env (chain₂ a b) w = !a := by
  obtain ⟨hne, hd, hi⟩ := evaluated.2.2.2.1 w h
  cases a with
  | false =>
    refine (accepted_reencoded hd rfl (fun t ht => ?_) hi).trans (evaluated.2.1 b)
    simpa [ht] using evaluated.2.2.1
  | true =>
    obtain ⟨t, _, _, _, _, f⟩ := accepted_inv (honest_accepted true b).1
    exact accepted_noncanonical (hd.trans f.dec) rfl fun e => hne (e.trans (f.canonical rfl).symm)

theorem ed_included (a b : Bool) : Included env (chain₂ a b) edRaw :=
  ⟨by simp [chain₂], chain₀ a b, (honest_accepted a b).1, rfl, rfl⟩

theorem eth_included (a b : Bool) : Included env (chain₂ a b) ethRaw :=
  ⟨by simp [chain₂], chain₀ a b, (honest_accepted a b).2, rfl, rfl⟩

/-- the identical bytes are refused (the hash lookup works) -/
theorem identical_bytes_rejected :
    accepted env (chain₂ false false) edRaw = false ∧ accepted env (chain₂ false false) ethRaw = false :=
  ⟨accepted_indexed (by decide) (ed_included false false).1, accepted_indexed (by decide) (eth_included false false).1⟩

theorem replayWitness_ed {raw : Bytes} (h : raw ∈ reencodings) : ReplayWitness env (chain₂ false false) edRaw raw :=
  have ⟨hd, hs, _⟩ := evaluated.2.2.2.1 raw h
  ⟨ed_included _ _, by decide, hd, congrArg (Option.map TxContent.unsigned) hs, reencoding_accepted h false false⟩

/-- **explicit default**: `edRaw ++ [0x50, 0x00]` (explicit `nonce = 0`) -/
theorem no_replay_fails_witness_explicit_default :
    ReplayWitness env (chain₂ false false) edRaw ed_explicit_default :=
  replayWitness_ed (.head _)

/-- **non-minimal varint**: `created_height = 1` written as `0x81 0x00` -/
theorem no_replay_fails_witness_varint_pad :
    ReplayWitness env (chain₂ false false) edRaw ed_varint_pad :=
  replayWitness_ed (.tail _ (.head _))

/-- **field order**: the first two fields swapped -/
theorem no_replay_fails_witness_field_order :
    ReplayWitness env (chain₂ false false) edRaw ed_field_order :=
  replayWitness_ed (.tail _ (.tail _ (.head _)))

/-- **duplicated field, last occurrence wins**: a decoy `created_height = 77` in front -/
theorem no_replay_fails_witness_dup_last_wins :
    ReplayWitness env (chain₂ false false) edRaw ed_dup_last_wins :=
  replayWitness_ed (.tail _ (.tail _ (.tail _ (.head _))))

theorem replayWitness_eth (a : Bool) : ReplayWitness env (chain₂ a false) ethRaw eth_pubkey_65 :=
  have ⟨hd, hs, ha⟩ := evaluated.2.2.2.2
  ⟨eth_included _ _, Nat.le_succ 2, hd, hs, ha a false⟩

/-- **public-key encoding**: the same Ethereum key as 65 bytes (`0x04` prefix) instead of 64 -/
theorem no_replay_fails_witness_pubkey_65 :
    ReplayWitness env (chain₂ false false) ethRaw eth_pubkey_65 :=
  replayWitness_eth false

/-- canonical *bytes* alone do not close the key-encoding family: `eth_pubkey_65` is the canonical
marshalling of its own content, so a repair that only compares bytes with their re-marshalling still
accepts it -/
theorem key_check_needed : ReplayWitness env (chain₂ true false) ethRaw eth_pubkey_65 :=
  replayWitness_eth true

/-- the repaired code (`strictTx`, `strictKey`) refuses all five -/
theorem repaired_rejects_witnesses :
    accepted env (chain₂ true true) ed_explicit_default = false ∧
    accepted env (chain₂ true true) ed_varint_pad = false ∧
    accepted env (chain₂ true true) ed_field_order = false ∧
    accepted env (chain₂ true true) ed_dup_last_wins = false ∧
    accepted env (chain₂ true true) eth_pubkey_65 = false :=
  have ed {w : Bytes} (h : w ∈ reencodings) := reencoding_accepted h true true
  ⟨ed (.head _), ed (.tail _ (.head _)), ed (.tail _ (.tail _ (.head _))),
    ed (.tail _ (.tail _ (.tail _ (.head _)))), evaluated.2.2.2.2.2.2 true true⟩

end Canopy.C06W
