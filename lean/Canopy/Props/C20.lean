import Canopy.Proof.DexArith
import Canopy.Proof.DexPoints
import Canopy.Proof.DexRun
import Canopy.Proof.DexSettle
/-!
# C20 — escrow, order-book and AMM accounting is exact

Part 1 AMM arithmetic (`swap_safe`, `withdraw_le_share`, deposit points) · Part 2 order book and escrow
(`escrow_eq` along every run, `close_exact_once`) · Part 3 DEX invariants along every run (`holding_eq`,
`points_sum`) with their per-function lemmas · Part 5 the un-gated liveness fallback (observation + witness) · Part 6 one
payout slot per order of a remote batch (`orders_settlement_exact`) · Part 7 subsidies and pool ids (finding + witnesses).

Part 1: the AMM arithmetic. `Canopy.Gen.Dex.SafeComputeDY`, `SafeMulDiv`, `SqrtProductUint64` are the
definitions REGENERATED from `fsm/dex.go` / `lib/util.go` on every run (`big.Int` → `Nat`, `.Uint64()` →
`% 2^64`, `big.Int.Div` by zero → `none`). All statements are in `Nat`; `U64 = 2^64`.
-/
namespace Canopy.C20
open Canopy.Dex Canopy.Gen.Dex

/-! ## the source the hand-written pieces were transcribed from -/

/-- `lib.AddUint64` is `bits.Add64` with the carry as overflow flag (model: `Dex.addUint64`) -/
theorem addUint64_source : src_AddUint64 = "sum, carry := bits.Add64(a, b, 0); return sum, carry != 0" := rfl

/-- `liquidityDepositPoints` as transcribed in `Dex.liquidityDepositPoints` -/
theorem liquidityDepositPoints_source : src_liquidityDepositPoints =
    "xAfter, overflow := lib.AddUint64(x, amount); if overflow { return 0, ErrInvalidLiquidityPool() }; oldK, newK := lib.SqrtProductUint64(x, y), lib.SqrtProductUint64(xAfter, y); if oldK == 0 || newK < oldK { return 0, ErrInvalidLiquidityPool() }; return lib.SafeMulDiv(totalPoints, newK - oldK, oldK), nil" := rfl

/-! ## a swap never pays out the reserve and never lowers the product of the reserves -/

/-- For all reserves `x, y > 0` (`y` a `uint64`) and every input `dX`, the generated `SafeComputeDY` does not
panic, its `uint64` conversion loses nothing, the output is strictly below the reserve `y`, and the product of
the reserves after the swap, `(x + dX) * (y − dY)`, is at least `x * y` (fee: 990/1000 of `dX` enters the
pricing formula, all of `dX` enters the pool). -/
theorem swap_safe (x y dX : Nat) (hx : 0 < x) (hy : 0 < y) (hy64 : y < U64) :
    ∃ dY, SafeComputeDY x y dX = some dY ∧ dY = dX * 990 * y / (x * 1000 + dX * 990)
      ∧ dY < y ∧ x * y ≤ (x + dX) * (y - dY) := by
  refine ⟨rawDY x y dX, ?_, rfl, rawDY_lt x y dX hx hy, rawDY_product x y dX hx hy⟩
  have := computeDY_eq x y dX (Or.inl hx)
  rw [rawDY_fits x y dX hx hy hy64] at this
  exact this

/-- non-vacuity: a concrete swap that pays -/
example : SafeComputeDY 1000 1000 100 = some 90 := by decide

/-- The hypothesis `x > 0` is what `HandleDexBatchOrders` checks (`*x == 0 || *y == 0` → error) before the
first call. It is necessary: with an empty counter reserve the formula pays out the WHOLE reserve, and with
`x = 0 ∧ dX = 0` the real function panics (division by zero in `big.Int.Div`); both points are run on the
real function by the harness. -/
theorem swap_at_zero_reserve_pays_all : SafeComputeDY 0 1000 5 = some 1000 := by decide
theorem swap_panics_at_zero_zero (y : Nat) : SafeComputeDY 0 y 0 = none := computeDY_panic

/-! ## `SafeMulDiv`: never panics, never exceeds the exact quotient -/

theorem safeMulDiv_total (a b c : Nat) : SafeMulDiv a b c = some (safeMulDiv a b c) := safeMulDiv_gen a b c

/-- the `uint64` conversion can only lose high bits: the result never exceeds `a*b/c` -/
theorem safeMulDiv_le_exact (a b c : Nat) : safeMulDiv a b c ≤ a * b / c := safeMulDiv_le a b c

/-- and it is exact whenever the quotient fits (in particular for every pro-rata share `b ≤ c` of a `uint64`) -/
theorem safeMulDiv_exact_of_fits (a b c : Nat) (hc : c ≠ 0) (h : a * b / c < U64) :
    safeMulDiv a b c = a * b / c := safeMulDiv_exact a b c hc h

theorem safeMulDiv_share_fits (a b c : Nat) (ha : a < U64) (hc : c ≠ 0) (hbc : b ≤ c) :
    safeMulDiv a b c = a * b / c := by
  apply safeMulDiv_exact a b c hc
  have hcpos : 0 < c := Nat.pos_of_ne_zero hc
  calc a * b / c ≤ a * c / c := Nat.div_le_div_right (Nat.mul_le_mul_left _ hbc)
    _ = a := Nat.mul_div_cancel _ hcpos
    _ < U64 := ha

/-- the truncation is real: a quotient that does not fit is reduced modulo 2^64 (run on the real function) -/
theorem safeMulDiv_truncates : SafeMulDiv 18446744073709551615 4 2 = some 18446744073709551614 := by decide

/-! ## withdrawals never exceed the provider's share -/

/-- `handleBatchWithdraw` pays a provider `SafeMulDiv(SafeMulDiv(r, T, P), pts, T)` of a reserve `r`, where `P` is
the pool's total points, `T` the points removed by the whole batch and `pts` the points this provider burns.
Whatever the values (including `T > P`, truncation, zero divisors) this is at most `r * pts / P`. -/
theorem withdraw_le_share (r T P pts : Nat) :
    safeMulDiv (safeMulDiv r T P) pts T ≤ r * pts / P := share_le r T P pts

/-- non-vacuity: Pablo's example in the source comment (50% of 50 of 100 points, reserve 1000) -/
example : safeMulDiv (safeMulDiv 1000 25 100) 25 25 = 250 ∧ 1000 * 25 / 100 = 250 := by decide

/-! ## deposits never create points from nothing -/

/-- a deposit of nothing mints nothing -/
theorem deposit_zero_amount (L x y d : Nat) (hx : x < U64)
    (h : liquidityDepositPoints L x y 0 = .ok d) : d = 0 := by
  have hd := (liquidityDepositPoints_ok h).2.2.2
  have hx0 : (addUint64 x 0).1 = x := Nat.mod_eq_of_lt hx
  rw [hx0, Nat.sub_self] at hd
  simp [safeMulDiv] at hd
  omega

/-- a pool without points mints none (the first deposit is preceded by `AddPoints(dead, √(x·y))`) -/
theorem deposit_zero_total (x y a d : Nat) (h : liquidityDepositPoints 0 x y a = .ok d) : d = 0 := by
  have hd := (liquidityDepositPoints_ok h).2.2.2
  simp [safeMulDiv] at hd
  omega

/-- the minted fraction never exceeds the relative growth of `⌊√(x·y)⌋`: `d · oldK ≤ L · (newK − oldK)` -/
theorem deposit_bounded (L x y a d : Nat) (h : liquidityDepositPoints L x y a = .ok d) :
    d * sqrtProduct x y ≤ L * (sqrtProduct ((x + a) % U64) y - sqrtProduct x y) := by
  rw [(liquidityDepositPoints_ok h).2.2.2]
  show _ ≤ L * (sqrtProduct (addUint64 x a).1 y - _)
  exact Nat.le_trans (Nat.mul_le_mul_right _ (safeMulDiv_le _ _ _)) (Nat.div_mul_le_self _ _)

/-- non-vacuity: the first example of `TestHandleRemoteDexBatch` (pool 100/100, dead holds 100, deposit 100 → 41) -/
example : liquidityDepositPoints 100 100 100 100 = .ok 41 := by
  have h1 : sqrtProduct 100 100 = 100 := by
    unfold sqrtProduct; rw [sqrt_eq_of (r := 100) (by decide) (by decide)]; decide
  have h2 : sqrtProduct 200 100 = 141 := by
    unfold sqrtProduct; rw [sqrt_eq_of (r := 141) (by decide) (by decide)]; decide
  have h0 : addUint64 100 100 = (200, false) := by decide
  simp [liquidityDepositPoints, h0, h1, h2, safeMulDiv, U64]

/-- the square root is exact on `uint64` reserves (no truncation in `SqrtProductUint64`) -/
theorem sqrtProduct_fits (x y : Nat) (hx : x < U64) (hy : y < U64) :
    SqrtProductUint64 x y = some (Nat.sqrt (x * y)) := by
  rw [sqrtProduct_gen, sqrtProduct_exact x y hx hy]

/-!
# Part 2 — the order book and the escrow pool

`Canopy.Dex.step` is the step function the driver runs against the real `fsm.StateMachine` (one operation, rolled
back on error, caches reset): create / edit / delete order, `HandleCommitteeSwaps` (lock / reset / close
instructions of one certificate, duplicates and conflicts included), the three DEX messages, `HandleDexBatch`
and the end-of-block inclusion. `SInv s` = the order book has unique keys, every order is stored under its own id,
and for every valid chain id the escrow pool equals the sum of the open orders.
-/

/-- the hand model was written against exactly these handler bodies (digest of the normalised source, regenerated on
every run): an edit to any of them breaks this obligation until the model is re-read -/
theorem handlers_pinned : handlerDigests = [
  ("HandleCommitteeSwaps", "8436b5e930b626e8"),
  ("LockOrder", "73c93283a942f79c"),
  ("ResetOrder", "1a8796fb5220b0d8"),
  ("CloseOrder", "e4c884eda965711d"),
  ("HandleMessageCreateOrder", "c1838922f45592f0"),
  ("HandleMessageEditOrder", "1644b5af84074f5b"),
  ("HandleMessageDeleteOrder", "923c298e6aad350f"),
  ("HandleMessageDexLimitOrder", "ee6abce1b270fba7"),
  ("HandleMessageDexLiquidityDeposit", "081a2ff2ca8376f8"),
  ("HandleMessageDexLiquidityWithdraw", "c60e588608635fde"),
  ("PoolAdd", "6b9a0f426ff5733f"),
  ("PoolSub", "1d3f87a82da50558"),
  ("SetPool", "df1558b2f6f282f6"),
  ("AccountAdd", "023f0267053d0277"),
  ("AccountSub", "bbb3ce698b58f572"),
  ("AddPoints", "f5b89f4b55e20da2"),
  ("GetPointsFor", "0d1825bbce515697"),
  ("HandleDexBatch", "698d196120703b76"),
  ("HandleRemoteDexBatch", "4d0ad9dc591a890c"),
  ("HandleReceiptsForOurLockedBatch", "01a6367ec7bf8220"),
  ("HandleRemoteChainLockedBatch", "00dbdd191ef4398a"),
  ("HandleOrderReceipts", "d0a93b40b9fe08ef"),
  ("HandleDexBatchOrders", "8fb158ce79ea4087"),
  ("handleBatchWithdraw", "ef2798e6e3cf5e6c"),
  ("handleBatchDeposit", "3b5d500da7471705"),
  ("handleCappedBatchDeposit", "25c827e2a643e620"),
  ("RotateDexBatches", "281a8fec83007d96"),
  ("IncludeSameBlockDex", "42c6161ca2da7d08"),
  ("HandleLivenessFallback", "6d9ea1df582c9e3c"),
  ("GetDexBatch", "a478ff12b34f0532"),
  ("Hash", "f11666f6dd15f7ea"),
  ("Copy", "8e3cc01a4b37f0a7"),
  ("IsEmpty", "882a1af3e8ace04e"),
  ("CopyOrders", "6bb4dd8461d8adc3")] := rfl

/-- the literals the model and the frame argument use are the values in `fsm/key.go` / `lib/config.go` today:
`MaxChainId`, the reserved ids of `checkChainId`, and the three pool-id addends (escrow ids start at 65535, above
every holding and liquidity id of a valid chain) -/
theorem constants_pinned :
    MaxChainId = maxChainId ∧ UnknownChainId = 0 ∧ DAOPoolID = 131071 ∧
    HoldingPoolAddend = 16383 ∧ LiquidityPoolAddend = 32767 ∧ EscrowPoolAddend = 65535 :=
  ⟨rfl, rfl, rfl, rfl, rfl, rfl⟩

/-- **escrow_eq.** Along EVERY sequence of operations, for every chain: escrow pool = Σ amounts of the open sell
orders of that chain. Side conditions (`Admissible`, each checked in the state the operation is applied to): a
created order's id is fresh; the escrow balance stays below 2^64 on create/edit-increase (`PoolAdd` does not guard);
certificate-driven operations carry a valid committee chain id. -/
theorem escrow_eq (s₀ : State) (ops : List Op) (h₀ : SInv s₀) (hadm : Admissible s₀ ops)
    (c : Nat) (hc : c ≤ maxChainId) :
    (getPool (run s₀ ops) (escrowId c)).amount = escrowSum (run s₀ ops) c :=
  (run_sinv h₀ hadm).eq c hc

/-- … in particular from an empty genesis state -/
theorem escrow_eq_from_genesis (self root height minOrder : Nat) (ops : List Op)
    (hadm : Admissible { self, root, height, minOrder } ops) (c : Nat) (hc : c ≤ maxChainId) :
    (getPool (run { self, root, height, minOrder } ops) (escrowId c)).amount
      = escrowSum (run { self, root, height, minOrder } ops) c :=
  escrow_eq _ ops (sinv_init self root height minOrder) hadm c hc

section witnesses
def addrA : Bytes := List.replicate 20 0xA0
def addrB : Bytes := List.replicate 20 0xB0
def id1 : Bytes := List.replicate 20 1
def mkCreate (id : Bytes) (amount : Nat) : Op :=
  .create { chain := 2, id := id, data := [], amount := amount, requested := 7, sellerRecv := [9], seller := addrA }

/-- non-vacuity: fund, create, lock, close (with a duplicate close and a conflicting reset in the same certificate) is
admissible, the order is paid out once, and the identity holds with a non-empty book in between -/
def demoOps : List Op :=
  [.fund addrA 1000, mkCreate id1 300, mkCreate (List.replicate 20 2) 50,
   .swaps 2 { locks := [some { id := id1, buyerRecv := addrB, buyerSend := [5], deadline := 9 }],
              resets := [id1], closes := [id1, id1] }]

example : escrowSum (run {} (demoOps.take 3)) 2 = 350 ∧ (getPool (run {} (demoOps.take 3)) (escrowId 2)).amount = 350 := by decide +kernel
example : escrowSum (run {} demoOps) 2 = 50 ∧ (getPool (run {} demoOps) (escrowId 2)).amount = 50
    ∧ balance (run {} demoOps) addrB = 300 ∧ balance (run {} demoOps) addrA = 650 := by decide +kernel

/-- **the freshness hypothesis is necessary.** `HandleMessageCreateOrder` does not look for an existing order: a
second create under an id that is still in the book overwrites the order and credits escrow again. (On the real
chain the id is `tx.GetHash()[:20]`; the harness case `txid-probe` runs two encodings of one signed create-order
through the real `ApplyTransaction`.) -/
theorem escrow_breaks_on_reused_id :
    let s := run {} [.fund addrA 1000, mkCreate id1 300, mkCreate id1 300]
    (getPool s (escrowId 2)).amount = 600 ∧ escrowSum s 2 = 300 := by decide +kernel

/-- **the `uint64` hypothesis is necessary.** `PoolAdd` is `pool.Amount += amount` without a guard: with more than
2^64 tokens in existence the escrow pool wraps (reported under C04: unguarded `PoolAdd`/`AddToTotalSupply`). -/
theorem escrow_wraps_beyond_uint64 :
    let s := run {} [.fund addrA 18446744073709551615, mkCreate id1 18446744073709551615,
                     .fund addrA 2, mkCreate (List.replicate 20 2) 2]
    (getPool s (escrowId 2)).amount = 1 ∧ escrowSum s 2 = 18446744073709551617 := by decide +kernel
end witnesses

/-- **close_exact_once.** A successful `CloseOrder` (from a certificate) moves exactly the order's escrowed amount
from the chain's escrow pool to the buyer named in the lock, touches no other account and no other escrow pool,
and removes the order — so that any further lock / reset / close instruction for the same id finds nothing
(`OrderNotFound`), and no edit or delete message for it can succeed. -/
theorem close_exact_once {s s' : State} {chain : Nat} {id : Bytes} (hi : SInv s) (hc : chain ≤ maxChainId)
    (h : closeOrder s chain id = .ok s') :
    ∃ o, AM.get? s.orders (chain, id) = some o ∧ o.buyerRecv ≠ [] ∧
      escAmt s' chain + o.amount = escAmt s chain ∧
      (∀ c, c ≤ maxChainId → c ≠ chain → escAmt s' c = escAmt s c) ∧
      balance s' o.buyerRecv = balance s o.buyerRecv + o.amount ∧
      (∀ a, a ≠ o.buyerRecv → balance s' a = balance s a) ∧
      AM.get? s'.orders (chain, id) = none ∧
      closeOrder s' chain id = .error .OrderNotFound ∧ resetOrder s' chain id = .error .OrderNotFound ∧
      (∀ l : LockOrder, l.id = id → lockOrder s' chain l = .error .OrderNotFound) ∧
      (∀ s'', deleteOrderMsg s' chain id ≠ .ok s'') ∧
      (∀ (m : EditOrder) s'', m.chain = chain → m.id = id → editOrder s' m ≠ .ok s'') := by
  obtain ⟨o, s1, s2, hg, hb, h1, h2, rfl⟩ := closeOrder_ok h
  obtain ⟨e1, hle, e3, e4, e5⟩ := remove_exact (id := id) hi (maxChainId_lt hc) h1 h2
  obtain ⟨g1, g2, g3, _⟩ := gone_finds_nothing e5
  refine ⟨o, hg, hb, by rw [e1 _ (maxChainId_lt hc), if_pos rfl]; exact Nat.sub_add_cancel hle,
    fun c hc' hne => by rw [e1 c (maxChainId_lt hc'), if_neg (Ne.symm hne)], e3, e4, e5, g1, g2, g3, ?_, ?_⟩
  · intro s'' hd
    obtain ⟨o', _, _, _, hg', _⟩ := deleteOrderMsg_ok hd
    rw [e5] at hg'; cases hg'
  · intro m s'' hm1 hm2 he
    obtain ⟨o', _, _, hg', _⟩ := editOrder_ok he
    rw [hm1, hm2, e5] at hg'; cases hg'

/-- **the close guard compares the CREDITED amount.** `CloseOrder` runs inside `HandleCommitteeSwaps`, which swallows
errors without rolling back, so the check made before anything moves is what keeps a close atomic. The quantity it
compares with the buyer's balance is the order's `AmountForSale` (the escrowed amount that is credited), not its
`RequestedAmount` (the counter-asset price): if `balance + AmountForSale` would exceed `MaxUint64` the close is refused
with `InvalidAmount` and — as an instruction of a certificate — changes nothing; and a close that succeeds had
`balance + AmountForSale ≤ MaxUint64`. -/
theorem close_guard_is_on_credited_amount {s : State} {chain : Nat} {id : Bytes} {o : SellOrder}
    (hg : AM.get? s.orders (chain, id) = some o) (hl : o.buyerRecv ≠ []) :
    (balance s o.buyerRecv > maxU64 - o.amount →
        closeOrder s chain id = .error .InvalidAmount ∧ orSkip s (closeOrder s chain id) = s) ∧
    (∀ s', closeOrder s chain id = .ok s' → o.amount ≤ maxU64 → balance s o.buyerRecv + o.amount ≤ maxU64) := by
  have hgo : getOrder s chain id = .ok o := by simp [getOrder, hg]
  have herr : balance s o.buyerRecv > maxU64 - o.amount → closeOrder s chain id = .error .InvalidAmount := fun hov => by
    simp [closeOrder, hgo, bind, Except.bind, hl, hov, throw, throwThe, MonadExceptOf.throw]
  refine ⟨fun hov => ⟨herr hov, by simp [orSkip, herr hov]⟩, fun s' h ha => ?_⟩
  by_cases hov : balance s o.buyerRecv > maxU64 - o.amount
  · rw [herr hov] at h; cases h
  · omega

/-- boundary witnesses (the family `closeovf-*` runs them on the real code): an order selling 1000 for 10, buyer
balance `MaxUint64 − 1000` → paid; `MaxUint64 − 999` → refused and nothing moves, although `MaxUint64 − 10` would
still admit it if the price were compared -/
example :
    let mk (bal : Nat) : State := run {} [.fund addrA 1000, mkCreate id1 1000,
      .swaps 2 { locks := [some { id := id1, buyerRecv := addrB, buyerSend := [5], deadline := 9 }] },
      .fund addrB bal, .swaps 2 { closes := [id1, id1] }]
    (balance (mk (18446744073709551615 - 1000)) addrB = 18446744073709551615 ∧ escrowSum (mk (18446744073709551615 - 1000)) 2 = 0) ∧
    (balance (mk (18446744073709551615 - 999)) addrB = 18446744073709551615 - 999 ∧ escrowSum (mk (18446744073709551615 - 999)) 2 = 1000
      ∧ (getPool (mk (18446744073709551615 - 999)) (escrowId 2)).amount = 1000) := by decide +kernel

/-- the same for a seller's `DeleteOrder`: exactly the escrowed amount goes back to the seller, once -/
theorem delete_exact_once {s s' : State} {chain : Nat} {id : Bytes} (hi : SInv s)
    (h : deleteOrderMsg s chain id = .ok s') :
    ∃ o, AM.get? s.orders (chain, id) = some o ∧ o.buyerRecv = [] ∧
      escAmt s' chain + o.amount = escAmt s chain ∧
      balance s' o.seller = balance s o.seller + o.amount ∧
      (∀ a, a ≠ o.seller → balance s' a = balance s a) ∧
      AM.get? s'.orders (chain, id) = none ∧
      closeOrder s' chain id = .error .OrderNotFound ∧ deleteOrderMsg s' chain id = .error .OrderNotFound := by
  obtain ⟨o, s1, s2, hch, hg, hb, h1, h2, rfl⟩ := deleteOrderMsg_ok h
  obtain ⟨e1, hle, e3, e4, e5⟩ := remove_exact (id := id) hi (maxChainId_lt hch) h1 h2
  obtain ⟨g1, _, _, g4⟩ := gone_finds_nothing e5
  refine ⟨o, hg, hb, by rw [e1 _ (maxChainId_lt hch), if_pos rfl]; exact Nat.sub_add_cancel hle, e3, e4, e5, g1, ?_⟩
  -- the chain id passed `checkChainId` once, it passes again
  obtain ⟨u, hu, _⟩ := bind_ok h
  exact g4 u hu

/-- duplicate instructions inside one certificate: closing the same order twice is closing it once -/
theorem duplicate_close_is_noop {s : State} {chain : Nat} {id : Bytes} (hi : SInv s) :
    orSkip (orSkip s (closeOrder s chain id)) (closeOrder (orSkip s (closeOrder s chain id)) chain id)
      = orSkip s (closeOrder s chain id) := by
  cases hc : closeOrder s chain id with
  | error e => simp [orSkip, hc]
  | ok s' =>
    obtain ⟨o, s1, s2, _, _, h1, h2, rfl⟩ := closeOrder_ok hc
    have hnone : AM.get? (deleteOrder s2 chain id).orders (chain, id) = none := by
      have ho2 := (accountsOnly_accountAdd h2).orders
      obtain ⟨_, rfl⟩ := poolSub_ok h1
      simp only [deleteOrder]; rw [ho2]
      exact AM.get?_del_self hi.ordersNodup
    simp [orSkip, (gone_finds_nothing hnone).1]

/-!
# Part 3 — the DEX invariants along every run: holding pool = Σ pending, Σ points = total

`DInv s`: every pool of the state has Σ points = `TotalPoolPoints` (and `uint64` balance and total); every stored
next/locked batch sits under its own committee id and carries withdrawal percents ≤ 100; and for every valid chain
the holding pool equals the Σ of the amounts of the orders and deposits stored in next(chain) ∪ locked(chain).

`run_dinv` proves `DInv` over EVERY sequence of modelled operations (`DexAdmissible`: the holding pool stays below
2^64 on a limit order / deposit; certificate chain ids ≤ `MaxChainId`; the remote pool size is a `uint64`; a fallback
batch carries a consistent table; the harness set-up writes well-formed pools, no holding pool, and a well-formed next
batch where none is stored — `DexOk`). The transient case is modelled exactly: with a zero ledger `handleBatchDeposit`
returns early and debits nothing, and the subsequent `HandleDexBatchOrders` fails the whole operation
(`moves_applyReceipts`, `moves_executeRemote`), so only successful operations have to keep the identity. Covered: the
three DEX messages, `HandleDexBatch` (receipt matching, order receipts, local and remote withdrawals and deposits
with the provider cap — ranking, free slot, eviction, rejection with refund —, AMM execution, liveness fallback,
rotation), `IncludeSameBlockDex`, and all sell-order operations (which touch neither).
-/

/-- **holding_eq.** Along every admissible run, for every chain:
holding pool = Σ amounts of pending DEX orders and deposits in next ∪ locked. -/
theorem holding_eq (s₀ : State) (ops : List Op) (h₀ : DInv s₀) (hadm : DexAdmissible s₀ ops) (c : Nat)
    (h0 : 0 < c) (hc : c ≤ maxChainId) :
    (getPool (run s₀ ops) (holdingId c)).amount = pendStored (run s₀ ops) c :=
  (run_dinv h₀ hadm).hold c h0 hc

/-- **points_sum.** Along every admissible run, for every pool: Σ points = `TotalPoolPoints`. -/
theorem points_sum (s₀ : State) (ops : List Op) (h₀ : DInv s₀) (hadm : DexAdmissible s₀ ops) (id : Nat) :
    ptsSum (getPool (run s₀ ops) id).points = (getPool (run s₀ ops) id).total :=
  ((run_dinv h₀ hadm).pools id).pts.sum

/-- … both from an empty genesis state -/
theorem dex_invariants_from_genesis (self root height minOrder : Nat) (hh : 0 < height) (ops : List Op)
    (hadm : DexAdmissible { self, root, height, minOrder } ops) :
    (∀ c, 0 < c → c ≤ maxChainId → (getPool (run { self, root, height, minOrder } ops) (holdingId c)).amount
        = pendStored (run { self, root, height, minOrder } ops) c) ∧
    (∀ id, ptsSum (getPool (run { self, root, height, minOrder } ops) id).points
        = (getPool (run { self, root, height, minOrder } ops) id).total) :=
  ⟨fun c h0 hc => holding_eq _ ops (dinv_init self root height minOrder hh) hadm c h0 hc,
   fun id => points_sum _ ops (dinv_init self root height minOrder hh) hadm id⟩

/-- non-vacuity: a funded pool, two limit orders and a deposit — 350 tokens are pending and held -/
example :
    let s := run {} [.fund addrA 1000, .setPool (liquidityId 2) { amount := 500, points := [(deadAddr, 7)], total := 7 },
      .limit 2 { amount := 100, requested := 1, addr := addrA, id := id1 },
      .deposit 2 { amount := 200, addr := addrA, id := id1 },
      .limit 2 { amount := 50, requested := 1, addr := addrA, id := id1 }]
    holdAmt s 2 = 350 ∧ pendStored s 2 = 350 ∧ ptsSum (getPool s (liquidityId 2)).points = 7 := by decide +kernel

/-! ## the per-function statements behind `points_sum` -/

/-- `Pool.AddPoints` keeps Σ points = total (and does not touch the amount) -/
theorem points_sum_addPoints {p p' : Pool} {a : Bytes} {n : Nat} (hp : PointsOk p) (hn : n < U64)
    (h : addPoints p a n = .ok p') : PointsOk p' := (points_addPoints hp hn h).1

/-- `handleBatchWithdraw` (percent ≤ 100, as `checkPercent` / `DexBatch.CheckBasic` guarantee): points are burnt from
the holder and from the total by the same amount; zero-point holders are dropped -/
theorem points_sum_withdraw {s : State} {ws : List Withdraw} {c x y : Nat} {isLocal : Bool} {p0 : Option Pool}
    {persist : Bool} {l : Ledger} (hw : ∀ w ∈ ws, w.percent ≤ 100)
    (hp : PointsOk (p0.getD (getPool s (liquidityId c))))
    (h : batchWithdraw s ws c x y isLocal p0 persist = .ok l) : PointsOk l.p :=
  points_batchWithdraw hw hp h

/-- `handleBatchDeposit` incl. the provider cap (`MaxLiquidityProviders`), evictions and rejections -/
theorem points_sum_deposit {s : State} {b : Batch} {c x y : Nat} {isLocal : Bool} {l : Ledger}
    (hp : PointsOk (getPool s (liquidityId c))) (h : batchDeposit s b c x y isLocal = .ok l) : PointsOk l.p :=
  points_batchDeposit hp h

/-- the percent bound is necessary: a withdrawal of 150% (which `CheckBasic` rejects) would burn more
points than the holder has and wrap both counters -/
theorem points_wrap_above_100_percent :
    (match batchWithdraw {} [{ percent := 150, addr := addrA, id := [] }] 2 1000 1000 false
        (some { amount := 1000, points := [(deadAddr, 10), (addrA, 10)], total := 20 }) false with
     | .ok l => decide (ptsSum l.p.points ≠ l.p.total)
     | .error _ => false) = true := by decide +kernel

/-- non-vacuity: a 50% withdrawal of a holder of 10 of 20 points burns 5 points and pays 250 of a 1000 reserve -/
example :
    (match batchWithdraw {} [{ percent := 50, addr := addrA, id := [] }] 2 1000 1000 false
        (some { amount := 1000, points := [(deadAddr, 10), (addrA, 10)], total := 20 }) false with
     | .ok l => decide (l.p.points = [(deadAddr, 10), (addrA, 5)] ∧ l.p.total = 15 ∧ l.p.amount = 750 ∧ balance l.s addrA = 250)
     | .error _ => false) = true := by decide +kernel

/-!
## the per-function statements behind `holding_eq`

`holdAmt s c` is the holding pool's balance, `Batch.pending` the Σ of a batch's order and deposit amounts.
-/

/-- in: `HandleMessageDexLimitOrder` -/
theorem holding_in_limit {s s' : State} {c : Nat} {o : LimitOrder} (h : dexLimitOrder s c o = .ok s')
    (hfit : holdAmt s c + o.amount < U64) :
    holdAmt s' c = holdAmt s c + o.amount ∧
    (getBatch s' c false).pending = (getBatch s c false).pending + o.amount ∧ s'.locked = s.locked := by
  obtain ⟨_, s1, h1, rfl⟩ := dexLimitOrder_ok h
  obtain ⟨hh, hl⟩ := holding_holdIn _ h1 hfit
  refine ⟨hh, ?_, hl⟩
  rw [getBatch_setNext_self _ _ _ (by intro hb; have := congrArg Batch.orders hb; simp at this)]
  simp [Batch.pending]; omega

/-- in: `HandleMessageDexLiquidityDeposit` -/
theorem holding_in_deposit {s s' : State} {c : Nat} {d : Deposit} (h : dexDeposit s c d = .ok s')
    (hfit : holdAmt s c + d.amount < U64) :
    holdAmt s' c = holdAmt s c + d.amount ∧
    (getBatch s' c false).pending = (getBatch s c false).pending + d.amount ∧ s'.locked = s.locked := by
  obtain ⟨_, s1, h1, rfl⟩ := dexDeposit_ok h
  obtain ⟨hh, hl⟩ := holding_holdIn _ h1 hfit
  refine ⟨hh, ?_, hl⟩
  rw [getBatch_setNext_self _ _ _ (by intro hb; have := congrArg Batch.deposits hb; simp at this)]
  simp [Batch.pending]; omega

/-- out: `HandleOrderReceipts` debits exactly Σ amounts of our locked orders, whatever the receipts say -/
theorem holding_out_receipts (c : Nat) (hc : c ≤ maxChainId) (os : List LimitOrder) (rs : List Nat) (s : State) (x y : Nat)
    (r : State × Nat × Nat) (h : orderReceipts c os rs s x y = .ok r) :
    holdAmt r.1 c + (os.map (·.amount)).sum = holdAmt s c :=
  ((moves_orderReceipts (G := True) hc h).1.eff trivial).hold

/-- out: `HandleLivenessFallback` refunds exactly the pending Σ of our locked batch and drops the batch -/
theorem holding_out_fallback {s s' : State} {c : Nat} {lb remote : Batch} (hc : c ≤ maxChainId)
    (h : livenessFallback s c lb remote = .ok s') :
    holdAmt s' c + lb.pending = holdAmt s c ∧ AM.get? s'.locked c = some {} := by
  obtain ⟨s1, s2, h1, h2, rfl⟩ := livenessFallback_ok h
  refine ⟨?_, by simp [setLocked, AM.get?_set_self]⟩
  have e := (((moves_refundAll (G := True) hc h1).trans (moves_refundAll hc h2)).eff trivial).hold
  -- installing the remote table rewrites the liquidity pool, not the holding pool
  show (getPool (setPool s2 (liquidityId c) _) (holdingId c)).amount + _ = _
  rw [getPool_setPool_other (holdingId_ne_liq hc hc)]
  simp only [holdAmt, Batch.pending, List.map_map, Function.comp_def] at e ⊢
  omega

/-!
# Part 5 — the liveness fallback is not gated by `isNested` (observation, with witness)

`HandleDexBatch` runs `HandleLivenessFallback` for every remote batch that carries `LivenessFallback = true`. The
flag is meant for the nested chain (the controller sets it on `RootDexBatch` only, together with the root chain's
points table). On the ROOT chain the batch arrives in a certificate result, for which `CertificateResult.CheckBasic`
demands `DexBatch.PoolPoints == nil`: a flagged batch there makes the root chain replace its provider table by the
empty table (`SetPoolPoints(nil, remoteBatch.TotalPoolPoints)`; no check looks at `TotalPoolPoints`) while the liquidity
pool keeps its balance. With `TotalPoolPoints = 0`, which is what `DexAdmissible` asks of a fallback batch, the accounting
identities of C20 still hold by the letter (Σ points = total is `0 = 0`; the holding pool is refunded exactly); with any
other value Σ points = total is lost as well. Either way every provider's claim is gone: withdrawals fail with
`PointHolderNotFound`, and with a zero total the next deposit re-seeds the table (`dead := √(x·y)`) so that the new
depositor and the dead address own the whole pool. It takes a certificate signed by the nested
chain's committee with the flag set — the honest controller never produces one (it copies the stored locked batch,
whose flag is always false).
-/

/-- the fallback installs exactly the remote batch's table -/
theorem fallback_copies_remote_table {s s' : State} {c : Nat} {lb remote : Batch}
    (h : livenessFallback s c lb remote = .ok s') :
    (getPool s' (liquidityId c)).points = remote.poolPoints ∧
    (getPool s' (liquidityId c)).total = remote.totalPoolPoints := by
  obtain ⟨s1, s2, _, _, rfl⟩ := livenessFallback_ok h
  show (getPool (setPool s2 (liquidityId c) _) (liquidityId c)).points = _ ∧
    (getPool (setPool s2 (liquidityId c) _) (liquidityId c)).total = _
  rw [getPool_setPool_self]
  exact ⟨rfl, rfl⟩

/-- on the root chain (`nested = false`) a flagged batch passes only with an empty table, and the fallback is executed:
before the remote batch is processed the provider table of the liquidity pool is empty -/
theorem root_fallback_erases_provider_table {s s' : State} {c : Nat} {remote : Batch} {bh : Bytes}
    (hlf : remote.livenessFallback = true) (hliq : (getPool s (liquidityId c)).amount ≠ 0)
    (h : dexBatchOn s c false remote bh = .ok s') :
    ∃ s1, livenessFallback s c (getBatch s c true) remote = .ok s1 ∧
      (getPool s1 (liquidityId c)).points = [] ∧ (getPool s1 (liquidityId c)).total = remote.totalPoolPoints ∧
      remoteDexBatch s1 remote c bh = .ok s' := by
  obtain ⟨_, hnp, hcase⟩ := dexBatchOn_ok h
  have hp : remote.poolPoints = [] := Decidable.byContradiction fun hpp => hnp ⟨by decide, hpp⟩
  rcases hcase with ⟨hz, _⟩ | ⟨_, s1, h1, h⟩ | ⟨hnlf, _⟩
  · exact absurd hz hliq
  · have := fallback_copies_remote_table h1
    exact ⟨s1, h1, by rw [this.1, hp], this.2, h⟩
  · exact absurd hlf hnlf

/-- witness (also run on the real code, case `witness-root-fallback`): a pool of 1000 with providers `dead` and `A`
(10 points each); after the fallback with an empty table the pool still holds 1000, nobody holds points, and `A`
cannot withdraw -/
theorem root_fallback_witness :
    (match livenessFallback
        (setPool {} (liquidityId 2) { amount := 1000, points := [(deadAddr, 10), (addrA, 10)], total := 20 }) 2 {}
        { poolSize := 500, livenessFallback := true } with
     | .ok s1 =>
       decide (getPool s1 (liquidityId 2) = { amount := 1000 }) &&
       (match dexWithdraw s1 2 { percent := 100, addr := addrA, id := [] } with
        | .error .PointHolderNotFound => true
        | _ => false)
     | .error _ => false) = true := by decide +kernel

/-!
# Part 6 — every order of a remote batch has its own payout slot

`HandleDexBatchOrders` executes the orders in hash-shuffled order, stores each result under the order's key
(`result[order.Key]`) and then pays every order `result[key]`. The key is the hash of
`blockHash ‖ be64(index) ‖ proto(order without its id)`: two orders with the same address, amount and limit differ in
the index only. The model's key is that hash paired with the index; this is sound exactly because the index enters the
hash at full 64-bit width — pinned here to the source — so that the hashed bytes determine the index.
-/

/-- `HashKey` writes the index with `binary.BigEndian.PutUint64(idxBz, uint64(index))`: no narrowing conversion -/
theorem hashKey_source : src_HashKey =
    "bz, _ := Marshal(x); idxBz := make([]byte, 8); binary.BigEndian.PutUint64(idxBz, uint64(index)); data := make([]byte, 0, len(blockHash) + len(idxBz) + len(bz)); data = append(data, blockHash...); data = append(data, idxBz...); data = append(data, bz...); x.Key = crypto.HashString(data); return x.Key" := rfl

/-- the hashed bytes of order `i` determine `i` (for every batch size a `uint64` can index), whatever the contents -/
theorem order_key_index_injective {bh : Bytes} {i j : Nat} {o o' : LimitOrder} (hi : i < U64) (hj : j < U64)
    (h : orderKeyInput bh i o = orderKeyInput bh j o') : i = j :=
  orderKeyInput_index_injective hi hj h

/-- **orders_settlement_exact.** For every remote batch (any number of orders, any repeated contents): one receipt per
order; Σ receipts = the debit of the AMM ledger of the local reserve; at most `MaxOrdersSettledPerBlock` (250) orders are
paid; the real liquidity pool is debited by exactly Σ receipts, so a ledger that started at the pool's balance ends at it. -/
theorem orders_settlement_exact {s : State} {os : List LimitOrder} {bh : Bytes} {x y c : Nat} {r : State × Nat × Nat × List Nat}
    (h : dexBatchOrders s os bh x y c = .ok r) :
    r.2.2.2.length = os.length ∧ r.2.2.2.sum + r.2.2.1 = y ∧ (r.2.2.2.filter (· ≠ 0)).length ≤ 250 ∧
    liqAmt r.1 c + r.2.2.2.sum = liqAmt s c ∧ (y = liqAmt s c → r.2.2.1 = liqAmt r.1 c) :=
  dexBatchOrders_settlement h

/-- non-vacuity (explicit keys instead of hashes): two orders with IDENTICAL contents get two slots and two different
payouts (90, then 75 at the worse price); 165 leaves the reserve and 165 is what the two slots hold -/
example :
    (match ammLoop [((0, [1]), { amount := 100, requested := 1, addr := addrA, id := [] }),
                    ((1, [2]), { amount := 100, requested := 1, addr := addrA, id := [] })] 0 1000 1000 [] with
     | .ok r => decide (r = (1200, 835, [((0, [1]), 90), ((1, [2]), 75)]))
     | .error _ => false) = true := by decide +kernel

/-!
# Part 7 — subsidies and pool ids (finding, repaired upstream in eca9d8a)

Before commit eca9d8a `MessageSubsidy.Check` validated the sender address and the opcode length, not `ChainId`, and
`HandleMessageSubsidy` does `PoolAdd(msg.ChainId, msg.Amount)`: a subsidy with `ChainId = c + EscrowPoolAddend` or
`c + HoldingPoolAddend` credited chain `c`'s escrow or holding pool and broke the equalities C20 states
(`subsidyUnchecked`, witnesses below; reproduced on the real code incl. a signed transaction through `ApplyTransaction`).
The check now applies `checkChainId`. In the model `Op.subsidy` does the same, and `escrow_eq` / `holding_eq` need NO side
condition for it: an accepted subsidy has `1 ≤ id ≤ MaxChainId`, every escrow pool id is `≥ EscrowPoolAddend = 65535` and
every holding pool id of a chain `≥ 1` is `≥ 16384` (`accepted_subsidy_hits_no_escrow_or_holding_pool`). Chain id 0 is
reserved — `holdingId 0` IS the reward pool of chain `MaxChainId` — which is why `holding_eq` speaks about chains `1 … MaxChainId`.
-/

/-- the stateless check as it is now: address, then chain id, then opcode length -/
theorem subsidy_check_source : src_MessageSubsidy_Check =
    "if x == nil { return ErrInvalidSubisdy() }; if err := checkAddress(x.Address); err != nil { return err }; if err := checkChainId(x.ChainId); err != nil { return err }; if len(x.Opcode) > 100 { return ErrInvalidOpcode() }; return nil" := rfl

/-- the handler credits `pools[ChainId]` -/
theorem subsidy_handler_source : src_HandleMessageSubsidy =
    "retired, err := s.CommitteeIsRetired(msg.ChainId); if err != nil { return err }; if retired { return ErrNonSubsidizedCommittee() }; if err = s.AccountSub(crypto.NewAddressFromBytes(msg.Address), msg.Amount); err != nil { return err }; return s.PoolAdd(msg.ChainId, msg.Amount)" := rfl

/-- an accepted subsidy goes to a chain id, and no chain id is the escrow pool id of a valid chain or the holding pool
id of a chain `≥ 1` (pool-id arithmetic on the generated addends, `constants_pinned`) -/
theorem accepted_subsidy_hits_no_escrow_or_holding_pool {s s' : State} {a : Bytes} {id n : Nat} {op : Bytes}
    (h : subsidy s a id n op = .ok s') :
    id ≠ 0 ∧ id ≤ maxChainId ∧ (∀ c, c ≤ maxChainId → id ≠ escrowId c) ∧ (∀ c, 0 < c → c ≤ maxChainId → id ≠ holdingId c) := by
  obtain ⟨h0, hid, _⟩ := subsidy_ok h
  refine ⟨h0, hid, fun c hc => ?_, fun c hc0 hc => ?_⟩
  · unfold escrowId EscrowPoolAddend U64; unfold maxChainId at hid hc; omega
  · unfold holdingId HoldingPoolAddend U64; unfold maxChainId at hid hc; omega

/-- pool ids above `MaxChainId`, `0` and the DAO pool id are refused -/
example : ([0, 16384, 2 + 16383, 2 + 32767, 2 + 65535, 131071, 18446744073709551615].all fun id =>
    match subsidy {} addrA id 5 [] with
    | .error .InvalidChainId => true
    | _ => false) = true := by decide +kernel

/-- PRE-FIX witness: the unchecked subsidy to `2 + EscrowPoolAddend` leaves chain 2's escrow pool at 340 with open orders worth 300 -/
theorem subsidy_breaks_escrow_eq :
    (match subsidyUnchecked (run {} [.fund addrA 1000, mkCreate id1 300]) addrA (2 + 65535) 40 [] with
     | .ok s => decide ((getPool s (escrowId 2)).amount = 340 ∧ escrowSum s 2 = 300)
     | .error _ => false) = true := by decide +kernel

/-- PRE-FIX witness: the unchecked subsidy to `2 + HoldingPoolAddend` leaves chain 2's holding pool at 140 with 100 pending -/
theorem subsidy_breaks_holding_eq :
    (match subsidyUnchecked (run {} [.fund addrA 1000, .setPool (liquidityId 2) { amount := 500 },
        .limit 2 { amount := 100, requested := 1, addr := addrA, id := id1 }]) addrA (2 + 16383) 40 [] with
     | .ok s => decide (holdAmt s 2 = 140 ∧ pendStored s 2 = 100)
     | .error _ => false) = true := by decide +kernel

end Canopy.C20
