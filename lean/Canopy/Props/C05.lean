import Canopy.Proof.Auth
import Canopy.Proof.Lists
import Canopy.Gen.Auth
/-!
# C05 — authorization

Model: `Canopy.Auth` (`Model/Auth.lean`): `CheckTx` → `GetAuthorizedSignersFor` → `CheckSignature` →
`ApplyTransaction` (fee from the verified signer, the handler of each of the 16 message kinds) over a
read-only state, returning the verified signer and the list of `Change`s the transaction makes.
Signatures are symbolic (`Env`): a key verifies exactly the (content, signature) pairs its holder
produced; a BLS multisig key verifies exactly the aggregates formed over its enabled members, subject
to `threshold = 0 ∨ enabled ≥ threshold` as in `BLS12381MultiPublicKey.VerifyBytes`; an
Ethereum-wrapped transaction verifies exactly when the raw Ethereum transaction in its signature
field converts (`RLPToCanopyTransaction` / `V2`, an uninterpreted function given by its graph) to the
identical transaction, as in `VerifyRLPBytes`.

What is proved, for every environment, configuration, state, key type and message kind:

* `authorization` — an accepted transaction was authenticated by a key whose address is in the
  authorized set computed from the message and the state; every debited account is in that set; every
  changed validator is operated by, or pays out to, the signer; an output address is redirected only
  by the old output address; a created validator has the signer as operator or output; every changed
  or deleted order was sold by the signer; a created order is sold by the signer. Corollaries:
  `no_state_change_without_authorized_signature` (non-interference), `credits_are_named`. The clauses
  are read off `Auth.applyTx_covered`: every change of an accepted transaction is `Auth.Covered`.
* `accepted_content_was_signed`, `field_tamper_rejected`, `content_determined_by_fields` — the
  signature is over exactly the content: a transaction that differs from a signed one in any signed
  field is rejected unless the key holder signed that content too.
* `signer_from_verified_key` — stake / edit-stake debit the address derived from the VERIFIED key; a
  `Signer` carried on the wire is rejected.
* `multisig_member_signed` (full strength, live obligation) / `multisig_threshold` — acceptance under
  a multisig key implies that at least one listed member signed exactly the content, and at least
  `threshold` distinct listed members did.

Finding of this slice (repaired in /repo by dc0ba0c, recorded `fixed:` in known_findings.json): the
multisig clause was FALSE of the code for threshold 0 — a key with threshold 0 and an empty signer
bitmap authenticated any transaction with the identity of G2 as "signature", no private key involved
(`open_multisig_authenticates_without_signature`, kernel witness `open_multisig_witness`; without the
guard only `multisig_member_signed_partial` under `threshold ≥ 1` holds). The repair refuses a multisig
key naming no signer in `CheckSignature`; `signer_guard_source` pins the guard from the regenerated
source, `open_multisig_refused_with_guard` shows it closes the witness, and the Go driver re-offers
the transaction through all three verification paths on every run (oracle signature
`C05:multisig-no-signer-accepted`). Still accepted, by the documented meaning of threshold 0 ("no
enforcement"): ONE real member signature under a threshold-0 key — `multisig_member_signed` covers it.

The tie to the source (regenerated from `/repo` on every run, `Gen/Auth.lean`, closed by evaluation):
the three switches enumerate the same 16 kinds; `Auth.authSpec` renders to the generated table of
`GetAuthorizedSignersFor`; the bodies of `GetAuthorizedSignersForValidator`, of the multisig
`VerifyBytes` / `Address`, of `VerifyRLPBytes`, the edit-stake output guard, the `AccountSub` targets
of every handler, the fee payer, `PopulateSpecialMessageFields` and the fields `GetSignBytes` copies
are pinned to the text the model transcribes; `batch_verifier_verifies_every_lane_member` pins the
control flow of `BatchVerifier.verifyAll` (no early return; every key-type list of a lane is verified),
on which the model's having no verification-path dimension rests; `cacheKey_source`, `cacheKey_injective`
and `cache_hit_sound` do the same for the signature cache (the key is the full triple, so a hit means this
very triple was verified).

Not proved here (measured by the correspondence run instead, see `checks/C05.py`): that the hand
model of the handlers and of the order of checks equals the Go code; anything about the primitives.
Outside the model (`certificate_effects_partial`): what an accepted certificate-results message
orders on the committee's authority (swaps out of escrow, slashes, DEX batches) — those state changes
are authorized by the certificate's +2/3 signature, not by the owners, by design of the protocol.
-/
namespace Canopy.C05
open Canopy Canopy.Auth

/-- `HandleMessage`, `GetFeeForMessageName` and `GetAuthorizedSignersFor` enumerate the same 16 kinds,
each once, and they are the kinds of the model -/
theorem switches_enumerate_same_kinds :
    Gen.Auth.handleKinds.length = 16 ∧ Gen.Auth.handleKinds.Nodup ∧
    Gen.Auth.feeKinds = Gen.Auth.handleKinds ∧
    Gen.Auth.authKinds.length = 16 ∧ Gen.Auth.authKinds.Nodup ∧
    (Gen.Auth.authKinds.all fun k => Gen.Auth.handleKinds.contains k) = true ∧
    Kind.all.map Kind.goType = Gen.Auth.authKinds ∧
    Kind.all.map (fun k => (k.goType, k.name)) =
      Gen.Auth.authKinds.map (fun t => (t, ((Gen.Auth.messageNames.find? (·.1 == t)).map (·.2)).getD "")) := by
  decide +kernel

/-- the model's authorization table is the table generated from `GetAuthorizedSignersFor` -/
theorem authSpec_matches_source :
    Kind.all.map (fun k => (k.goType, (authSpec k).map SignerExpr.render)) = Gen.Auth.authSigners ∧
    Gen.Auth.authDefault = "return nil, ErrUnknownMessage(x)" :=
  ⟨by decide +kernel, rfl⟩

/-- `GetAuthorizedSignersForValidator`: the operator alone when custodial, else operator and output
(`Auth.validatorSigners`); `pubKeyBytesToAddress`: the address of the decoded key (`Auth.pubKeyAddr`) -/
theorem validatorSigners_source :
    Gen.Auth.validatorSigners =
      "validator, err := s.GetValidator(crypto.NewAddressFromBytes(address)); if err != nil { return nil, err }; if bytes.Equal(validator.Address, validator.Output) { return [][]byte{validator.Address}, nil }; return [][]byte{validator.Address, validator.Output}, nil" ∧
    Gen.Auth.pubKeyBytesToAddress =
      "pk, err := crypto.NewPublicKeyFromBytes(public); if err != nil { return nil, ErrInvalidPublicKey(err) }; return pk.Address().Bytes(), nil" :=
  ⟨rfl, rfl⟩

/-- `CheckSignature` derives the address from the key it verified and returns it only when it matches
an authorized signer; `CheckTx` passes that address on as `sender` and into
`PopulateSpecialMessageFields`, which overwrites `Signer` of stake / edit-stake with it -/
theorem signer_is_the_verified_key_source :
    Gen.Auth.checkSignature.contains "publicKey, e := crypto.NewPublicKeyFromBytes(tx.Signature.PublicKey)" = true ∧
    Gen.Auth.checkSignature.contains "address := publicKey.Address()" = true ∧
    Gen.Auth.checkSignature.contains "for _, authorized := range authorizedSigners { if address.Equals(crypto.NewAddressFromBytes(authorized)) { return address, nil } }" = true ∧
    Gen.Auth.checkSignature.getLast? = some "return nil, ErrUnauthorizedTx()" ∧
    Gen.Auth.checkTxAuthorized = "authorizedSigners, err = s.GetAuthorizedSignersFor(msg)" ∧
    Gen.Auth.checkTxSender = "sender, err := s.CheckSignature(tx, authorizedSigners, batchVerifier)" ∧
    Gen.Auth.checkTxPopulate = "s.PopulateSpecialMessageFields(tx, sender, msg)" ∧
    Gen.Auth.populateParams = ["tx", "signer", "msg"] ∧
    Gen.Auth.populate.lookup "MessageStake" = some "x.Signer = signer.Bytes()" ∧
    Gen.Auth.populate.lookup "MessageEditStake" = some "x.Signer = signer.Bytes()" := by
  have mem {s : String} (h : s ∈ Gen.Auth.checkSignature) : Gen.Auth.checkSignature.contains s = true :=
    List.elem_eq_true_of_mem h
  refine ⟨mem ?_, mem ?_, mem ?_, rfl, rfl, rfl, rfl, rfl,
    by simp only [Gen.Auth.populate, List.lookup, String.reduceBEq],
    by simp only [Gen.Auth.populate, List.lookup, String.reduceBEq]⟩ <;>
    simp only [Gen.Auth.checkSignature, List.mem_cons, true_or, or_true]

/-- who the handlers debit (`AccountSub`), who pays the fee, and the edit-stake guard on the output
address — the expressions `Auth.handle` / `Auth.effects` transcribe -/
theorem debit_sources :
    Gen.Auth.handlerAccountSub =
      [("MessageSend", ["crypto.NewAddressFromBytes(msg.FromAddress)"]),
       ("MessageStake", ["crypto.NewAddress(msg.Signer)"]),
       ("MessageEditStake", ["crypto.NewAddress(msg.Signer)"]),
       ("MessageUnstake", []), ("MessagePause", []), ("MessageUnpause", []), ("MessageChangeParameter", []),
       ("MessageDAOTransfer", []), ("MessageCertificateResults", []),
       ("MessageSubsidy", ["crypto.NewAddressFromBytes(msg.Address)"]),
       ("MessageCreateOrder", ["crypto.NewAddress(msg.SellersSendAddress)"]),
       ("MessageEditOrder", ["crypto.NewAddress(order.SellersSendAddress)"]),
       ("MessageDeleteOrder", []),
       ("MessageDexLimitOrder", ["crypto.NewAddress(msg.Address)"]),
       ("MessageDexLiquidityDeposit", ["crypto.NewAddress(msg.Address)"]),
       ("MessageDexLiquidityWithdraw", [])] ∧
    Gen.Auth.applyFeeCall = "s.AccountDeductFees(result.sender, result.tx.Fee)" ∧
    Gen.Auth.applyHandleCall = "s.HandleMessage(result.msg)" ∧
    Gen.Auth.applyOrder = ["CheckTx", "AccountDeductFees", "HandleMessage"] ∧
    Gen.Auth.editStakeOutputGuard =
      "if !bytes.Equal(val.Output, msg.OutputAddress) && !bytes.Equal(val.Output, msg.Signer) { return ErrUnauthorizedTx() }" :=
  ⟨rfl, rfl, rfl, rfl, rfl⟩

/-- `GetSignBytes` copies every field of `lib.Transaction` except `Signature`, which it sets to nil;
`Auth.Content` has exactly those fields -/
theorem signBytes_cover_all_but_signature :
    (Gen.Auth.transactionFields.all fun f =>
      Gen.Auth.signBytesFields.contains (f, if f == "Signature" then "nil" else "x." ++ f)) = true ∧
    Gen.Auth.signBytesFields.length = Gen.Auth.transactionFields.length ∧
    Content.goFields = Gen.Auth.transactionFields.filter (· != "Signature") ∧
    Gen.Auth.signBody =
      "signBytes, err := x.GetSignBytes(); if err != nil { return }; x.Signature = &Signature{PublicKey: pk.PublicKey().Bytes(), Signature: pk.Sign(signBytes)}; return" :=
  ⟨by decide +kernel, rfl,
    by simp only [Content.goFields, Gen.Auth.transactionFields, List.filter, String.reduceBNe], rfl⟩

/-- the multisig verification rule and address derivation the model transcribes, and the decode-time
guards (`PubKey.wf`: non-empty, threshold ≤ n, no duplicate member) -/
theorem multisig_source :
    Gen.Auth.multiVerify =
      "publicKey, _ := b.scheme.AggregatePublicKeys(b.mask); if b.scheme.Verify(publicKey, msg, sig) != nil { return false }; return b.threshold == 0 || uint32(b.mask.CountEnabled()) >= b.threshold" ∧
    Gen.Auth.multiAddress =
      "var together []byte; for _, k := range b.PubKeys() { together = append(together, k...) }; threshold := make([]byte, 4); binary.BigEndian.PutUint32(threshold, b.threshold); together = append(together, threshold...); return Address(Hash(together)[:20])" ∧
    Gen.Auth.multiDecodeGuards =
      ["len(mpk.PublicKeys) == 0 || len(mpk.Bitmap) == 0 || mpk.Threshold > uint32(len(mpk.PublicKeys))", "exists",
       -- 8c75cbd: padding bits of the signer bitmap must be zero (C06: replay-by-multisig-bitmap-padding)
       "n % 8 != 0 && mpk.Bitmap[len(mpk.Bitmap) - 1] >> uint(n % 8) != 0"] :=
  ⟨rfl, rfl, rfl⟩

/-- `VerifyRLPBytes`: the transaction re-derived from the raw bytes must hash like the submitted one
(`Auth.verifyRLP`: equality of the two transactions) -/
theorem verifyRLP_source :
    Gen.Auth.verifyRLP =
      "compare, err := RLPToCanopyTransaction(tx.Signature.Signature); if tx.Memo == RLPV2Indicator { compare, err = RLPToCanopyTransactionV2(tx.Signature.Signature) }; if err != nil { return err }; compareHash, err := compare.GetHash(); if err != nil { return err }; originalHash, err := tx.GetHash(); if err != nil { return err }; if !bytes.Equal(compareHash, originalHash) { return ErrInvalidSignature() }; return nil" :=
  rfl

/-- The batch path is per-transaction verification: `ApplyTransactions` checks every transaction with
the shared batch verifier, marks what `Verify()` reports and executes with a NO-OP verifier — so the
batch verifier's verdict is final. `verifyAll` therefore has to reach, for its lane, the ed25519 block
AND the one-by-one verification of the eth-secp256k1, secp256k1 and BLS (single and multisig) tuples:
no `return` before its last statement (an early exit in the ed25519 block — e.g. "every ed25519
signature was cached" — would let the other key types of the lane through unverified); the
one-by-one closure reports every tuple whose `VerifyBytes` fails; `Add` files every supported key
type into a list that `verifyAll` visits. The model has no path dimension because of this. -/
theorem batch_verifier_verifies_every_lane_member :
    Gen.Auth.verifyAllShape =
      ["verifyBatch := func", "if len(b.ed25519[idx]) != 0 {…}", "verifyBatch(b.ethSecp256k1[idx])",
       "verifyBatch(b.secp256k1[idx])", "verifyBatch(b.bls12381[idx])", "return"] ∧
    Gen.Auth.verifyAllEarlyReturns = 0 ∧
    Gen.Auth.verifyAllClosure =
      "for _, tuple := range tuples { if ok := tuple.PublicKey.VerifyBytes(tuple.Message, tuple.Signature); ok { SignatureCache.Set(tuple.Key(), []byte{0}) } else { badIndices = append(badIndices, tuple.index) } }; return" ∧
    Gen.Auth.batchAddLanes.map (·.1) =
      ["*ED25519PublicKey", "*ETHSECP256K1PublicKey", "*SECP256K1PublicKey", "*BLS12381PublicKey, *BLS12381MultiPublicKey", "default"] ∧
    Gen.Auth.batchAddLanes.lookup "default" = some "return fmt.Errorf(\"unrecognized public key format\")" ∧
    Gen.Auth.applyTransactionsBatchUses =
      ["crypto.NewBatchVerifier()", "s.CheckTx(tx, \"\", batchVerifier)", "batchVerifier.Verify()",
       "s.ApplyTransaction(uint64(r.Count), tx, hashString, crypto.NewBatchVerifier(true))", "crypto.NewBatchVerifier(true)"] ∧
    -- the map from batch indices back to transactions is extended for EVERY transaction, whatever CheckTx
    -- answered: `CheckSignature` queues the signature before it can still fail (unauthorized signer), so a
    -- skipped bookkeeping step would shift every later verdict onto the wrong transaction
    Gen.Auth.firstPassBookkeepingUnconditional = true ∧
    Gen.Auth.applyTransactionsFirstPass.getLast? = some "for j := preCount; j < postCount; j++ { batchToTxIdx = append(batchToTxIdx, i) }" ∧
    Gen.Auth.applyTransactionsFirstPass.contains
      "if _, checkErr := s.CheckTx(tx, \"\", batchVerifier); checkErr != nil { failedCheckTxs[i] = checkErr }" = true :=
  ⟨rfl, rfl, rfl, rfl, by simp only [Gen.Auth.batchAddLanes, List.lookup, String.reduceBEq], rfl, rfl, rfl,
    List.elem_eq_true_of_mem (by simp only [Gen.Auth.applyTransactionsFirstPass, List.mem_cons, true_or, or_true])⟩

/-- `BatchTuple.Key()` is public key ‖ message ‖ signature in full (`Auth.cacheKey`; the driver op
`cachekey` also compares the two on messages of 0 … 5000 bytes on every run), and `CheckCache` looks up
and stores exactly that key -/
theorem cacheKey_source :
    Gen.Auth.cacheKeySource =
      "pk := bt.PublicKey.Bytes(); totalLen := len(pk) + len(bt.Message) + len(bt.Signature); b, offset := make([]byte, totalLen), 0; copy(b[offset:], pk); offset += len(pk); copy(b[offset:], bt.Message); offset += len(bt.Message); copy(b[offset:], bt.Signature); return string(b)" ∧
    Gen.Auth.checkCacheSource =
      "if DisableCache { return false, func(...){} }; cacheTuple := BatchTuple{PublicKey: pk, Message: msg, Signature: sig}; key := cacheTuple.Key(); addToCache = func(...){SignatureCache.Set(key, []byte{0})}; _, notFoundErr := SignatureCache.Get(key); found = notFoundErr == nil; return" :=
  ⟨rfl, rfl⟩

/-- Sound insertion: in the ed25519 lane of the batch verifier tuples are written into the signature
cache only on the branch where the batch equation HELD; when it fails, only the one-by-one closure
caches, and only what `VerifyBytes` accepted (`batch_verifier_verifies_every_lane_member` pins the
closure). So `remembered` in `cache_hit_sound` really is a set of verified triples: a forged tuple that
made a batch fail is not left behind as "verified" for its next presentation. -/
theorem cache_populated_only_after_success :
    Gen.Auth.ed25519CacheOnlyAfterSuccess = true ∧
    Gen.Auth.ed25519BatchDecision =
      "if !verifier.VerifyBatchOnly(rand.Reader) { verifyBatch(b.ed25519[idx]) } else { for i, _ := range notInCache { _ = SignatureCache.Set(cacheKeys[i], []byte{0}) } }" :=
  ⟨rfl, rfl⟩

/-- the key determines the triple once the lengths of key and signature are fixed (they are, per
signature scheme: 48/96 BLS, 32/64 ed25519, 33/64 secp256k1, 64/64 eth-secp256k1) -/
theorem cacheKey_injective (pk pk' m m' sg sg' : Bytes) (hp : pk.length = pk'.length) (hs : sg.length = sg'.length)
    (h : cacheKey pk m sg = cacheKey pk' m' sg') : pk = pk' ∧ m = m' ∧ sg = sg' :=
  append3_inj h hp hs

/-- Cache soundness: a cache hit means this very (key, message, signature) triple was verified before
— a message that differs anywhere, or another signature, cannot ride on a remembered verification.
(Within one scheme; across schemes the unframed concatenation is an idealisation, see checks/C05.py.) -/
theorem cache_hit_sound (remembered : List (Bytes × Bytes × Bytes)) (pk m sg : Bytes) (lp ls : Nat)
    (hrem : ∀ t ∈ remembered, t.1.length = lp ∧ t.2.2.length = ls) (hp : pk.length = lp) (hs : sg.length = ls)
    (h : cacheHit remembered pk m sg = true) : (pk, m, sg) ∈ remembered :=
  mem_of_contains_append3 hrem hp hs h

/-- non-vacuity, and what a truncating key would break: same key, same signature, message differing
only in its tail -/
example : cacheHit [([1, 2], [7, 7, 7, 8], [5])] [1, 2] [7, 7, 7, 8] [5] = true ∧
    cacheHit [([1, 2], [7, 7, 7, 8], [5])] [1, 2] [7, 7, 7, 9] [5] = false := by decide +kernel

deriving instance DecidableEq for Except

/-- The property in the model's vocabulary: whatever `applyTx` accepts was authenticated by a key
whose address the message's rules authorize in this state, and every debit / redirection / change of
something owned is covered by that authorization. -/
def Authorization (e : Env) (cfg : Cfg) (st : State) : Prop :=
  ∀ (tx : Tx) (nid : Bytes) (s : Addr) (log : List Change), applyTx e cfg st tx nid = .ok (s, log) →
    ∃ m auth pk,
      tx.content.msg = some m ∧ authorized e st m = .ok auth ∧
      -- a valid signature, over exactly the content, by a key whose address is authorized
      tx.pk = some pk ∧ authenticates e tx pk = .ok () ∧ e.addrOf pk = some s ∧ s ∈ auth ∧
      -- accounts: every debit is of an authorized signer's account
      (∀ a ∈ debited log, a ∈ auth) ∧
      -- stakes: a changed validator is operated by, or pays out to, the signer
      (∀ a ∈ validatorsChanged log, ∃ v, st.val a = some v ∧ (s = v.address ∨ s = v.output)) ∧
      -- … and only its current output address can redirect the payout
      (∀ a ∈ outputsRedirected log, ∃ v, st.val a = some v ∧ s = v.output) ∧
      (∀ p ∈ validatorsCreated log, s = p.1 ∨ s = p.2) ∧
      -- escrow: a changed or deleted order was sold by the signer; a new order is sold by the signer
      (∀ k ∈ ordersTouched log, ∃ o, st.order k.1 k.2 = some o ∧ s = o.seller) ∧
      (∀ a ∈ ordersCreated log, a = s)

theorem authorization (e : Env) (cfg : Cfg) (st : State) : Authorization e cfg st := by
  intro tx nid s log h
  obtain ⟨m, auth, pk, _, hm, hauth, hpk, _, _, hauthn, haddr, hmem, hcov⟩ := applyTx_covered h
  -- each clause reads off `Covered` for the changes its classifier selects
  refine ⟨m, auth, pk, hm, hauth, hpk, hauthn, haddr, hmem, ?_, ?_, ?_, ?_, ?_, ?_⟩
  all_goals refine List.forall_mem_filterMap.mpr fun c hc a hca => ?_
  all_goals cases c <;> cases hca <;> have hc := hcov _ hc
  · exact hc.1
  · -- a redirected payout is also a change of the validator
    exact hc.imp fun v hv => ⟨hv.1, .inr hv.2⟩
  all_goals exact hc

/-- Non-interference: if no key whose address is authorized for the message authenticated this exact
transaction, nothing changes (the transaction is rejected). -/
theorem no_state_change_without_authorized_signature (e : Env) (cfg : Cfg) (st : State) (tx : Tx) (nid : Bytes)
    (m : Msg) (auth : List Addr) (hm : tx.content.msg = some m) (hauth : authorized e st m = .ok auth)
    (h : ∀ pk a, tx.pk = some pk → e.addrOf pk = some a → a ∈ auth → authenticates e tx pk ≠ .ok ()) :
    ∀ r, applyTx e cfg st tx nid ≠ .ok r := by
  rintro ⟨s, log⟩ hr
  obtain ⟨m', auth', pk, hm', hauth', hpk, hauthn, haddr, hmem, _⟩ := authorization e cfg st tx nid s log hr
  cases hm.symm.trans hm'
  cases hauth.symm.trans hauth'
  exact h pk s hpk haddr hmem hauthn

/-- every credit goes to an address the signed message names (the recipient, the owner address, the
seller of the referenced order): funds are not redirected to a party the signer did not name -/
theorem credits_are_named (e : Env) (cfg : Cfg) (st : State) (tx : Tx) (nid : Bytes) (s : Addr) (log : List Change)
    (h : applyTx e cfg st tx nid = .ok (s, log)) :
    ∃ m, tx.content.msg = some m ∧
      ∀ a ∈ credited log, a = m.to ∨ a = m.a ∨ ∃ o, st.order m.ch m.oid = some o ∧ a = o.seller := by
  obtain ⟨m, auth, _, _, hm, _, _, _, _, _, _, _, hcov⟩ := applyTx_covered h
  refine ⟨m, hm, List.forall_mem_filterMap.mpr fun c hc a hca => ?_⟩
  cases c <;> cases hca
  exact hcov _ hc

/-- Partial: for certificate results the model records only that committee data changes. What the
certificate orders (swaps out of escrow, slashes, DEX batches) is executed on the authority of the
committee's +2/3 signature over the certificate, not of the affected owners, and is outside this
model (see C20 / C14 for those effects). What IS proved: the transaction is accepted only when signed
by the key named as proposer inside the certificate (`authorization`: the address of that key is the
authorized set of this kind) and, here, only for a certificate the committee signed with a +2/3
majority, for a chain that is neither the root chain nor the node's own. -/
theorem certificate_effects_partial (e : Env) (cfg : Cfg) (st : State) (m : Msg) (s : Addr) (nid : Bytes)
    (log l : List Change) (hk : m.kind = .certificateResults) (h : handle e cfg st m s nid log = .ok l) :
    l = log ++ [.sys "cdata"] ∧ (m.oid.toArray.toList, true) ∈ e.qcs.map (fun q => (q.1.toArray.toList, q.2)) ∧
    m.ch ≠ cfg.root ∧ m.ch ≠ cfg.chain := by
  unfold handle at h
  simp only [hk] at h
  obtain ⟨hne, h⟩ := ite_error_eq_ok.mp h
  split at h
  · cases h
  · rename_i q hq
    split at h <;> cases h
    rename_i hfull
    have hid := List.find?_some hq
    simp only [Bool.or_eq_true, decide_eq_true_eq, not_or, beq_iff_eq] at hid hne
    exact ⟨rfl, List.mem_map.mpr ⟨q, List.mem_of_find?_eq_some hq, by rw [hid, hfull]⟩, hne⟩

/-- An accepted transaction's content is exactly what was authenticated: for the signature path the
key verifies this content with this signature; for the Ethereum wrapper path the raw transaction in
the signature field converts to a transaction with exactly this content and this key. -/
theorem accepted_content_was_signed (e : Env) (cfg : Cfg) (st : State) (tx : Tx) (nid : Bytes) (s : Addr)
    (log : List Change) (h : applyTx e cfg st tx nid = .ok (s, log)) :
    ∃ pk, tx.pk = some pk ∧ e.addrOf pk = some s ∧
      (e.verifies pk tx.content tx.sig = true ∨
       (pk.isEth = true ∧ ∃ r ∈ e.rlp, r.raw = tx.sig ∧ r.content = tx.content ∧ r.pk = pk)) := by
  obtain ⟨m, auth, pk, _, _, hpk, hauthn, haddr, _⟩ := authorization e cfg st tx nid s log h
  exact ⟨pk, hpk, haddr, (authenticates_ok hauthn).imp_right fun ⟨heth, _, hr⟩ => ⟨heth, hr⟩⟩

/-- Field-tamper corollary (single keys, signature path): if the holder of `b` never produced
`sig` over the content `c'` — in particular when `c'` is a signed content with any one signed field
changed — a transaction carrying `c'` under that key and signature is rejected. -/
theorem field_tamper_rejected (e : Env) (cfg : Cfg) (st : State) (sch : Scheme) (b : Bytes) (c' : Content)
    (sig : String) (nid : Bytes) (hnot : (b, c', sig) ∉ e.signed)
    (hpath : c'.memo ≠ rlpV2Memo ∧ ¬ (c'.memo = rlpMemo ∧ sch = .eth)) :
    ∀ r, applyTx e cfg st ⟨c', some (.single sch b), sig⟩ nid ≠ .ok r := by
  rintro ⟨s, log⟩ hr
  obtain ⟨_, _, pk, _, _, _, hpk, _, _, hauthn, _⟩ := applyTx_covered hr
  cases hpk
  rcases authenticates_ok hauthn with hv | ⟨heth, hmemo, _⟩
  · exact hnot (List.contains_iff_mem.mp hv)
  · -- the wrapper path needs an Ethereum key AND an RLP memo
    have hsch : sch = .eth := by cases sch <;> simp [PubKey.isEth] at heth ⊢
    exact hmemo.elim hpath.1 fun hm => hpath.2 ⟨hm, hsch⟩

/-- Two contents that agree on every field `GetSignBytes` copies are the same content; so changing
any one of them (message type, any payload field incl. the digest of the unlisted ones, time, created
height, fee, memo, network id, chain id, nonce) yields a different content. -/
theorem content_determined_by_fields (c c' : Content) :
    c = c' ↔ c.messageType = c'.messageType ∧ c.msg = c'.msg ∧ c.time = c'.time ∧ c.createdHeight = c'.createdHeight ∧
      c.fee = c'.fee ∧ c.memo = c'.memo ∧ c.networkId = c'.networkId ∧ c.chainId = c'.chainId ∧ c.nonce = c'.nonce := by
  constructor
  · rintro rfl; simp
  · intro h
    cases c; cases c'
    simp_all

/-- e.g. raising the fee or redirecting the recipient after signing changes the content -/
example (c : Content) (f : Nat) (h : f ≠ c.fee) : { c with fee := f } ≠ c :=
  fun hc => h (congrArg Content.fee hc)

/-- `signer_from_verified_key`: for stake and edit-stake the wire must not carry a `Signer`, and the
account debited (fee and stake) is the address of the key that authenticated the transaction — not an
address chosen by the sender. -/
theorem signer_from_verified_key (e : Env) (cfg : Cfg) (st : State) (tx : Tx) (nid : Bytes) (s : Addr)
    (log : List Change) (m : Msg) (h : applyTx e cfg st tx nid = .ok (s, log)) (hm : tx.content.msg = some m)
    (hk : m.kind = .stake ∨ m.kind = .editStake) :
    m.wireSigner = false ∧ (∀ a ∈ debited log, a = s) ∧
    ∃ pk, tx.pk = some pk ∧ authenticates e tx pk = .ok () ∧ e.addrOf pk = some s := by
  obtain ⟨m', auth, pk, hpre, hm', _, hpk, _, _, hauthn, haddr, _, hcov⟩ := applyTx_covered h
  cases hm.symm.trans hm'
  refine ⟨precheck_noWireSigner hpre, ?_, pk, hpk, hauthn, haddr⟩
  refine List.forall_mem_filterMap.mpr fun c hc a hca => ?_
  cases c <;> cases hca
  exact (hcov _ hc).2 hk

/-- what stands behind a transaction accepted under a multisig key: the members marked as signers are
distinct listed members (decode-time guards on the key), each of them signed exactly this content (the
aggregate is over them; the identity stands for an aggregate over nobody), they are at least
`threshold` (the rule of `VerifyBytes`; nothing for threshold 0), and with the signer guard of
`CheckSignature` there is one -/
private theorem multisig_verifies {e : Env} (hwf : e.WF) {cfg : Cfg} {st : State} {tx : Tx} {nid : Bytes} {s : Addr}
    {log : List Change} {ks : List Bytes} {bits : List Bool} {thr : Nat}
    (hpk : tx.pk = some (.multi ks bits thr)) (h : applyTx e cfg st tx nid = .ok (s, log)) :
    (enabled ks bits).Sublist ks ∧ (enabled ks bits).Nodup ∧ thr ≤ (enabled ks bits).length ∧
    (∀ k ∈ enabled ks bits, ∃ sg, (k, tx.content, sg) ∈ e.signed) ∧
    (cfg.requireSigner = true → enabled ks bits ≠ []) := by
  obtain ⟨_, _, pk, _, _, _, hpk', hwfk, hg, hauthn, _⟩ := applyTx_covered h
  rw [hpk] at hpk'
  cases hpk'
  -- not the wrapper path: a multisig key is no Ethereum key
  have hv := (authenticates_ok hauthn).resolve_right fun hw => Bool.false_ne_true hw.1
  simp [Env.verifies, Env.aggregateValid] at hv
  simp [PubKey.wf] at hwfk
  have hsub := enabled_sublist ks bits hwfk.2
  refine ⟨hsub, hsub.nodup hwfk.1.2, hv.2.elim (· ▸ Nat.zero_le _) id, fun k hk => ?_,
    fun hr => by simpa [PubKey.noSigner] using hg hr⟩
  rcases hv.1 with hagg | ⟨hempty, _⟩
  · exact hwf tx.sig tx.content ks bits hagg k hk
  · rw [hempty] at hk; cases hk

/-- Acceptance under a multisig key `(keys, bitmap, threshold)` implies: at least `threshold`
distinct keys of the listed set signed exactly this content. (`Env.WF`: an aggregate exists only over
signatures its members produced.) Holds with and without the signer guard; for `threshold = 0` it is
vacuous — see `multisig_member_signed` for the clause that is not. -/
theorem multisig_threshold (e : Env) (hwf : e.WF) (cfg : Cfg) (st : State) (tx : Tx) (nid : Bytes) (s : Addr)
    (log : List Change) (ks : List Bytes) (bits : List Bool) (thr : Nat)
    (hpk : tx.pk = some (.multi ks bits thr)) (h : applyTx e cfg st tx nid = .ok (s, log)) :
    ∃ S : List Bytes, S.Sublist ks ∧ S.Nodup ∧ thr ≤ S.length ∧ ∀ k ∈ S, ∃ sg, (k, tx.content, sg) ∈ e.signed :=
  have ⟨hsub, hnd, hthr, hsigned, _⟩ := multisig_verifies hwf hpk h
  ⟨enabled ks bits, hsub, hnd, hthr, hsigned⟩

/-- **The multisig clause at full strength** (live obligation since repair dc0ba0c; the hypothesis
`cfg.requireSigner = true` is what the regenerated source fact `signer_guard_source` shows of the
code): acceptance under a multisig key implies that at least one listed member signed exactly this
content, and at least `threshold` distinct listed members did. -/
theorem multisig_member_signed (e : Env) (hwf : e.WF) (cfg : Cfg) (hguard : cfg.requireSigner = true) (st : State)
    (tx : Tx) (nid : Bytes) (s : Addr) (log : List Change) (ks : List Bytes) (bits : List Bool) (thr : Nat)
    (hpk : tx.pk = some (.multi ks bits thr)) (h : applyTx e cfg st tx nid = .ok (s, log)) :
    (∃ k ∈ ks, ∃ sg, (k, tx.content, sg) ∈ e.signed) ∧
    ∃ S : List Bytes, S.Sublist ks ∧ S.Nodup ∧ thr ≤ S.length ∧ ∀ k ∈ S, ∃ sg, (k, tx.content, sg) ∈ e.signed := by
  refine ⟨?_, multisig_threshold e hwf cfg st tx nid s log ks bits thr hpk h⟩
  obtain ⟨hsub, _, _, hsigned, hne⟩ := multisig_verifies hwf hpk h
  -- the guard leaves an enabled member, and that member signed
  obtain ⟨k, hk⟩ := List.exists_mem_of_ne_nil _ (hne hguard)
  exact ⟨k, hsub.subset hk, hsigned k hk⟩

/-- Without the guard the same clause holds only under the hypothesis `threshold ≥ 1` -/
theorem multisig_member_signed_partial (e : Env) (hwf : e.WF) (cfg : Cfg) (st : State) (tx : Tx) (nid : Bytes)
    (s : Addr) (log : List Change) (ks : List Bytes) (bits : List Bool) (thr : Nat) (hthr : thr ≥ 1)
    (hpk : tx.pk = some (.multi ks bits thr)) (h : applyTx e cfg st tx nid = .ok (s, log)) :
    ∃ k ∈ ks, ∃ sg, (k, tx.content, sg) ∈ e.signed := by
  obtain ⟨S, hsub, _, hlen, hS⟩ := multisig_threshold e hwf cfg st tx nid s log ks bits thr hpk h
  obtain ⟨k, hk⟩ := List.exists_mem_of_length_pos (Nat.le_trans hthr hlen)
  exact ⟨k, hsub.subset hk, hS k hk⟩

/-- the guard of repair dc0ba0c is in the source, between decoding the key and verifying anything -/
theorem signer_guard_source :
    Gen.Auth.multisigSignerGuard =
      "if multiKey, isMulti := publicKey.(*crypto.BLS12381MultiPublicKey); isMulti && multiKey.EnabledSignerCount() == 0 { return nil, ErrInvalidSignature() }" ∧
    Gen.Auth.multisigSignerGuardInPlace = true :=
  ⟨rfl, rfl⟩

/-- **Before the repair the clause was false for threshold 0** (found by this slice, reproduced on the
real code through all three verification paths, recorded as `fixed:` in known_findings; the Go driver
re-offers the transaction on every run under the oracle signature `C05:multisig-no-signer-accepted`):
the verification layer — unchanged by the repair — authenticates, for EVERY member list and EVERY
content, the key with threshold 0 and an empty bitmap with the identity of G2 as "signature", in ANY
environment, in particular one in which nobody has signed anything. (`NewPublicKeyFromBytes` decodes
multisig keys with the consensus constructor, which allows threshold 0; the aggregate key of an empty
mask is the identity of G1, against which the identity signature verifies for every message;
`threshold == 0 ||` waives the signer count.) -/
theorem open_multisig_authenticates_without_signature (e : Env) (ks : List Bytes) (c : Content)
    (hm : c.memo ≠ rlpV2Memo) :
    authenticates e ⟨c, some (.multi ks (List.replicate ks.length false) 0), identitySig⟩
      (.multi ks (List.replicate ks.length false) 0) = .ok () := by
  unfold authenticates
  simp [hm, PubKey.isEth, Env.verifies, Env.aggregateValid, enabled_replicate_false]

/-- the pre-repair witness, evaluated by the kernel: three members, an environment in which nobody
signed anything. The key with threshold 0 is well formed, names no signer, and authenticates the
transaction with the identity as signature — so `CheckSignature` without the guard goes on to match
its address against the authorized set, and with the guard refuses it
(`open_multisig_refused_with_guard`); with threshold 2 the empty bitmap was always refused. -/
theorem open_multisig_witness :
    let c : Content := { messageType := "send", msg := none, time := 1, createdHeight := 1, fee := 1, memo := "",
                         networkId := 1, chainId := 1, nonce := 0 }
    let e : Env := {}
    let k0 := PubKey.multi [[1], [2], [3]] [false, false, false] 0
    let k2 := PubKey.multi [[1], [2], [3]] [false, false, false] 2
    authenticates e ⟨c, some k0, identitySig⟩ k0 = .ok () ∧
    k0.wf = true ∧ k0.noSigner = true ∧
    authenticates e ⟨c, some k2, identitySig⟩ k2 = .error eInvalidSignature := by
  decide +kernel

/-- the guard turns the witness into a rejection whatever the authorized set is -/
theorem open_multisig_refused_with_guard (e : Env) (c : Content) (auth : List Addr) (ks : List Bytes) (thr : Nat) :
    ∀ a, checkSignature true e ⟨c, some (.multi ks (List.replicate ks.length false) thr), identitySig⟩ auth ≠ .ok a := by
  intro a h
  obtain ⟨pk, hpk, _, _, _, _, hg⟩ := checkSignature_ok h
  cases hpk
  simpa [PubKey.noSigner, enabled_replicate_false] using hg rfl

namespace Demo
def alice : Addr := List.replicate 20 1
def mallory : Addr := List.replicate 20 2
def bob : Addr := List.replicate 20 3
def kA : Bytes := [0xA]
def kM : Bytes := [0xB]
def send (to : Addr) (amt : Nat) : Content :=
  { messageType := "send", msg := some { kind := .send, a := alice, to := to, amt := amt, rest := "m1" },
    time := 7, createdHeight := 1, fee := 10, memo := "", networkId := 1, chainId := 1, nonce := 0 }
/-- Alice (a secp256k1 key with a declared address) signed one send of 5 to Bob; Mallory signed the same content -/
def env : Env :=
  { addrs := [(kA, alice), (kM, mallory)],
    signed := [(kA, send bob 5, "sigA"), (kM, send bob 5, "sigM")] }
def cfg : Cfg := { net := 1, chain := 1, root := 1, height := 1, fee := fun _ => 10 }
def st : State := { bal := fun a => if a = alice then 100 else 0 }
def ok (r : Except String (Addr × List Change)) : Bool := match r with | .ok _ => true | .error _ => false
end Demo

open Demo in
/-- the honest transaction is accepted, debits only Alice and credits Bob -/
example : applyTx env cfg st ⟨send bob 5, some (.single .secp256k1 kA), "sigA"⟩ [] =
    .ok (alice, [.debit alice 10, .pool 1 10, .debit alice 5, .credit bob 5]) := by decide +kernel

open Demo in
/-- the same content signed by Mallory's key: valid signature, unauthorized signer -/
example : applyTx env cfg st ⟨send bob 5, some (.single .secp256k1 kM), "sigM"⟩ [] = .error eUnauthorizedTx := by decide +kernel

open Demo in
/-- recipient or amount changed after signing: rejected although key and signature are Alice's -/
example : applyTx env cfg st ⟨send mallory 5, some (.single .secp256k1 kA), "sigA"⟩ [] = .error eInvalidSignature ∧
    applyTx env cfg st ⟨send bob 50, some (.single .secp256k1 kA), "sigA"⟩ [] = .error eInvalidSignature := by decide +kernel

namespace Demo
def kS : Bytes := [0xC]
def valAddr : Addr := List.replicate 20 4
/-- a delegate stake for the secp256k1 key `kS` with Alice as output address, signed by Alice -/
def stakeMsg (wire : Bool) : Msg :=
  { kind := .stake, pk := some (.single .secp256k1 kS), out := alice, amt := 40, delegate := true, wireSigner := wire, rest := "m3" }
def stake (wire : Bool) : Content :=
  { messageType := "stake", msg := some (stakeMsg wire), time := 7, createdHeight := 1, fee := 10, memo := "",
    networkId := 1, chainId := 1, nonce := 0 }
def senv : Env :=
  { addrs := [(kA, alice), (kS, valAddr)], signed := [(kA, stake false, "sigS"), (kA, stake true, "sigW")] }
end Demo

open Demo in
/-- stake signed by the output address: fee and stake are debited from the verified signer (Alice),
the validator is created at the address of the staked key; the same message carrying a `Signer` on the
wire is refused before any signature is looked at -/
example : applyTx senv cfg st ⟨stake false, some (.single .secp256k1 kA), "sigS"⟩ [] =
      .ok (alice, [.debit alice 10, .pool 1 10, .debit alice 40, .sys "supply", .sys "delegate", .valNew valAddr alice 40]) ∧
    applyTx senv cfg st ⟨stake true, some (.single .secp256k1 kA), "sigW"⟩ [] = .error eNotEmpty := by decide +kernel

namespace Demo
def m1 : Bytes := [1]
def m2 : Bytes := [2]
def m3 : Bytes := [3]
def msend : Content := { send bob 5 with msg := some { kind := .send, a := [9], to := bob, amt := 5, rest := "m2" } }
/-- members 1 and 2 signed; aggregates exist for bitmap 110 and for bitmap 100 (member 1's signature alone) -/
def menv : Env :=
  { signed := [(m1, msend, "s1"), (m2, msend, "s2")], aggs := [("agg12", msend, [m1, m2, m3], [true, true, false]), ("s1", msend, [m1, m2, m3], [true, false, false])] }
end Demo

open Demo in
/-- 2-of-3: the aggregate of two members verifies, one member alone does not (threshold), and with
threshold 0 the same one-member aggregate does verify — as in the Go code -/
example : menv.verifies (.multi [m1, m2, m3] [true, true, false] 2) msend "agg12" = true ∧
    menv.verifies (.multi [m1, m2, m3] [true, false, false] 2) msend "s1" = false ∧
    menv.verifies (.multi [m1, m2, m3] [true, false, false] 0) msend "s1" = true ∧
    menv.WF := by
  refine ⟨by decide +kernel, by decide +kernel, by decide +kernel, ?_⟩
  intro sig c ks bits hmem k hk
  simp [menv] at hmem
  rcases hmem with ⟨rfl, rfl, rfl, rfl⟩ | ⟨rfl, rfl, rfl, rfl⟩
  · simp [enabled] at hk
    rcases hk with rfl | rfl
    · exact ⟨"s1", by simp [menv]⟩
    · exact ⟨"s2", by simp [menv]⟩
  · simp [enabled] at hk
    subst hk
    exact ⟨"s1", by simp [menv]⟩

end Canopy.C05
