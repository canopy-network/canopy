import Canopy.Proof.SmtHash
import Canopy.Proof.SmtPar
import Canopy.Proof.SmtCache
import Canopy.Gen.SmtFacts
/-!
# C08 — the state root is a pure, collision-free function of the state

Model: `Canopy/Model/Smt.lean` (the sparse Merkle tree of `store/smt.go`). A state is a partial map
`S : Key → Option Bytes` (`KMap`) on `n`-bit keys holding the two sentinel leaves; `t.Rep n S` says that the
tree `t` is in canonical form (`Trie.WF n`) and holds exactly `S`. `insert` / `delete` are the algorithm
(`traverse` + `set` / `delete`), `commit` the sorted sequential batch (`SMT.Commit`), `Trie.root` the Go root
(SHA-256 over the encoded child keys and values), `Trie.value H4` the same with an abstract node hash.

What is proved here, for every key length `n > 0`, every tree and every history:

* `canonical_unique`       canonical form is a property: two canonical trees with the same contents are equal
* `insert_canonical`, `delete_canonical`   the algorithm's steps keep the tree canonical and act on the contents
                                            as map insert / erase
* `history_independence`   any two histories (any order, any batching, overwrites, insert-then-delete, …) that end
                           in the same map end in the same tree, hence in the same root (`root_history_independent`)
* `commit_total`           the sequential batch commit of valid operations never reaches the Go panic and is such a history
* `encodeKey_inj`          the node-key byte encoding (with its padding byte) is injective
* `root_injective`         different states give different roots — under the explicit hypothesis `H4Inj` that the
                           node hash is injective on 4-tuples (collision-freeness + unambiguity of the unframed
                           concatenation; a hypothesis, not an axiom; `H4Inj_satisfiable` shows it is consistent)

* `parallel_eq_sequential`  `CommitParallel` (14 synthetic borders in, eight workers each confined to the subtree below
                           its 3-bit prefix and taken in ANY order, borders out) returns exactly what the sequential
                           `Commit` returns, under `ParOK` (one valid operation per key, nothing reserved, no key equal
                           to a synthetic border); `root_is_pure` puts sequential, parallel and batching together

* `workers_receive_ascending_order`   the sort comparators of `Commit` and `sortOperationsByPrefix`, translated from their
                           closures, are the strict bitwise key order the model sorts by
* `copy_does_not_carry_commitment`, `clone_root_canonical`   `Store.Copy()` hands no cached commitment to the clone
                           (generated fact), so the clone's `Root()` is the canonical tree of the clone's own state
* `node_cache_coherent`, `node_cache_transparent`   the in-memory node cache of `setNode`/`getNode`/`delNode` (model
                           `Model/SmtCache.lean`, rules taken from generated facts) is coherent in every reachable state
                           for EVERY capacity: a cached entry is the store's latest node, a read through the cache is a
                           read from the store, and the store evolves as if there were no cache — so the tree algorithm
                           (which the theorems above are about) is unaffected by the cache and by `MaxCacheSize`;
                           `admit_only_below_capacity_incoherent` is the counterexample for the mutated admission rule

Not proved here (covered by the correspondence run only, see `checks/C08.py`): the L2 refinement (node table,
traversal stack, rehash-skipping) of `smt.go` to these L1 functions, and the goroutine level of `CommitParallel`
(the model's workers are functions on disjoint subtrees applied in an arbitrary order, not threads).
-/
namespace Canopy.Smt
open Trie

/-- Canonical form is unique: the tree is a function of the key/value set. -/
theorem canonical_unique {n : Nat} {t₁ t₂ : Trie} {S : KMap} (h₁ : t₁.Rep n S) (h₂ : t₂.Rep n S) : t₁ = t₂ :=
  rep_unique h₁ h₂

/-- `set()` keeps the tree canonical and inserts/overwrites exactly one binding. -/
theorem insert_canonical {n : Nat} {t : Trie} {S : KMap} {k : Key} {v : Bytes}
    (h : t.Rep n S) (hk : k.length = n) : (insert k v t).Rep n (S.set k v) :=
  (insert_spec hk t h.1).rep h

/-- `delete()` keeps the tree canonical and erases exactly one binding (a no-op for an absent key). -/
theorem delete_canonical {n : Nat} {p : Key} {l r : Trie} {S : KMap} (k : Key)
    (h : (Trie.node p l r).Rep n S) : (delete k (Trie.node p l r)).Rep n (S.erase k) :=
  (delete_spec k _ h.1 trivial).rep h

/-- The tree after any history of valid operations is the canonical tree of the resulting map. -/
theorem run_canonical {n : Nat} (hn : 0 < n) {t : Trie} {S : KMap} (ops : List Op)
    (h : t.Rep n S) (hs : S.HasSentinels n) (hv : ∀ op ∈ ops, op.Valid n) :
    (t.run ops).Rep n (S.run ops) :=
  (rep_run hn ops h hs hv).1

/-- **History independence.** Two histories of sets, overwrites and deletes — whatever their order, length and
batch boundaries — that start from trees with the contents `S₁`, `S₂` and end in the same map end in the same
tree. -/
theorem history_independence {n : Nat} (hn : 0 < n) {t₁ t₂ : Trie} {S₁ S₂ : KMap} (ops₁ ops₂ : List Op)
    (h₁ : t₁.Rep n S₁) (h₂ : t₂.Rep n S₂) (hs₁ : S₁.HasSentinels n) (hs₂ : S₂.HasSentinels n)
    (hv₁ : ∀ op ∈ ops₁, op.Valid n) (hv₂ : ∀ op ∈ ops₂, op.Valid n)
    (hfinal : S₁.run ops₁ = S₂.run ops₂) : t₁.run ops₁ = t₂.run ops₂ :=
  rep_unique (run_canonical hn ops₁ h₁ hs₁ hv₁) (hfinal ▸ run_canonical hn ops₂ h₂ hs₂ hv₂)

/-- … in particular the same SHA-256 root (the trees are equal, so their values under any node hash are). -/
theorem root_history_independent {n : Nat} (hn : 0 < n) (ops₁ ops₂ : List Op)
    (hv₁ : ∀ op ∈ ops₁, op.Valid n) (hv₂ : ∀ op ∈ ops₂, op.Valid n)
    (hfinal : (initMap n).run ops₁ = (initMap n).run ops₂) :
    ((empty n).run ops₁).root = ((empty n).run ops₂).root := by
  rw [history_independence hn ops₁ ops₂ (rep_empty hn) (rep_empty hn) (initMap_hasSentinels hn)
    (initMap_hasSentinels hn) hv₁ hv₂ hfinal]

/-- non-vacuity: insert-then-delete of one key and an overwrite, against a single insert (n = 3) -/
example :
    let a : Key := [false, true, false]
    let b : Key := [false, true, true]
    ((empty 3).run [.set a [1], .set b [2], .del a, .set b [3]]) = ((empty 3).run [.set b [3]])
    ∧ (empty 3).run [.set b [3]] ≠ empty 3 := by decide +kernel

/-- `SMT.Commit` of a batch of valid operations cannot reach the Go panic (`GrandParent()` of the root) and equals
the history "sorted batch applied left to right"; so batching is covered by `history_independence`. -/
theorem commit_total {n : Nat} (hn : 0 < n) {t : Trie} {S : KMap} {ops : List Op} (h : t.Rep n S)
    (hs : S.HasSentinels n) (hv : ∀ op ∈ ops, op.Valid n) :
    commit t ops = .ok (t.run (sortOps ops)) ∧ (t.run (sortOps ops)).Rep n (S.run (sortOps ops)) :=
  (commit_spec hn h hs hv).imp_right And.left

/-- the hypothesis of `commit_total` is needed: deleting a sentinel that hangs directly under the root is the Go
panic, reproduced by the model as `crash` (and by the correspondence run on the real code) -/
example : stepTop (empty 3) (.del (minKey 3)) = none ∧ runTop (empty 3) [.set [false, true, true] [7], .del (maxKey 3)] = none := by
  decide +kernel

/-- The node-key byte encoding (`key.bytes()`, including the padding byte) is injective on non-empty bit strings. -/
theorem encodeKey_inj {a b : Key} (ha : a ≠ []) (hb : b ≠ []) (h : encodeKey a = encodeKey b) : a = b :=
  encodeKey_injective ha hb h

/-- **Different states, different roots** — exactly as strong as the idealisation `H4Inj H4` of the node hash
(stated as a hypothesis): if two canonical trees have the same root value, they hold the same state.
HONESTY NOTE: `H4Inj` is FALSE for the node hash the code uses (`h4 H`: `H` of the unframed concatenation, see
`unframed_concatenation_ambiguous`), so this theorem is not a statement about SHA-256 alone. For ROOTS the gap is not known
to be exploitable: a second state with the same root would need leaves whose key bytes and value hashes ARE the re-split
bytes of some node's hash input, i.e. preimages of byte strings the adversary does not choose. For PROOFS it is exploitable,
because proof nodes carry raw key/value bytes: C16 known finding `sibling-pair-resplit`. -/
theorem root_injective {H4 : Bytes → Bytes → Bytes → Bytes → Bytes} (hH : H4Inj H4) {n : Nat} (hn : 0 < n)
    {t₁ t₂ : Trie} {S₁ S₂ : KMap} (h₁ : t₁.Rep n S₁) (h₂ : t₂.Rep n S₂)
    (hs₁ : S₁.HasSentinels n) (hs₂ : S₂.HasSentinels n)
    (hroot : t₁.value H4 = t₂.value H4) : S₁ = S₂ := by
  have hk : t₁.key = t₂.key := (top_key_nil h₁ hs₁ hn).trans (top_key_nil h₂ hs₂ hn).symm
  have := value_injective hH t₁ t₂ h₁.1 h₂.1 hk hroot
  subst this
  exact map_eq_of_rep h₁ h₂

/-- the root is a function of the state *and only of the state*: equal roots ⇔ equal states (for reachable trees) -/
theorem root_eq_iff {H4 : Bytes → Bytes → Bytes → Bytes → Bytes} (hH : H4Inj H4) {n : Nat} (hn : 0 < n)
    (ops₁ ops₂ : List Op) (hv₁ : ∀ op ∈ ops₁, op.Valid n) (hv₂ : ∀ op ∈ ops₂, op.Valid n) :
    ((empty n).run ops₁).value H4 = ((empty n).run ops₂).value H4 ↔ (initMap n).run ops₁ = (initMap n).run ops₂ := by
  have r₁ := rep_run hn ops₁ (rep_empty hn) (initMap_hasSentinels hn) hv₁
  have r₂ := rep_run hn ops₂ (rep_empty hn) (initMap_hasSentinels hn) hv₂
  constructor
  · exact root_injective hH hn r₁.1 r₂.1 r₁.2 r₂.2
  · intro h
    rw [rep_unique r₁.1 (h ▸ r₂.1)]

/-! ### the idealisation is consistent (non-vacuity of `root_injective`) -/

/-- a framed stand-in for the node hash (`framed4`, Proof/SmtHash.lean) satisfies the hypothesis -/
theorem H4Inj_consistent : H4Inj framed4 := H4Inj_satisfiable

/-- …whereas the *unframed* concatenation that `updateParentValue` hashes is ambiguous as a byte string: the
4-tuple is not recoverable from `lk ‖ lv ‖ rk ‖ rv`, so "different states ⇒ different roots" cannot be derived
from collision resistance of SHA-256 alone — it rests on the lengths of the fields as well. -/
theorem unframed_concatenation_ambiguous :
    ∃ a b c d a' b' c' d' : Bytes, (a, b, c, d) ≠ (a', b', c', d') ∧ a ++ b ++ c ++ d = a' ++ b' ++ c' ++ d' :=
  ⟨[1], [2], [], [], [1, 2], [], [], [], by decide, by decide⟩

/-- **Parallel = sequential.** For every key length `n ≥ 4`, every canonical tree, every batch satisfying `ParOK` and every
order `sched` in which the eight workers are taken: `CommitParallel` = `Commit` — the same tree, hence the same root, no
error, no trace of the borders. -/
theorem parallel_eq_sequential {n : Nat} (hn : 4 ≤ n) {t : Trie} {S : KMap} {ops : List Op}
    (h : t.Rep n S) (hs : S.HasSentinels n) (ok : ParOK n S ops)
    (sched : List Nat) (hsched : ∀ i, i ∈ sched ↔ i < 8) :
    commitParallelWith sched n t ops = commit t ops ∧ commitParallel n t ops = commit t ops
    ∧ commitAuto n t ops = commit t ops := by
  have h1 := commitParallelWith_eq_commit hn h hs ok sched hsched
  have h2 : commitParallel n t ops = commit t ops :=
    commitParallelWith_eq_commit hn h hs ok (List.range 8) (fun i => List.mem_range)
  refine ⟨h1, h2, ?_⟩
  unfold commitAuto
  split
  · rfl
  · exact h2

/-- **Tie to the source: the order a batch is committed in.** The comparators of `sort.Slice` in `(*SMT).Commit` and in
`(*SMT).sortOperationsByPrefix` (the order in which each of the eight workers of `CommitParallel` receives its group) are
TRANSLATED from their closures on every run (`Gen.SmtFacts.sequentialSortLess`, `parallelSortLess`; the translator
accepts only the single statement `return X.cmp(Y) < 0`). Both are the strict bitwise key order — the very order the
model's `sortOps` sorts by (`keyLe`) — so every worker gets its group in ASCENDING key order. `parallel_eq_sequential`
itself does not need the order (at the level of the tree algorithm any order gives the same tree, by history
independence); the stored-node algorithm of smt.go does — `commit()` / `rehash()` skip re-hashing and keep the traversal
position on the assumption that the next target is not smaller — and that level is tied to the model by the
correspondence run (corpus `parallel-order-tie`: keys sharing 32..46 leading hash bits). A comparator with swapped operands,
or one that mis-orders ties of a fast path, fails this theorem (or leaves the translator's subset). -/
theorem workers_receive_ascending_order (a b : Key) (h : a.length = b.length) :
    Gen.SmtFacts.parallelSortLess keyCmp a b = (!keyLe b a)
    ∧ Gen.SmtFacts.sequentialSortLess keyCmp a b = (!keyLe b a) :=
  ⟨keyCmp_neg_iff a b h, keyCmp_neg_iff a b h⟩

/-- non-vacuity / sanity of the order: 0101 before 0110, not the other way round, and never a key before itself -/
example :
    Gen.SmtFacts.parallelSortLess keyCmp [false, true, false, true] [false, true, true, false] = true
    ∧ Gen.SmtFacts.parallelSortLess keyCmp [false, true, true, false] [false, true, false, true] = false
    ∧ Gen.SmtFacts.parallelSortLess keyCmp [false, true] [false, true] = false := ⟨rfl, rfl, rfl⟩

/-- the hypotheses of `parallel_eq_sequential` are satisfiable by a non-trivial batch (n = 5; one set, one delete) -/
example : ParOK 5 (initMap 5) [.set [false, true, false, true, false] [1], .del [true, false, true, true, false]] := by
  -- a property of both operations of the batch
  have both : ∀ {P : Op → Prop} {a b : Op}, P a → P b → ∀ op ∈ [a, b], P op := by
    intro P a b ha hb op hop
    rcases List.mem_cons.mp hop with rfl | hop
    · exact ha
    · rw [List.mem_singleton.mp hop]; exact hb
  refine ⟨both rfl (by decide : _ ≠ minKey 5 ∧ _ ≠ maxKey 5), both rfl rfl, both (by decide) (by decide), ?_,
    both (by decide) (by decide), ?_⟩
  · exact both (both (fun _ => rfl) (by decide)) (both (by decide) (fun _ => rfl))
  · intro b hb
    have := border_not_sentinel (n := 5) (by decide) hb
    simp [initMap, this.1, this.2]

/-- **The root is a pure function of the state**, all clauses together: start from the trees of two stores with the same
contents, commit two *different* lists of batches — each batch sequentially or in parallel, workers in any order — and if the
resulting states are equal then so are the resulting trees and roots. (Stated for one batch on each side; longer
histories follow by iterating `commit_total`, which re-establishes `Rep`.) -/
theorem root_is_pure {n : Nat} (hn : 4 ≤ n) {t₁ t₂ : Trie} {S₁ S₂ : KMap} {ops₁ ops₂ : List Op}
    (h₁ : t₁.Rep n S₁) (h₂ : t₂.Rep n S₂) (hs₁ : S₁.HasSentinels n) (hs₂ : S₂.HasSentinels n)
    (ok₁ : ParOK n S₁ ops₁) (hv₂ : ∀ op ∈ ops₂, op.Valid n)
    (sched : List Nat) (hsched : ∀ i, i ∈ sched ↔ i < 8)
    (hfinal : S₁.run (sortOps ops₁) = S₂.run (sortOps ops₂)) :
    commitParallelWith sched n t₁ ops₁ = commit t₂ ops₂ := by
  have hn0 : 0 < n := Nat.lt_of_lt_of_le (by decide) hn
  rw [(parallel_eq_sequential hn h₁ hs₁ ok₁ sched hsched).1,
    (commit_total hn0 h₁ hs₁ ok₁.valid).1, (commit_total hn0 h₂ hs₂ hv₂).1,
    history_independence hn0 _ _ h₁ h₂ hs₁ hs₂ (valid_sortOps ok₁.valid) (valid_sortOps hv₂) hfinal]

/-- `ParOK` is needed: a batch that sets a key equal to a synthetic border loses it in `CommitParallel` (reproduced on the
real code by the correspondence run at 8-bit keys; for 160-bit keys it takes a SHA-256 preimage of e.g. `0x20 00…00`). -/
example :
    let b : Key := borderLow 5 1
    (match stepTop ((empty 5).run ((borders 5).map fun x => Op.set x borderVal)) (.set b [9]) with
      | some t => ((borders 5).foldl (fun s x => delete x s) t).keys.contains b
      | none => true) = false := by decide +kernel

/-- **Tie to the source.** `valueOpToSMTNode` gives the leaf of every `set` the value `crypto.Hash(value)` (its only
assignment to the leaf value) under the key `newNodeKey(crypto.Hash(key), keyBitLength)` — also when the value already is
32 bytes long. The model's leaf value is `sha256 value` for every value (`Driver/Smt.lean: parseTok`), so the states
`{k ↦ w}` and `{k ↦ sha256 w}` are different states with different leaves. -/
theorem leaf_commits_to_hash_of_value : Gen.SmtFacts.leafCommitsToHashOfValue = true := by decide

/-- **Tie to the source.** The composite literal of `Store.Copy()` does not set the clone's cached state-commitment object
`sc` (read off store/store.go by `facts` on every run): the clone starts without a computed root. -/
theorem copy_does_not_carry_commitment : Gen.SmtFacts.copyCarriesCommitment = false := by decide

/-- **The root of a clone is a function of the clone's own state**: whatever tree the source store had cached when
`Copy()` was taken, `Root()` of the clone is the canonical tree of (committed state updated by the clone's pending
operations) — it depends on `copy_does_not_carry_commitment`: a clone that inherited the cached object would answer with
the source's earlier tree (`storeRootTree` returns the cached tree when there is one). -/
theorem clone_root_canonical {n : Nat} (hn : 4 ≤ n) {base : Trie} {S : KMap} {pending : List Op}
    (sourceCached : Option Trie) (h : base.Rep n S) (hs : S.HasSentinels n) (ok : ParOK n S pending) :
    ∃ t, storeRootTree n (copyCached Gen.SmtFacts.copyCarriesCommitment sourceCached) base pending = .ok t
      ∧ t.Rep n (S.run (sortOps pending)) := by
  have hc : copyCached Gen.SmtFacts.copyCarriesCommitment sourceCached = none := by
    simp [copyCached, copy_does_not_carry_commitment]
  rw [hc]
  obtain ⟨hcom, hr⟩ := commit_total (Nat.lt_of_lt_of_le (by decide) hn) h hs ok.valid
  refine ⟨base.run (sortOps pending), ?_, hr⟩
  show commitAuto n base pending = _
  rw [(parallel_eq_sequential hn h hs ok (List.range 8) (fun i => List.mem_range)).2.2]
  exact hcom

/-- **Tie to the source.** The argument of the `CommitParallel` call in `(*Store).Root` is `s.ss.txn.ops` (read off
store/store.go by `facts` on every run): the tree is handed exactly the pending state operations — no operation is
dropped or rewritten on the way (e.g. a delete of a key whose stored value is empty: such a key is PRESENT, its leaf
commits to `hash("")`, and deleting it must remove the leaf). -/
theorem root_commits_exactly_the_pending_ops : Gen.SmtFacts.rootCommitsPendingOpsUnfiltered = true := by decide

/-- **The store's root is the canonical tree of (committed state updated by ALL pending operations)** — whatever
selection `keep` a filtering `Root()` would apply; depends on `root_commits_exactly_the_pending_ops`. -/
theorem store_root_canonical {n : Nat} (hn : 4 ≤ n) {base : Trie} {S : KMap} {pending : List Op} (keep : Op → Bool)
    (h : base.Rep n S) (hs : S.HasSentinels n) (ok : ParOK n S pending) :
    ∃ t, storeRootTree n none base (handedOps Gen.SmtFacts.rootCommitsPendingOpsUnfiltered keep pending) = .ok t
      ∧ t.Rep n (S.run (sortOps pending)) := by
  have hh : handedOps Gen.SmtFacts.rootCommitsPendingOpsUnfiltered keep pending = pending := by
    simp [handedOps, root_commits_exactly_the_pending_ops]
  rw [hh]
  exact clone_root_canonical hn none h hs ok |>.imp fun t ht => by
    simpa [copyCached] using ht

/-- a `Root()` that drops the delete of an empty-valued key keeps the key: "joined then left" differs from "never
joined" (2-bit keys; the committed state holds `10 ↦ hash("")`, the block deletes it) -/
example :
    let del : Op := .del [true, false]
    let kvs : List (Key × Bytes) := [([false, false], [1]), ([true, false], []), ([true, true], [3])]
    (canon kvs).map (fun t => t.run (handedOps false (fun o => o != del) [del]))
      ≠ (canon kvs).map (fun t => t.run [del]) := by
  decide +kernel

/-- **Tie to the source.** `root` is assigned exactly once in `(*Store).Commit`, by the top-level statement
`root, err = s.Root()` (read off store/store.go by `facts` on every run): the root recorded for a height is the root of
the tree `Root()` builds — for EVERY block, also one without pending operations on a database that has no commit id yet. -/
theorem commit_takes_root_from_root : Gen.SmtFacts.commitTakesRootFromRoot = true := by decide

/-- **The root committed for a height is the root of the canonical tree of (committed state updated by all pending
operations)** — whatever a commit-id lookup (`recorded`) would find and whatever selection (`keep`) a filtering `Root()`
would apply; in particular an empty block on the empty state commits the root of the canonical empty tree. Depends on
`commit_takes_root_from_root` and `root_commits_exactly_the_pending_ops`. -/
theorem store_commit_root_canonical {n : Nat} (hn : 4 ≤ n) {base : Trie} {S : KMap} {pending : List Op}
    (keep : Op → Bool) (recorded : Bytes) (h : base.Rep n S) (hs : S.HasSentinels n) (ok : ParOK n S pending) :
    ∃ t : Trie, storeCommitRoot Gen.SmtFacts.commitTakesRootFromRoot recorded none pending
        (storeRootTree n none base (handedOps Gen.SmtFacts.rootCommitsPendingOpsUnfiltered keep pending)) = .ok t.root
      ∧ t.Rep n (S.run (sortOps pending)) := by
  obtain ⟨t, ht, hr⟩ := store_root_canonical hn keep h hs ok
  exact ⟨t, by simp [storeCommitRoot, commit_takes_root_from_root, ht], hr⟩

/-- a `Commit()` with a shortcut for empty blocks records what the commit-id lookup finds — nothing, on a fresh database -/
example (t : Outcome Trie) : storeCommitRoot false [] none [] t = .ok [] := rfl

/-- **Tie to the source (generated from both sites).** The prefix `Store.Root()` writes the commitment tree under is among
the prefixes `Store.Rollback(v)` prunes above `v`. -/
theorem rollback_prunes_the_tree_prefix : Gen.SmtFacts.rootWritesPrefix ∈ Gen.SmtFacts.rollbackPrunedPrefixes := by decide

/-- **The first root after a rollback is the canonical tree of (state committed for the target updated by the pending
operations)**, whatever tree (`tip`) the abandoned fork had reached; depends on `rollback_prunes_the_tree_prefix`. -/
theorem store_root_after_rollback_canonical {n : Nat} (hn : 4 ≤ n) {target : Trie} (tip : Trie) {S : KMap}
    {pending : List Op} (keep : Op → Bool) (h : target.Rep n S) (hs : S.HasSentinels n) (ok : ParOK n S pending) :
    ∃ t, storeRootTree n none
        (rollbackTree Gen.SmtFacts.rollbackPrunedPrefixes Gen.SmtFacts.rootWritesPrefix target tip)
        (handedOps Gen.SmtFacts.rootCommitsPendingOpsUnfiltered keep pending) = .ok t
      ∧ t.Rep n (S.run (sortOps pending)) := by
  have hr : rollbackTree Gen.SmtFacts.rollbackPrunedPrefixes Gen.SmtFacts.rootWritesPrefix target tip = target := by
    simp [rollbackTree, rollback_prunes_the_tree_prefix]
  rw [hr]
  exact store_root_canonical hn keep h hs ok

/-- a clone that inherited the source's cached tree would return it unchanged, whatever it is asked to write -/
example (n : Nat) (t base : Trie) (pending : List Op) :
    storeRootTree n (copyCached true (some t)) base pending = .ok t := rfl

section NodeCache
open Cache

/-- the cache discipline store/smt.go has now, read off `setNode` / `getNode` / `delNode` by `facts` on every run -/
def sourceDiscipline : Discipline :=
  fromFacts Gen.SmtFacts.setNodeDropsAtCapacity Gen.SmtFacts.setNodeWritesCacheAlways
    Gen.SmtFacts.setNodeWritesCacheBelowCapacity Gen.SmtFacts.getNodeAdmitsAlways
    Gen.SmtFacts.getNodeAdmitsBelowCapacity Gen.SmtFacts.delNodeEvicts

/-- **Tie to the source.** `setNode` writes the cache unconditionally (after dropping a full cache), `delNode` evicts
unconditionally, `getNode` admits below capacity, and no other function of smt.go touches individual cache entries: the
source's discipline is the `original` one of the model. (A change of any of these statements changes the generated facts
and breaks this obligation.) -/
theorem source_cache_discipline :
    Gen.SmtFacts.setNodeWritesCacheAlways = true ∧ Gen.SmtFacts.delNodeEvicts = true
    ∧ Gen.SmtFacts.setNodeDropsAtCapacity = true ∧ Gen.SmtFacts.getNodeAdmitsBelowCapacity = true
    ∧ Gen.SmtFacts.nodeCacheEntriesTouchedOnlyByGetSetDel = true ∧ 1 ≤ Gen.SmtFacts.maxCacheSize := by decide

/-- **Cache coherence**, for the rules of the source, every node type, every capacity (`MaxCacheSize` is just one of
them), every initial node store and every sequence of `setNode` / `delNode` / `getNode` / whole-cache resets: every
cached entry equals the store's latest node for that key. -/
theorem node_cache_coherent {K V : Type} [DecidableEq K] (cap : Nat) (store₀ : K → Option V) (as : List (Acc K V)) :
    Coherent (run sourceDiscipline cap ⟨store₀, []⟩ as) :=
  coherent_run (fun _ _ => by simp [sourceDiscipline, fromFacts, source_cache_discipline.1])
    (by simp [sourceDiscipline, fromFacts, source_cache_discipline.2.1]) cap as (coherent_nil store₀)

/-- **The cache is transparent**: in every reachable state a read through the cache returns what the store holds, and the
store after any access sequence is what it would be without a cache — independent of the capacity. The tree algorithm
only reaches its nodes through these functions, so roots and proofs do not depend on the cache. -/
theorem node_cache_transparent {K V : Type} [DecidableEq K] (cap : Nat) (store₀ : K → Option V) (as : List (Acc K V))
    (k : K) :
    (getNode sourceDiscipline cap (run sourceDiscipline cap ⟨store₀, []⟩ as) k).1 = runStore store₀ as k
    ∧ (run sourceDiscipline cap ⟨store₀, []⟩ as).store = runStore store₀ as := by
  have hs := run_store sourceDiscipline cap as (⟨store₀, []⟩ : St K V)
  exact ⟨by rw [getNode_eq_store _ _ (node_cache_coherent cap store₀ as), hs], hs⟩

/-- non-vacuity: at capacity 2 the source's rules do drop and re-admit, and the overwrite is seen -/
example :
    let s := run original 2 (⟨fun _ => none, []⟩ : St Nat Nat) [.set 0 10, .set 1 11, .set 0 20, .get 1]
    s.cache = [(1, 11), (0, 20)] ∧ (getNode original 2 s 0).1 = some 20 := by decide

/-- **The mutated admission rule is incoherent** (kept as a theorem about the mutated rule): with "cache the written node
only while there is room", at capacity 1, writing a key, then overwriting it leaves the old node in the cache — the
next read returns the stale node although the store holds the new one. This is the seeded change
`C08-setnode-admits-only-below-capacity` (replayed on the real code by the corpus scenario `overwrite-with-full-node-cache`). -/
theorem admit_only_below_capacity_incoherent :
    let s := run admitOnlyBelowCapacity 1 (⟨fun _ => none, []⟩ : St Nat Nat) [.set 0 10, .set 0 20]
    (getNode admitOnlyBelowCapacity 1 s 0).1 = some 10 ∧ s.store 0 = some 20 ∧ ¬ Coherent s := by
  refine ⟨by decide, by decide, ?_⟩
  intro h
  have := h 0 10 (by decide)
  revert this
  decide

end NodeCache

/-! ### tie to the source: the constants the model hard-codes are the ones `store/smt.go` has today
(`Canopy/Gen/SmtFacts.lean` is regenerated from the working tree on every run) -/

theorem model_constants_match_source :
    Gen.SmtFacts.maxKeyBitLength = 160 ∧ Gen.SmtFacts.numSubtrees = 8 ∧ Gen.SmtFacts.subtreePrefixBits = 3
    ∧ Gen.SmtFacts.parallelFallbackBelow = 16
    ∧ (borders 160).length = 2 * Gen.SmtFacts.numSubtrees - 2
    ∧ keyOfBytes 160 Gen.SmtFacts.rootKey = rootKey 160
    ∧ keyOfBytes 5 Gen.SmtFacts.rootKey = rootKey 5 := by decide +kernel

end Canopy.Smt
