import Canopy.Proof.SmtProofComplete
import Canopy.Proof.SmtProofSound
import Canopy.Gen.SmtFacts
/-!
# C16 — Merkle proofs: complete for true statements, unforgeable for false ones, never crashing

Model: `Canopy/Model/SmtProof.lean`.
* `prove H4 t k` is `GetMerkleProof` on the tree `t` of `Canopy/Model/Smt.lean`.
* `verifyFixed strict H H4 n key value membership root proof` is `VerifyProof` **as the code has it** (since commit
  9904ec4; `strict` = with the check of value lengths): key validation, hash fold, and the statement is accepted only if
  the traversal towards the key provably ends at `proof[0]`. Outcomes: `accept | reject | errInvalidProof | errReserved`.
* `storeProofTree written read n committed` is the tree `Store.NewReadOnly(v)` serves proofs from (since commit 28c6f9a the
  prefix it opens is the one `Root()` / `Commit()` write).
* `V.verify` is `VerifyProof` as it was BEFORE the repair (throw-away tree, node cache, cached key lengths, unbounded
  re-traversal; outcomes additionally `crash _ | hang`). It stays as the model of the pre-fix code.
`Driver/C16.lean` runs, against the real code on every check, whichever of the two verifiers `facts` finds in
store/smt.go, and `storeProofTree` on the two prefixes `facts` reads off store/store.go (`Gen/SmtFacts.lean`).

## Live obligations — about the code that exists

* `source_validates_total_bits`, `source_checks_value_length`, `source_value_rule_exact`  generated facts: `validNodeKey`
                                   bounds the total key bits by the tree's key length, and `VerifyProof` validates value
                                   lengths by the rule `valueLenOk` (the verifier that exists is `verifyFixed true`)
* `source_is_repaired`, `store_reads_written_prefix`, `readonly_builds_fresh_tree`  generated facts: store/smt.go has the
                                   key-validating algorithm, `NewReadOnly` opens the prefix `Root()` writes, on a fresh
                                   tree. **Reverting either fix breaks these.**
* `rollback_prunes_tree_prefix`, `rollback_restores_target_tree`  generated fact: `Rollback(v)` prunes the prefix the tree
                                   is written under, so proofs are served from the tree committed for `v`
* `fixed_sound`          for every key length, tree, key, value and EVERY proof (honest, for another key, truncated,
                         re-ordered, bit-flipped, malformed): an accepted statement is true — under the explicit hash
                         hypothesis `H4Inj H4` (never an axiom)
* `fixed_complete`       the proof `GetMerkleProof` produces verifies for the true statement about its key
* `store_complete`       …also at store level: the tree `NewReadOnly(v)` serves proofs from is the committed one
* `fixed_never_crashes`  no crash and no hang outcome
* KNOWN FINDING (last section): `sibling_pair_resplit_accepted`, `not_sound_with_unframed_hash_even_with_fixed_value_lengths`
  — the code is not sound with its unframed node hash; `fixed_sound_partial` is what does hold of the real hash (trees
  without a re-splittable node), `empty16_not_resplittable` / `pairTree_is_resplittable` show both regions are inhabited
* `fixed_rejects_witnesses`, `strict_rejects_resplit`  the corpus scenarios below are rejected
* the hypothesis `H4Inj` of `fixed_sound` is load-bearing and stays explicit: `resplit_forgery_accepted`,
  `not_sound_with_unframed_hash` (pre-value-check model, real unframed node hash, [`C16:forged-proof-accepted-as-nonmembership`]),
  `resplit_one_node_impossible`, `fixed_lengths_do_not_make_concatenation_injective`

## Part A — theorems about the PRE-FIX model (permanent corpus; each replayed on the real code by
`harness/c16/witness.go`, which must now stay silent; oracle signatures in brackets)

* `sound_fails_foreign_nonmembership`, `not_sound_before_fix`   [`C16:foreign-proof-accepted-as-nonmembership`]
* `sound_fails_foreign_membership`                              [`C16:foreign-proof-accepted-as-membership`]
* `crashes_on_honest_proof_for_other_key`, `crashes_on_malformed_proof`, `not_never_crashes_before_fix`  [`C16:verifyproof-panic`]
* `store_prefix_mismatch_serves_empty_tree`, `store_complete_fails_witness`   [`C16:readonly-store-proof-prefix`]
* `complete_own_bounded` — what did hold before the fix (bounded)
-/
namespace Canopy.Smt
open Trie V

/-- Soundness of a verifier `vf` for key length `n`: whenever it accepts a statement against the root of a canonical
tree holding `S`, the statement is true of `S`. -/
def Sound (vf : Bytes → Bytes → Bool → Bytes → List PNode → Verdict) (H : Bytes → Bytes)
    (H4 : Bytes → Bytes → Bytes → Bytes → Bytes) (n : Nat) : Prop :=
  ∀ (t : Trie) (S : KMap) (userKey value : Bytes) (membership : Bool) (proof : List PNode),
    t.Rep n S → S.HasSentinels n →
    vf userKey value membership (t.value H4) proof = .accept →
    if membership then S (keyOfBytes n (H userKey)) = some (H value) else S (keyOfBytes n (H userKey)) = none

/-- Totality in the sense of the property: no input makes the verifier panic or spin. -/
def NeverCrashes (vf : Bytes → Bytes → Bool → Bytes → List PNode → Verdict) : Prop :=
  ∀ userKey value membership root proof, (∀ w, vf userKey value membership root proof ≠ .crash w) ∧
    vf userKey value membership root proof ≠ .hang

/-! ## Part A — the code as it was before the repair (commits 9904ec4, 28c6f9a) -/

/-- an injective toy hash (the identity): the defects below do not come from hash collisions -/
def idH (b : Bytes) : Bytes := b

/-- 4-bit keys `x = 0..15`; the user key `[16*x]` "hashes" to `x`; the value stored is `[x]` -/
def k4 (x : Nat) : Key := [x / 8 % 2 == 1, x / 4 % 2 == 1, x / 2 % 2 == 1, x % 2 == 1]
def uk4 (x : Nat) : Bytes := [UInt8.ofNat (x * 16)]
def tree4 (xs : List Nat) : Trie := xs.foldl (fun t x => insert (k4 x) [UInt8.ofNat x] t) (empty 4)
def root4 (xs : List Nat) : Bytes := (tree4 xs).value (h4 idH)

/-- **Soundness fails (non-membership).** State {0001, 1011}. The honest membership proof for 1011, offered as a proof
that 0001 is ABSENT, is accepted — 0001 is present. (The re-traversal walks into the sibling of 1011's path, which
was never reconstructed, and reads it as an empty divergence.) -/
theorem sound_fails_foreign_nonmembership :
    V.verify idH 4 (uk4 1) [] false (root4 [11, 1]) (prove (h4 idH) (tree4 [11, 1]) (k4 11)) = .accept
    ∧ (k4 1, [1]) ∈ (tree4 [11, 1]).toList := by decide +kernel

/-- **Soundness fails (membership).** State {0101 ↦ [5], 0110 ↦ [6]}. The honest proof for 0101, offered as a proof that
0110 holds the value [5], is accepted — 0110 holds [6]. (The value is compared with `proof[0]`, the traversal ended at
the sibling leaf.) -/
theorem sound_fails_foreign_membership :
    V.verify idH 4 (uk4 6) [5] true (root4 [5, 6]) (prove (h4 idH) (tree4 [5, 6]) (k4 5)) = .accept
    ∧ (k4 6, [6]) ∈ (tree4 [5, 6]).toList ∧ (k4 6, [5]) ∉ (tree4 [5, 6]).toList := by decide +kernel

/-- one accepted non-membership statement about a key that a history of valid operations has set refutes soundness -/
theorem not_sound_of_accepted_absent {vf : Bytes → Bytes → Bool → Bytes → List PNode → Verdict} {H : Bytes → Bytes}
    {H4 : Bytes → Bytes → Bytes → Bytes → Bytes} {n : Nat} (hn : 0 < n) (ops : List Op) (hv : ∀ op ∈ ops, op.Valid n)
    {t : Trie} (ht : (empty n).run ops = t) {uk value v : Bytes} {proof : List PNode}
    (hacc : vf uk value false (t.value H4) proof = .accept)
    (hS : ((initMap n).run ops) (keyOfBytes n (H uk)) = some v) : ¬ Sound vf H H4 n := by
  intro h
  have hr := rep_run hn ops (rep_empty hn) (initMap_hasSentinels hn) hv
  rw [ht] at hr
  have := h t _ uk value false proof hr.1 hr.2 hacc
  rw [hS] at this
  cases this

theorem not_sound_before_fix : ¬ Sound (V.verify idH 4) idH (h4 idH) 4 :=
  not_sound_of_accepted_absent (by decide) [.set (k4 11) [11], .set (k4 1) [1]] (by simp [Op.Valid, k4]) rfl
    sound_fails_foreign_nonmembership.1 (v := [1]) (by decide +kernel)

/-- **It crashes on an honest proof paired with another key.** State {0001, 0100, 1011}; the honest proof for 1011 and the
present key 0001: the re-traversal reaches the reconstructed root a second time through a `nil` child key, with a stale
cached key length — `index out of range` in `(*key).totalBits`. -/
theorem crashes_on_honest_proof_for_other_key :
    V.verify idH 4 (uk4 1) [] false (root4 [4, 11, 1]) (prove (h4 idH) (tree4 [4, 11, 1]) (k4 11))
      = .crash .indexOutOfRange := by decide +kernel

/-- **It crashes on malformed proofs before the root is even compared**: an empty sibling key, or a one-byte key. -/
theorem crashes_on_malformed_proof :
    V.verify idH 4 (uk4 11) [11] true [] [⟨encodeKey (k4 11), [11], 0⟩, ⟨[], [], 0⟩] = .crash .indexOutOfRange
    ∧ V.verify idH 4 (uk4 11) [11] true [] [⟨[5], [11], 0⟩, ⟨encodeKey (k4 1), [], 0⟩] = .crash .indexOutOfRange := by
  decide +kernel

theorem not_never_crashes_before_fix : ¬ NeverCrashes (V.verify idH 4) := by
  intro h
  exact (h (uk4 1) [] false (root4 [4, 11, 1]) (prove (h4 idH) (tree4 [4, 11, 1]) (k4 11))).1 _
    crashes_on_honest_proof_for_other_key

/-- **Store level (pre-fix).** `Root()` wrote the commitment tree under `x/` (`stateCommitIDPrefix`) while
`NewReadOnly(v)` opened `c/` (`stateCommitmentPrefix`): with two different prefixes the read-only store serves proofs
from an empty tree, whatever was committed… -/
theorem store_prefix_mismatch_serves_empty_tree (n : Nat) (committed : Trie) :
    storeProofTree [2, 120, 47] [2, 99, 47] n committed = empty n := by
  simp [storeProofTree]

/-- …and the proof served from the empty tree for a present key does not verify against the root that was committed. -/
theorem store_complete_fails_witness :
    V.verify idH 4 (uk4 11) [11] true (root4 [11]) (prove (h4 idH) (empty 4) (k4 11)) = .reject
    ∧ (k4 11, [11]) ∈ (tree4 [11]).toList := by decide +kernel

def states3 : List (List Nat) := [[], [2], [5], [6], [2, 5], [2, 6], [5, 6], [2, 5, 6]]
def k3 (x : Nat) : Key := [x / 4 % 2 == 1, x / 2 % 2 == 1, x % 2 == 1]
def tree3 (xs : List Nat) : Trie := xs.foldl (fun t x => insert (k3 x) [UInt8.ofNat x] t) (empty 3)

/-- What did hold before the fix, bounded: over 3-bit keys (000, 111 and the root key 011 are reserved), for every subset of
{010, 101, 110} as the state and each of these keys, the honest proof verifies for the statement it was generated for
(membership if present, non-membership if absent). The unbounded statement is `fixed_complete`, for the code that exists. -/
theorem complete_own_bounded :
    ∀ xs ∈ states3, ∀ x ∈ [2, 5, 6],
      V.verify idH 3 [UInt8.ofNat (x * 32)] [UInt8.ofNat x] (xs.contains x) ((tree3 xs).value (h4 idH))
        (prove (h4 idH) (tree3 xs) (k3 x)) = .accept := by decide +kernel

/-! ## Live obligations — the code that exists -/

/-- **Tie to the source (generated on every run).** store/smt.go's `VerifyProof` is the key-validating algorithm modelled
by `verifyFixed`: it calls `validNodeKey` and neither builds an in-memory store nor re-traverses. Reverting commit 9904ec4
makes `facts` emit `false` here and this obligation fails. -/
theorem source_is_repaired : Gen.SmtFacts.verifyProofValidatesKeys = true := by decide

/-- **Tie to the source (generated on every run).** The prefix `Store.NewReadOnly(v)` opens its commitment tree on is the
prefix `Store.Root()` / `Commit()` write it under. Reverting commit 28c6f9a breaks this obligation. -/
theorem store_reads_written_prefix : Gen.SmtFacts.readOnlyReadsPrefix = Gen.SmtFacts.rootWritesPrefix := by decide

/-- **Tie to the source (generated on every run).** The `sc` field of the `&Store{…}` literal `Store.NewReadOnly(v)` returns
is a fresh `NewDefaultSMT(NewTxn(…))` over the database — never the live store's own `s.sc`, which between `Root()` and
`Commit()` is the speculative tree of the next, uncommitted block. -/
theorem readonly_builds_fresh_tree : Gen.SmtFacts.readOnlyBuildsFreshCommitment = true := by decide

/-- **Tie to the source (generated on every run, from both sites).** The prefix `Store.Root()` writes the commitment tree
under is among the prefixes `Store.Rollback(v)` prunes above `v`: the tree nodes of abandoned heights do not survive a
rollback. -/
theorem rollback_prunes_tree_prefix : Gen.SmtFacts.rootWritesPrefix ∈ Gen.SmtFacts.rollbackPrunedPrefixes := by decide

/-- after `Rollback(v)` the store continues from (and `NewReadOnly` serves) the tree committed for `v`, whatever the tip
of the abandoned fork was — depends on `rollback_prunes_tree_prefix` -/
theorem rollback_restores_target_tree (target tip : Trie) :
    rollbackTree Gen.SmtFacts.rollbackPrunedPrefixes Gen.SmtFacts.rootWritesPrefix target tip = target := by
  simp [rollbackTree, rollback_prunes_tree_prefix]

/-- the verifier rejects every corpus scenario of part A (and still accepts the honest statements) -/
theorem fixed_rejects_witnesses :
    verifyFixed false idH (h4 idH) 4 (uk4 1) [] false (root4 [11, 1]) (prove (h4 idH) (tree4 [11, 1]) (k4 11)) = .reject
    ∧ verifyFixed false idH (h4 idH) 4 (uk4 6) [5] true (root4 [5, 6]) (prove (h4 idH) (tree4 [5, 6]) (k4 5)) = .reject
    ∧ verifyFixed false idH (h4 idH) 4 (uk4 1) [] false (root4 [4, 11, 1]) (prove (h4 idH) (tree4 [4, 11, 1]) (k4 11)) = .reject
    ∧ verifyFixed false idH (h4 idH) 4 (uk4 11) [11] true [] [⟨encodeKey (k4 11), [11], 0⟩, ⟨[], [], 0⟩] = .errInvalidProof
    ∧ verifyFixed false idH (h4 idH) 4 (uk4 11) [11] true [] [⟨[5], [11], 0⟩, ⟨encodeKey (k4 1), [], 0⟩] = .errInvalidProof
    ∧ verifyFixed false idH (h4 idH) 4 (uk4 11) [11] true (root4 [4, 11, 1]) (prove (h4 idH) (tree4 [4, 11, 1]) (k4 11)) = .accept
    ∧ verifyFixed false idH (h4 idH) 4 (uk4 9) [] false (root4 [4, 11, 1]) (prove (h4 idH) (tree4 [4, 11, 1]) (k4 9)) = .accept := by
  decide +kernel

/-- **The verifier is sound** — for every key length, tree, key, value and EVERY proof (honest, for another key,
truncated, re-ordered, bit-flipped, malformed): an accepted statement is true. The only hypothesis beyond canonical form
is the hash idealisation, stated explicitly: `H4Inj H4`, the node hash is injective on its 4-tuple. NOTE: `H4Inj` is FALSE
for the node hash the code uses (`h4 H`, unframed concatenation), so this theorem is about adversaries that cannot re-split a
node's hash input; the real code is NOT sound (known finding, last section of this file; `fixed_sound_partial` is the
statement that holds of the real hash). -/
theorem fixed_sound (strict : Bool) (H : Bytes → Bytes) {H4 : Bytes → Bytes → Bytes → Bytes → Bytes} (hH : H4Inj H4)
    {n : Nat} (hn : 0 < n) : Sound (verifyFixed strict H H4 n) H H4 n := by
  intro t S userKey value membership proof hrep hs hacc
  exact verifyFixed_sound_gen (HvOk := fun _ => True) strict H H4 hn hrep hs (parseUnique_of_H4Inj hH t)
    (fun _ _ _ _ => trivial) userKey value membership proof
    (fun _ _ _ => ⟨trivial, fun _ _ _ _ _ => ⟨trivial, trivial⟩⟩) hacc

/-- non-vacuity of `fixed_sound`: the hypothesis is satisfiable (by the framed node hash of Proof/SmtHash.lean), and with
it the verifier does accept honest proofs — the conclusion is not reached by never accepting. (The node hash the code
uses, `h4 H`, hashes an unframed concatenation and cannot itself be injective on 4-tuples; `H4Inj` is the idealisation
"collision-free and unambiguous on the tuples that occur", see C08.) -/
example : Sound (verifyFixed false idH framed4 4) idH framed4 4 ∧
    verifyFixed false idH framed4 4 (uk4 11) [11] true ((tree4 [4, 11, 1]).value framed4)
      (prove framed4 (tree4 [4, 11, 1]) (k4 11)) = .accept ∧
    verifyFixed false idH framed4 4 (uk4 1) [] false ((tree4 [4, 11, 1]).value framed4)
      (prove framed4 (tree4 [4, 11, 1]) (k4 11)) = .reject :=
  ⟨fixed_sound false idH H4Inj_satisfiable (by decide), by decide +kernel, by decide +kernel⟩

/-- **The verifier is complete at the tree level**: the proof `GetMerkleProof` produces for a non-reserved key
verifies against the root — membership with the stored value if the key is present, non-membership if it is absent.
(No hash hypothesis.) -/
theorem fixed_complete (strict : Bool) (H : Bytes → Bytes) (H4 : Bytes → Bytes → Bytes → Bytes → Bytes) {n : Nat}
    (hn : 0 < n) {t : Trie} {S : KMap}
    (h : t.Rep n S) (hs : S.HasSentinels n) (hz : strict = true → WellSized H4 n S) (userKey value : Bytes)
    (hres : keyOfBytes n (H userKey) ≠ rootKey n ∧ keyOfBytes n (H userKey) ≠ minKey n ∧
      keyOfBytes n (H userKey) ≠ maxKey n) :
    (S (keyOfBytes n (H userKey)) = some (H value) →
      verifyFixed strict H H4 n userKey value true (t.value H4) (prove H4 t (keyOfBytes n (H userKey))) = .accept) ∧
    (S (keyOfBytes n (H userKey)) = none →
      verifyFixed strict H H4 n userKey value false (t.value H4) (prove H4 t (keyOfBytes n (H userKey))) = .accept) :=
  verifyFixed_complete strict H H4 hn h hs hz userKey value rfl hres

/-- **Store-level completeness**, with the prefixes the source has now: the tree `NewReadOnly(v)` serves proofs from is
the tree committed for `v` — whatever tree (`live`) the live store holds for its block in progress —, so the proof it
serves for any non-reserved key verifies against the root committed for `v` (production key length 160). -/
theorem store_complete (strict : Bool) (H : Bytes → Bytes) (H4 : Bytes → Bytes → Bytes → Bytes → Bytes) {committed : Trie}
    {S : KMap} (h : committed.Rep 160 S) (hs : S.HasSentinels 160) (hz : strict = true → WellSized H4 160 S)
    (userKey value : Bytes)
    (hres : keyOfBytes 160 (H userKey) ≠ rootKey 160 ∧ keyOfBytes 160 (H userKey) ≠ minKey 160 ∧
      keyOfBytes 160 (H userKey) ≠ maxKey 160)
    (live : Option Trie) (sameVersion : Bool) :
    let served := readOnlyServes Gen.SmtFacts.readOnlyBuildsFreshCommitment live sameVersion
      (storeProofTree Gen.SmtFacts.rootWritesPrefix Gen.SmtFacts.readOnlyReadsPrefix 160 committed)
    served = committed ∧
    (S (keyOfBytes 160 (H userKey)) = some (H value) →
      verifyFixed strict H H4 160 userKey value true (committed.value H4) (prove H4 served (keyOfBytes 160 (H userKey))) = .accept) ∧
    (S (keyOfBytes 160 (H userKey)) = none →
      verifyFixed strict H H4 160 userKey value false (committed.value H4) (prove H4 served (keyOfBytes 160 (H userKey))) = .accept) := by
  have hserved : storeProofTree Gen.SmtFacts.rootWritesPrefix Gen.SmtFacts.readOnlyReadsPrefix 160 committed = committed := by
    simp [storeProofTree, store_reads_written_prefix]
  have hro : ∀ t, readOnlyServes Gen.SmtFacts.readOnlyBuildsFreshCommitment live sameVersion t = t := by
    intro t; simp [readOnlyServes, readonly_builds_fresh_tree]
  simp only [hserved, hro]
  exact ⟨trivial, fixed_complete strict H H4 (by decide) h hs hz userKey value hres⟩

/-- the verifier is a total function without a crash or hang outcome -/
theorem fixed_never_crashes (strict : Bool) (H : Bytes → Bytes) (H4 : Bytes → Bytes → Bytes → Bytes → Bytes) (n : Nat) :
    NeverCrashes (verifyFixed strict H H4 n) := by
  intro uk v m root proof
  exact toVerdict_no_crash _

/-! ## The hash hypothesis is load-bearing: the unframed concatenation

`fixed_sound` assumes `H4Inj H4`. The node hash of the code is `h4 H` — `H` of the UNFRAMED concatenation
`lk ‖ lv ‖ rk ‖ rv` — for which `H4Inj` cannot hold (C08: `unframed_concatenation_ambiguous`). The gap is real: moving the
boundary between a proof node's key and value leaves every hash input byte-identical, and a re-split node can be another
well-formed key. -/

/-- **Tie to the source.** `validNodeKey` bounds the TOTAL number of bits of a proof-node key by the tree's key length
(`lastBits <= 8 && (size-2)*8+lastBits <= maxBits`, read off store/smt.go statement by statement): a key that swallowed
value bytes on the right (161..168 bits in the 160-bit tree) is not well formed. `verifyFixed` has exactly this bound
(`validNodeKey` of the model); weakening it in the source breaks this obligation. -/
theorem source_validates_total_bits : Gen.SmtFacts.validNodeKeyBoundsTotalBits = true := by decide

/-- **Tie to the source.** `VerifyProof` also validates the length of every proof node's value (`validNodeValue`: a hash,
or the 20-byte value of one of the two reserved leaves), i.e. the verifier that exists is `verifyFixed true`. Removing
the check from store/smt.go breaks this obligation (and the corpus `resplit-key-value-boundary` supplies the forged proof). -/
theorem source_checks_value_length : Gen.SmtFacts.verifyProofChecksValueLength = true := by decide

/-- **Tie to the source.** `validNodeValue` lets a value be hash-sized, or 20 bytes for EXACTLY the two reserved leaf keys
(byte equality with `minKey` / `maxKey`, read off store/smt.go statement by statement) — the rule `valueLenOk` of the model.
A looser test (e.g. a prefix comparison, which every all-zero / all-one key of any length passes) lets an inner node such as
"0" carry a 20-byte value and re-opens the re-split forgery; it breaks this obligation, and the corpus `length-resplit`
supplies the forged proof. -/
theorem source_value_rule_exact : Gen.SmtFacts.validNodeValueExactReservedKeys = true := by decide

/-- 24-bit keys, state {0x400103 ↦ [9]} -/
def resplitKey : Bytes := [0x40, 0x01, 0x03]
def resplitTree : Trie := insert (keyOfBytes 24 resplitKey) [9] (empty 24)

/-- the honest membership proof of the key, with the boundary of `proof[0]` moved one byte to the LEFT:
`Key' = [0x40,0x01,0x03]` — the perfectly well-formed 12-bit key `0100 0000 0001` — and `Value' = [0x06] ‖ value` -/
def resplitForged : List PNode :=
  match prove (h4 idH) resplitTree (keyOfBytes 24 resplitKey) with
  | p0 :: rest => { p0 with key := p0.key.take 3, value := p0.key.drop 3 ++ p0.value } :: rest
  | [] => []

/-- the re-split proof hashes to the same root and is accepted as a proof that the key is ABSENT
[`C16:forged-proof-accepted-as-nonmembership`, corpus `resplit-key-value-boundary`] -/
theorem resplit_forgery_accepted :
    verifyFixed false idH (h4 idH) 24 resplitKey [] false (resplitTree.value (h4 idH)) resplitForged = .accept
    ∧ (keyOfBytes 24 resplitKey, [9]) ∈ resplitTree.toList := by decide +kernel

/-- hence, WITHOUT the hash idealisation — with the node hash the code really uses — the verifier without the value-length
check is not sound -/
theorem not_sound_with_unframed_hash : ¬ Sound (verifyFixed false idH (h4 idH) 24) idH (h4 idH) 24 :=
  not_sound_of_accepted_absent (by decide) [.set (keyOfBytes 24 resplitKey) [9]] (by simp [Op.Valid, keyOfBytes_length])
    rfl resplit_forgery_accepted.1 (v := [9]) (by decide +kernel)

/-- the value-length check (`strict = true`, the verifier that exists) rejects the re-split proof -/
theorem strict_rejects_resplit :
    verifyFixed true idH (h4 idH) 24 resplitKey [] false (resplitTree.value (h4 idH)) resplitForged = .errInvalidProof := by
  decide +kernel

/-- with values of fixed length the key/value boundary of ONE node cannot move: the bytes `key ‖ value` of a node with a
32-byte value determine the node -/
theorem resplit_one_node_impossible (p q : PNode) (hp : p.value.length = 32) (hq : q.value.length = 32)
    (h : p.key ++ p.value = q.key ++ q.value) : p.key = q.key ∧ p.value = q.value := by
  have hl : p.key.length = q.key.length := by
    have := congrArg List.length h
    simp only [List.length_append, hp, hq] at this
    omega
  exact List.append_inj h hl

/-- …but fixed value lengths and well-formed keys do NOT make the whole 4-field input `lk ‖ lv ‖ rk ‖ rv` uniquely
parseable (the boundary between the left value and the right key can still move when the bytes happen to be well-formed
keys), so `fixed_sound` keeps its explicit hypothesis `H4Inj` on the node hash: it is an idealisation of the tree's hashing
format, not something the verifier can enforce. Two different 4-tuples of valid 8-bit-tree fields with 32-byte values and
the same concatenation: -/
theorem fixed_lengths_do_not_make_concatenation_injective :
    let v : Bytes := 0 :: List.replicate 31 0
    let a : Bytes × Bytes × Bytes × Bytes := ([1, 0], v, [0, 0, 0], v)            -- keys "1" and "00000000 0"
    let b : Bytes × Bytes × Bytes × Bytes := ([1, 0, 0], v, [0, 0], v)            -- keys "00000001 0" and "0"
    a ≠ b ∧ a.1 ++ a.2.1 ++ a.2.2.1 ++ a.2.2.2 = b.1 ++ b.2.1 ++ b.2.2.1 ++ b.2.2.2
    ∧ validNodeKey 160 a.1 = true ∧ validNodeKey 160 a.2.2.1 = true
    ∧ validNodeKey 160 b.1 = true ∧ validNodeKey 160 b.2.2.1 = true := by decide +kernel

/-! ## KNOWN FINDING — the verifier that exists is NOT sound with the hash the code uses

`H4Inj` is FALSE for the real node hash `h4 H = H(lk ‖ lv ‖ rk ‖ rv)` whatever `H` is (the concatenation forgets where
the four fields end). `fixed_sound` therefore says: the verifier is sound against every adversary that cannot find a second
reading of a node's hash input — it does NOT say that the code is sound, and it is not: with fixed 32-byte values the
boundary of ONE node cannot move any more (`resplit_one_node_impossible`, repaired in 0bba88f), but shifting BOTH
boundaries of a sibling pair — `lk' = (lk‖lv)[:|lk|+d]`, `lv'` the next 32 bytes, `rk'` the next `|rk|-d` bytes, `rv'` the rest —
keeps values hash-sized and can leave both keys well formed. Presented as `[proof[0], sibling] ++ honest tail` such a pair
reaches the committed root and is accepted as a NON-membership proof for present keys. Closing it needs length-framed node
hashing (a change of every state root), not a verifier patch: recorded in known_findings.json as
`C16:forged-proof-accepted-as-nonmembership:sibling-pair-resplit` and reproduced on the real code by the corpus
`harness/c16/pairresplit.go` on every run. -/

/-- a toy hash with a 32-byte output (the first 32 bytes of the input, zero padded); the forged hash inputs below are
byte-IDENTICAL to the honest ones, so nothing here depends on its collisions -/
def padH (b : Bytes) : Bytes := (b ++ List.replicate 32 0).take 32

/-- 16-bit keys, state {0x4000 ↦ A…A, 0xFF80 ↦ B…B} (32-byte values) -/
def pairTree : Trie :=
  insert (keyOfBytes 16 (padH [0xFF, 0x80])) (padH (List.replicate 32 0xBB))
    (insert (keyOfBytes 16 (padH [0x40, 0x00])) (padH (List.replicate 32 0xAA)) (empty 16))

/-- the root's children `lk = "0"`, `rk = "111111111"` re-split by one byte: `lk' = [0,0,0]` (nine zero bits),
`rk' = [1,0]` (the key "1"), both values still 32 bytes -/
def pairForged : List PNode :=
  match pairTree with
  | .node _ l r =>
    let stream := encodeKey l.key ++ l.value (h4 padH) ++ (encodeKey r.key ++ r.value (h4 padH))
    [⟨stream.take 3, (stream.drop 3).take 32, 0⟩, ⟨(stream.drop 35).take 2, stream.drop 37, 1⟩]
  | .leaf _ _ => []

/-- **The model of the CURRENT verifier (strict value lengths, real unframed node hash) accepts a forged non-membership
proof for a present key**: the two-node proof above hashes to the committed root (same byte stream), both keys are well
formed, both values are 32 bytes, and it is accepted as "0x4000 is absent" although 0x4000 is in the state. -/
theorem sibling_pair_resplit_accepted :
    verifyFixed true padH (h4 padH) 16 [0x40, 0x00] [] false (pairTree.value (h4 padH)) pairForged = .accept
    ∧ (keyOfBytes 16 (padH [0x40, 0x00]), padH (List.replicate 32 0xAA)) ∈ pairTree.toList
    ∧ pairForged.all (fun p => p.value.length == 32) = true := by decide +kernel

theorem not_sound_with_unframed_hash_even_with_fixed_value_lengths :
    ¬ Sound (verifyFixed true padH (h4 padH) 16) padH (h4 padH) 16 :=
  not_sound_of_accepted_absent (by decide)
    [.set (keyOfBytes 16 (padH [0x40, 0x00])) (padH (List.replicate 32 0xAA)),
      .set (keyOfBytes 16 (padH [0xFF, 0x80])) (padH (List.replicate 32 0xBB))]
    (by simp [Op.Valid, keyOfBytes_length]) rfl sibling_pair_resplit_accepted.1 (v := padH (List.replicate 32 0xAA))
    (by decide +kernel)

/-- **What IS true of the code's hash** (`fixed_sound_partial`): for every tree that has no re-splittable node
(`NoResplittableNode`: no inner node's hash input `lk ‖ lv ‖ rk ‖ rv` has a second reading as well-formed key / 32-or-20-byte
value / well-formed key / 32-or-20-byte value — a decidable property of the tree alone), the strict verifier with the REAL
unframed node hash `h4 H` is sound against every proof. Hypotheses on `H`: 32-byte output, and no second preimage of the
hash inputs of the tree's own nodes (a fixed-length hash cannot be injective outright). The known finding is exactly the
complement: trees with a re-splittable node (`pairTree` is one). -/
theorem fixed_sound_partial (H : Bytes → Bytes) (hlen : ∀ x, (H x).length = 32)
    {n : Nat} (hn : 0 < n) {t : Trie} {S : KMap} (h : t.Rep n S) (hs : S.HasSentinels n)
    (hinj : ∀ g a b, Sub t (Trie.node g a b) → ∀ x,
      H (encodeKey a.key ++ a.value (h4 H) ++ (encodeKey b.key ++ b.value (h4 H))) = H x →
      encodeKey a.key ++ a.value (h4 H) ++ (encodeKey b.key ++ b.value (h4 H)) = x)
    (hno : NoResplittableNode n (h4 H) t)
    (userKey value : Bytes) (membership : Bool) (proof : List PNode)
    (hacc : verifyFixed true H (h4 H) n userKey value membership (t.value (h4 H)) proof = .accept) :
    if membership then S (keyOfBytes n (H userKey)) = some (H value) else S (keyOfBytes n (H userKey)) = none := by
  have hU : ParseUnique (h4 H) (TupleOk n) t := by
    intro g a b hsub x y z w hok he
    exact hno g a b hsub x y z w hok (hinj g a b hsub _ he)
  refine verifyFixed_sound_gen (HvOk := fun v => v.length = 32 ∨ v.length = 20) true H (h4 H) hn h hs hU
    (fun _ _ _ _ => Or.inl (hlen _)) userKey value membership proof ?_ hacc
  intro p _ hp
  obtain ⟨hkey, hval⟩ := nodeOk_iff.mp hp
  have hv := (valueLenOk_iff.mp (hval rfl)).imp_right And.left
  refine ⟨hv, fun c h' hc hcl hh => ?_⟩
  have hck : validNodeKey n (encodeKey c) = true := validNodeKey_encodeKey hc hcl
  exact ⟨⟨hkey, hck, hv, hh⟩, ⟨hck, hkey, hh, hv⟩⟩

/-- non-vacuity of `fixed_sound_partial`: the tree of the empty state (16-bit keys) has no re-splittable node, for any hash -/
theorem empty16_not_resplittable (H4 : Bytes → Bytes → Bytes → Bytes → Bytes) : NoResplittableNode 16 H4 (empty 16) := by
  intro g a b hsub x y z w ⟨hx, hz, hy, hw⟩ he
  rcases sub_empty hsub with e | e | e
  · obtain ⟨-, rfl, rfl⟩ := Trie.node.inj e
    -- 46 bytes to cut; a key of the 16-bit tree has two or three bytes, a value 32 or 20: only the honest cut has these lengths
    have la : (encodeKey (minKey 16)).length = 3 := by decide +kernel
    have lc : (encodeKey (maxKey 16)).length = 3 := by decide +kernel
    have lb : minVal.length = 20 := rfl
    have ld : maxVal.length = 20 := rfl
    have hlen := congrArg List.length he
    simp only [Trie.key, Trie.value, List.length_append, la, lb, lc, ld] at hlen he ⊢
    have lx := validNodeKey_length hx
    have lz := validNodeKey_length hz
    have hy20 : y.length = 20 := hy.resolve_left fun h => by omega
    have hw20 : w.length = 20 := hw.resolve_left fun h => by omega
    clear hy hw
    exact append4_inj he (by omega) (lb.trans hy20.symm) (by omega)
  · cases e
  · cases e

/-- the excluded region is not empty: the root of `pairTree` is re-splittable -/
theorem pairTree_is_resplittable : ¬ NoResplittableNode 16 (h4 padH) pairTree := by
  intro h
  have hcut : ∀ s : Bytes, s = s.take 3 ++ (s.drop 3).take 32 ++ ((s.drop 35).take 2 ++ s.drop 37) := by
    intro s
    have e1 : s.drop 35 = (s.drop 3).drop 32 := by rw [List.drop_drop]
    have e2 : s.drop 37 = (s.drop 35).drop 2 := by rw [List.drop_drop]
    rw [e2, List.take_append_drop, e1, List.append_assoc, List.take_append_drop, List.take_append_drop]
  -- the hash input `s` of the root, cut as in `pairForged`, is admissible and not the honest reading
  obtain ⟨l, r, s, ht, rfl, hok, hne⟩ : ∃ l r s, pairTree = Trie.node [] l r ∧
      s = encodeKey l.key ++ l.value (h4 padH) ++ (encodeKey r.key ++ r.value (h4 padH)) ∧
      TupleOk 16 (s.take 3) ((s.drop 3).take 32) ((s.drop 35).take 2) (s.drop 37) ∧ s.take 3 ≠ encodeKey l.key :=
    ⟨_, _, _, rfl, rfl, by unfold TupleOk; decide +kernel⟩
  exact hne (h [] l r (ht ▸ Sub.refl) _ _ _ _ hok (hcut _)).1.symm

end Canopy.Smt
