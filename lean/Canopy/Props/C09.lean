import Canopy.Proof.Crash
import Canopy.Gen.Store
/-!
# C09 — crash-consistent, all-or-nothing block commit   (level: **partial**)

*Model* (`Canopy/Model/Crash.lean`): the database is the list of atomic batches applied so far
(`Disk`); its content is `dbOf` = the batches applied in order to the empty key space (C10's sorted
key list). One block commit applies `blockBatches shape ptr next b`: the commit-id records, the SMT node
writes, the latest + historical state with the tombstone purge (exactly C10's `commitBatch`), and the
indexer entries (QC, block, txs, events). A reopened store reads its height from the latest commit-id
record (`version`), as `getLatestCommitID` does: a versioned read of `a/` at the reserved version 2^64-1.
`Store.Rollback(target)` is one more batch (prune the version window above `target`, patch the latest state,
re-point `a/` — at the reserved version — to the commit id recorded for `target`); a history is a list of
block commits and rollbacks (`Ev`, `runEv`).

*What is proved*: the atomicity logic — given that the block's writes form ONE batch (derived below
from facts regenerated from `store/store.go` and `controller/block.go`), every prefix of the applied
batches is a state the uncrashed run passed through: the reopened height, the recorded root, and every
key of every partition equal the uncrashed values after that block; entries of earlier heights are
never touched; continuing reproduces the uncrashed run. The same over histories with `Rollback` in the
middle (`reopen_height`, `crash_prefix_history`), which additionally needs that `setCommitID` writes the
latest-commit pointer at the reserved version (generated fact, `ptr_lss`): were it written at the block's own
version, the pointer a rollback leaves at the reserved version would shadow every later one
(`pointer_at_commit_version_reopens_stale`). A block's transactions run in nested stores whose `Flush`
hands state and index writes to the parent: a flushed transaction is in the block's one batch whole, a
discarded one not at all (`nested_txs_all_or_nothing`); were only the state handed on, its index writes
would be lost (`state_only_nested_flush_loses_index_writes`); were the indexer a second batch, a crash
between the two splits the block (`split_commit_breaks_atomicity`).

*What is assumed, not proved*: pebble applies a batch atomically and, after a crash at any
file-system operation boundary with any subset of unsynced data surviving, recovers the result of a
prefix of the applied batches (`NoSync`: the prefix may be shorter than what was acknowledged). That
assumption is *sampled* on every check by the crash harness (`harness/c09`): real pebble on a
crashable in-memory file system, crash clones at many points, reopened with `NewStoreWithDB`.
-/
namespace Canopy.C09
open Canopy Canopy.Store Canopy.Crash

/-- `NewStoreWithDB` and `Reset`: one batch is created; both `VersionedStore`s are built on it; the
state and indexer transactions write to those stores; that batch is what `Store.writer` holds. -/
theorem writers_share_one_batch :
    Gen.Store.NewStoreWithDB_batchVars = ["writer"] ∧
    Gen.Store.NewStoreWithDB_versionedStoreVars = [("hssStore", "writer"), ("lssStore", "writer")] ∧
    Gen.Store.NewStoreWithDB_txnWriters = ["lssStore", "hssStore"] ∧
    Gen.Store.NewStoreWithDB_storeWriter = ["writer"] ∧
    Gen.Store.Reset_batchVars = ["newWriter"] ∧
    Gen.Store.Reset_versionedStoreVars = [("newLSSStore", "newWriter"), ("newStore", "newWriter")] ∧
    Gen.Store.Reset_txnWriters = ["newStore", "newStore"] ∧
    Gen.Store.Reset_storeWriter = ["newWriter"] := ⟨rfl, rfl, rfl, rfl, rfl, rfl, rfl, rfl⟩

/-- `Store.Commit`: root → commit id → (journal) → flush → purge → exactly one `db.Apply(s.writer, NoSync)`;
`Flush` commits the SMT's txn, the state txn and the indexer txn (all `*Txn`, flushing into their
writers); the SMT's txn writes to the state txn's writer; `setCommitID` and the purge write to
`s.writer` directly. -/
theorem commit_is_one_batch :
    Gen.Store.commitApplies = [("s.writer", "pebble.NoSync")] ∧
    Gen.Store.commitCalls.filter (· ≠ "s.Reset") =
      ["s.Root", "s.setCommitID", "s.collectLssDeleteKeys", "s.recordStateChangeKeys", "s.Flush",
       "s.purgeLssTombstones", "s.writer.Repr", "s.writer.Count", "s.db.Apply", "s.MaybeCompact", "s.MaybeBackup"] ∧
    Gen.Store.flushCommits = ["s.sc.store.(TxnWriterI).Commit", "s.ss.Commit", "s.Indexer.db.Commit"] ∧
    Gen.Store.flushShape = [("s.sc != nil", "s.sc.store.(TxnWriterI).Commit"), ("", "s.ss.Commit"),
      ("", "s.Indexer.db.Commit"), ("", "return nil")] ∧
    Gen.Store.fieldTypes = [("Store.db", "*pebble.DB"), ("Store.writer", "*pebble.Batch"), ("Store.ss", "*Txn"),
      ("Store.sc", "*SMT"), ("Store.(embedded)", "*Indexer"), ("Indexer.db", "*Txn")] ∧
    Gen.Store.rootTxnReaderWriter = ["s.ss.reader", "s.ss.writer"] ∧
    Gen.Store.setCommitIDBatches = ["s.writer"] ∧
    Gen.Store.setCommitIDWrites = ["lastCommitIDPrefix@lssVersion", "s.commitIDKey(version)@version"] ∧
    Gen.Store.purgeWrites = ["s.writer.Delete"] := by
  refine ⟨rfl, ?_, rfl, rfl, rfl, rfl, rfl, rfl, rfl⟩
  simp only [Gen.Store.commitCalls, List.filter, ne_eq, String.reduceEq, not_false_eq_true, not_true_eq_false,
    decide_true, decide_false]

/-- nothing else in package `store` hands a batch to the database on the commit path: the only other
sites are `Rollback` (its own batch, offline) and `VersionedStore.Commit` (not called by `Commit`/`Flush`,
whose three `.Commit` calls are on `*Txn`s); the controller indexes the QC and the block on the same
store value before `Commit`. -/
theorem no_other_apply_on_commit_path :
    Gen.Store.applySites = [("Store.Commit", "s.db.Apply(s.writer, pebble.NoSync)"),
      ("Store.Rollback", "s.db.Apply(batch, pebble.Sync)"),
      ("VersionedStore.Commit", "vs.batch.Commit(&pebble.WriteOptions{Sync: false})")] ∧
    Gen.Store.controllerCommitPath.filter (·.1 = "CommitCertificate") =
      [("CommitCertificate", "storeI.IndexQC"), ("CommitCertificate", "storeI.IndexBlock"),
       ("CommitCertificate", "storeI.Commit")] := ⟨rfl, rfl⟩

/-- the model's shape is read off the source: a single batch exactly when the facts above hold -/
def shapeOfSource : Shape :=
  if Gen.Store.commitApplies = [("s.writer", "pebble.NoSync")] ∧
     Gen.Store.NewStoreWithDB_versionedStoreVars.all (·.2 = "writer") ∧
     Gen.Store.NewStoreWithDB_storeWriter = ["writer"] ∧
     Gen.Store.Reset_versionedStoreVars.all (·.2 = "newWriter") ∧
     Gen.Store.Reset_storeWriter = ["newWriter"] ∧
     Gen.Store.flushCommits = ["s.sc.store.(TxnWriterI).Commit", "s.ss.Commit", "s.Indexer.db.Commit"] ∧
     Gen.Store.rootTxnReaderWriter = ["s.ss.reader", "s.ss.writer"] ∧
     Gen.Store.setCommitIDBatches = ["s.writer"] ∧
     Gen.Store.purgeWrites = ["s.writer.Delete"]
  then .single else .split

theorem shape_single : shapeOfSource = .single := if_pos ⟨rfl, rfl, rfl, rfl, rfl, rfl, rfl, rfl, rfl⟩

/-- where the latest-commit pointer is written, read off the source: `setCommitID` writes `lastCommitIDPrefix`
with `SetAt(…, lssVersion)` (a plain `Set` on the versioned store of the commit would be recorded as
`@version`), `Rollback` re-points it at `lssVersion`, and `getLatestCommitID` reads it through a versioned
store bound to `lssVersion` -/
def ptrOfSource : PtrAt :=
  if Gen.Store.setCommitIDWrites = ["lastCommitIDPrefix@lssVersion", "s.commitIDKey(version)@version"] ∧
     Gen.Store.rollbackPointerWrites = ["lastCommitIDPrefix@lssVersion"] ∧
     Gen.Store.latestCommitIDRead = ["lssVersion", "Get(lastCommitIDPrefix)"]
  then .lss else .commitVersion

theorem ptr_lss : ptrOfSource = .lss := if_pos ⟨rfl, rfl, rfl⟩

/-- **`crash_prefix`** — for every block sequence `bs` and every crash prefix (`j` batches survive):
the reopened store
* is at height `j`, a height it had committed (`j ≤ |bs|`), with the root recorded for block `j`;
* holds, key for key and in every partition (latest state, historical state, SMT nodes, indexer,
  commit ids), exactly what the uncrashed run held after block `j`;
* continues: applying blocks `j+1 …` yields, step by step, the states of the uncrashed run. -/
theorem crash_prefix (bs : List BlockIn) (hb : bs.length < 18446744073709551616) (j : Nat) (hj : j ≤ bs.length) :
    let disk := run shapeOfSource ptrOfSource [] bs
    let crashed := disk.take j
    version crashed = j ∧
    (∀ b, bs[j - 1]? = some b → 0 < j → latestRoot crashed = b.root) ∧
    crashed = run shapeOfSource ptrOfSource [] (bs.take j) ∧
    dbOf crashed = dbOf (run shapeOfSource ptrOfSource [] (bs.take j)) ∧
    run shapeOfSource ptrOfSource crashed (bs.drop j) = disk ∧
    ∀ i, i ≤ (bs.drop j).length →
      run shapeOfSource ptrOfSource crashed ((bs.drop j).take i) = run shapeOfSource ptrOfSource [] (bs.take (j + i)) := by
  rw [shape_single, ptr_lss]
  simp only
  have htake := take_run_single bs j
  refine ⟨by rw [htake]; exact version_run_take bs (Nat.le_of_lt_succ hb) hj, ?_, htake, by rw [htake], ?_, ?_⟩
  · intro b hbj hpos
    obtain ⟨i, rfl⟩ := Nat.exists_eq_add_one_of_ne_zero (Nat.ne_of_gt hpos)
    rw [htake, List.take_add_one, show bs[i]? = some b from hbj, Option.toList_some, run_append]
    exact latestRoot_commit_single _ b
  · rw [htake, ← run_append, List.take_append_drop]
  · intro i _
    rw [htake, ← run_append]
    congr 1
    rw [← List.take_add]

/-- **earlier heights stay intact** — a later block commit never changes an entry of version `w` below
its own height, in any partition: historical state, SMT nodes, indexed blocks/txs/QCs and commit ids of
earlier heights read the same from the crashed-and-reopened store as they did when committed. (For the
state partition this is C10's `history_immutable`.) -/
theorem earlier_heights_intact (bs : List BlockIn) (hb : bs.length + 1 < maxVer) (i j : Nat) (hij : i ≤ j)
    (hj : j ≤ bs.length) (u : Bytes) (w : Nat) (hw : w ≤ i) :
    smGet (dbOf ((run shapeOfSource ptrOfSource [] bs).take j)) (mkKey u w) =
      smGet (dbOf ((run shapeOfSource ptrOfSource [] bs).take i)) (mkKey u w) := by
  rw [shape_single, ptr_lss, take_run_single, take_run_single, ← List.take_append_drop i (bs.take j), List.take_take,
    Nat.min_eq_left hij, run_append]
  have hbm : bs.length < maxVer := Nat.lt_of_succ_lt hb
  have hver := version_run_take bs (Nat.le_of_lt hbm) (Nat.le_trans hij hj)
  refine run_agree _ _ (Nat.le_of_eq hver.symm) ?_ u w hw
  rw [hver, List.length_drop, List.length_take, Nat.min_eq_left hj, Nat.add_sub_cancel' hij]
  exact Nat.lt_of_le_of_lt hj hbm

/-- a two-block chain whose blocks index one entry each -/
def demo : List BlockIn :=
  [{ ops := [([1, 97], .set [1])], idx := [([6, 1], [0xAA])], root := [1] },
   { ops := [([1, 97], .set [2])], idx := [([6, 2], [0xBB])], root := [2] }]

/-- non-vacuity: with the real shape every crash prefix of `demo` reopens at a committed height with
its block indexed -/
example : (List.range 3).all (fun j =>
    let d := (run shapeOfSource ptrOfSource [] demo).take j
    version d == j && (j == 0 || (idxGet d [6, UInt8.ofNat j]).isSome)) = true := by
  rw [shape_single, ptr_lss]; decide +kernel

/-- **were the indexer applied as a second batch, the property would fail**: after block 1's first
batch alone the store reopens at height 1 with the state of block 1 — and no indexed block 1. -/
theorem split_commit_breaks_atomicity :
    let d := (run .split .lss [] demo).take 1
    version d = 1 ∧ stateScan d = [([1, 97], [1])] ∧ idxGet d [6, 1] = none := by
  decide +kernel

/-- what `Store.Flush()` hands on, read off the source: statement by statement it commits the SMT's transaction
(when there is one), the state transaction and the indexer transaction, unconditionally and for every kind of
store — nested stores included — and nothing else -/
def nestedFlushOfSource : NestedFlush :=
  if Gen.Store.flushShape = [("s.sc != nil", "s.sc.store.(TxnWriterI).Commit"), ("", "s.ss.Commit"),
       ("", "s.Indexer.db.Commit"), ("", "return nil")]
  then .both else .stateOnly

theorem nested_flush_both : nestedFlushOfSource = .both := if_pos rfl

/-- **`nested_txs_all_or_nothing`** — a block whose transactions each ran in their own `NewTxn()`:
* every flushed transaction's last state operations are the block's pending state operations, the index
  entries it wrote (checkpoints, double signers) are among the block's index entries and the index keys it
  deleted (`DeleteCheckpointsForChain`) among the block's index deletions — whatever came before it;
* a discarded transaction leaves no trace in either;
* and the block so formed is committed as ONE batch: every crash prefix holds all of it or none of it
  (`crash_prefix` applied to the blocks `blockOfTxs … own txs`). -/
theorem nested_txs_all_or_nothing (own : BlockIn) (hown : SSorted own.ops) (txs : List TxIn) (tx : TxIn) :
    (tx.flush = true →
      let b := blockOfTxs nestedFlushOfSource own (txs ++ [tx])
      (∀ k op, lastWrite tx.ops k = some op → smGet b.ops k = some op) ∧
      (∀ k v, lastWrite tx.idx k = some (.set v) → (k, v) ∈ b.idx) ∧
      (∀ k, lastWrite tx.idx k = some .del → k ∈ b.idxDel)) ∧
    (tx.flush = false → ∀ rest, blockOfTxs nestedFlushOfSource own (txs ++ tx :: rest) = blockOfTxs nestedFlushOfSource own (txs ++ rest)) ∧
    (∀ d : Disk, (commitBlock shapeOfSource ptrOfSource d (blockOfTxs nestedFlushOfSource own (txs ++ [tx]))).length = d.length + 1) := by
  rw [nested_flush_both, shape_single]
  exact ⟨fun hf => flushed_tx_reaches_block own txs tx hf, fun hf rest => discarded_tx_vanishes .both own txs tx hf rest,
    fun d => by simp [commitBlock, blockBatches]⟩

/-- two transactions: the first slashes (state), records the double signer and a checkpoint (index) and is
flushed; the second is discarded -/
def slashTxs : List TxIn :=
  [{ ops := [([1, 98], .set [7])], idx := [([100, 1], .set [1]), ([99, 1], .set [0xCC])], flush := true },
   { ops := [([1, 99], .set [9])], idx := [([100, 2], .set [1])], flush := false }]

/-- the block's own begin-block write and index entry -/
def slashOwn : BlockIn := { ops := [([1, 97], .set [1])], idx := [([6, 1], [0xAA])], root := [1] }

/-- non-vacuity: with the source's `Flush`, after the commit — and after a crash that keeps the batch — the
state has the slash AND the indexes have the evidence and the checkpoint; the discarded transaction is nowhere;
a crash that loses the batch has neither -/
example :
    let d := commitBlock shapeOfSource ptrOfSource [] (blockOfTxs nestedFlushOfSource slashOwn slashTxs)
    stateScan d = [([1, 97], [1]), ([1, 98], [7])] ∧ idxGet d [100, 1] = some [1] ∧ idxGet d [99, 1] = some [0xCC] ∧
    idxGet d [100, 2] = none ∧ idxGet d [6, 1] = some [0xAA] ∧
    stateScan (d.take 0) = [] ∧ idxGet (d.take 0) [100, 1] = none := by
  rw [shape_single, ptr_lss, nested_flush_both]; decide +kernel

/-- **were `Flush` on a nested store to hand only the state transaction to the parent, the commit would not be
all-or-nothing across state and indexes**: the committed state has the transaction's write (the slash) while
the double-signer and checkpoint entries the same transaction indexed are not in the batch — not after the
commit, not after any restart. -/
theorem state_only_nested_flush_loses_index_writes :
    let d := commitBlock .single .lss [] (blockOfTxs .stateOnly slashOwn slashTxs)
    version d = 1 ∧ stateScan d = [([1, 97], [1]), ([1, 98], [7])] ∧
    idxGet d [100, 1] = none ∧ idxGet d [99, 1] = none ∧ idxGet d [6, 1] = some [0xAA] := by
  decide +kernel

/-- **`reopen_height`** — after any history of block commits and rollbacks (SMT node keys not colliding with
commit-id keys), the store opens at the height the history ends at — `specRun`: a block adds a height, an
accepted `Rollback(t)` cuts the chain to `t` — with the root of the block that is that height, and holds the
commit id of every height of the chain. Depends on `ptr_lss`: the pointer read by `getLatestCommitID` is the
one the last commit or rollback wrote. -/
theorem reopen_height (evs : List Ev) (hok : ∀ b, Ev.block b ∈ evs → SmtOK b) (hlen : evs.length < maxVer) :
    let disk := runEv shapeOfSource ptrOfSource [] evs
    let chain := specRun [] evs
    version disk = chain.length ∧
    (∀ b, chain.getLast? = some b → latestRoot disk = b.root) ∧
    ∀ h (hh : h < chain.length),
      smGet (dbOf disk) (mkKey (commitIDKey (h + 1)) (h + 1)) = some (cidVal (h + 1) chain[h].root) := by
  rw [shape_single, ptr_lss]
  have := ChainInv.run evs [] [] chainInv_empty hok (by simpa using hlen)
  exact ⟨this.ver, this.root, this.cid⟩

/-- **`crash_prefix` over histories** — for every history and every crash prefix (`j` batches survive) the
reopened store is the store of a prefix of the history: same batches, hence key for key the same database;
it opens at the height that prefix ends at (not at an earlier rollback target), with that block's root; and
re-running the rest of the history from it reproduces the uncrashed run. -/
theorem crash_prefix_history (evs : List Ev) (hok : ∀ b, Ev.block b ∈ evs → SmtOK b) (hlen : evs.length < maxVer)
    (j : Nat) (hj : j ≤ (runEv shapeOfSource ptrOfSource [] evs).length) :
    let disk := runEv shapeOfSource ptrOfSource [] evs
    let crashed := disk.take j
    ∃ i, i ≤ evs.length ∧
      crashed = runEv shapeOfSource ptrOfSource [] (evs.take i) ∧
      version crashed = (specRun [] (evs.take i)).length ∧
      (∀ b, (specRun [] (evs.take i)).getLast? = some b → latestRoot crashed = b.root) ∧
      runEv shapeOfSource ptrOfSource crashed (evs.drop i) = disk := by
  rw [shape_single, ptr_lss] at hj ⊢
  simp only
  obtain ⟨i, hi, he⟩ := take_runEv_single .lss evs [] j (Nat.zero_le _) hj
  have hinv := ChainInv.run (evs.take i) [] [] chainInv_empty
    (fun b hb => hok b (List.mem_of_mem_take hb))
    (by rw [List.length_nil, Nat.zero_add, List.length_take]; exact Nat.lt_of_le_of_lt (Nat.min_le_right _ _) hlen)
  refine ⟨i, hi, he, ?_, ?_, ?_⟩
  · rw [he]; exact hinv.ver
  · rw [he]; exact hinv.root
  · rw [he, ← runEv_append, List.take_append_drop]

/-- blocks 1, 2, 3 — `Rollback(1)` — blocks 2', 3' -/
def rewound : List Ev :=
  [.block { ops := [([1, 97], .set [1])], idx := [([6, 1], [0xA1])], root := [1] },
   .block { ops := [([1, 97], .set [2])], idx := [([6, 2], [0xA2])], root := [2] },
   .block { ops := [([1, 98], .set [3])], idx := [([6, 3], [0xA3])], root := [3] },
   .rollback 1,
   .block { ops := [([1, 97], .set [4])], idx := [([6, 2], [0xB2])], root := [4] },
   .block { ops := [([1, 99], .set [5])], idx := [([6, 3], [0xB3])], root := [5] }]

/-- non-vacuity: with the source's shape and pointer position the rewound history opens, after 0 … 6 surviving
batches, at heights 0 1 2 3 1 2 3, and at the end holds the state, root and index of the new branch -/
example :
    (List.range 7).map (fun j => version ((runEv shapeOfSource ptrOfSource [] rewound).take j)) = [0, 1, 2, 3, 1, 2, 3] ∧
    (let d := runEv shapeOfSource ptrOfSource [] rewound
     stateScan d = [([1, 97], [4]), ([1, 99], [5])] ∧ latestRoot d = [5] ∧ idxGet d [6, 3] = some [0xB3] ∧
     stateScanAt d 1 = [([1, 97], [1])]) := by
  rw [shape_single, ptr_lss]; decide +kernel

/-- **were `setCommitID` to write the pointer at the version being committed, the property would fail**: the
record `Rollback(1)` leaves at the reserved version shadows the pointers of blocks 2', 3' — the store opens at
the stale height 1 with the root of block 1, although the latest state is that of block 3' and the history
has built three heights. (The model derives the next height from the disk at every commit, i.e. it restarts
before each block: block 3' is then written as height 2 again, over block 2'.) -/
theorem pointer_at_commit_version_reopens_stale :
    let d := runEv .single .commitVersion [] rewound
    version d = 1 ∧ latestRoot d = [1] ∧
    stateScan d = [([1, 97], [4]), ([1, 99], [5])] ∧
    (List.range 7).map (fun j => version (d.take j)) = [0, 1, 2, 3, 1, 1, 1] ∧
    (specRun [] rewound).length = 3 := by
  decide +kernel

/-- …and without a rollback in the history the two pointer positions are indistinguishable, which is why only
histories with a rollback expose it -/
example : (List.range 3).all (fun j =>
    version ((run .single .commitVersion [] demo).take j) == version ((run .single .lss [] demo).take j)) = true := by
  decide +kernel

end Canopy.C09
