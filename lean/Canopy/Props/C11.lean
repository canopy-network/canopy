import Canopy.Proof.Atomic
import Canopy.Model.ExecFacts
import Canopy.Model.Proto
import Canopy.Props.C03
import Canopy.Props.C07
/-!
# C11 — block portability

Statement (properties.jsonl): any block an honest node builds from its mempool is accepted by every
honest node holding the same prefix and vote configuration; the block and certificate a node serves
from its archive for a committed height re-validate on a fresh node to the same block hash;
replaying the served chain from genesis reproduces every block hash and state root.

* `proposal_validates` (mechanism model `Canopy.Atomic`, mechanism switches from the generated source
  facts): whatever the mempool holds — failing transactions at any position failing at any point of
  their handlers, transactions rejected by the pre-check, more transactions than fit — the block the
  proposer path (`allowOversize = true`) builds is executed by the replica path
  (`allowOversize = false`) on the same prefix without a single failure, to the same store, the same
  reads through the caches (so the same end-block, the same header) and the same events.
  It depends on the restoration after the oversize remainder: `proposal_needs_oversize_restore` is the
  counterexample without it (the defect repaired in /repo; Go scenario `corpus-oversize-remainder`).
* `honest_proposal_accepted` (model `Canopy.Exec`): the result a leader ships is the result every
  replica recomputes, given the statement order of `ProduceProposal` extracted from the source (header
  hashed BEFORE block result and certificate results — the checkpoint of every 100th height — are
  finalised); `proposal_rejected_when_results_precede_hash` is the counterexample for the other order
  (Go scenario `checkpoint-height`).
* `archive_roundtrip`: the block the archive re-assembles (`BlockResult.ToBlock`: every transaction
  re-marshalled) has the certified transaction root **iff** every included transaction's raw bytes
  are canonical. Hypothesis, stated: the transaction root determines the list of raw transaction
  bytes (collision-free idealisation of hash and Merkle root, DESIGN §5).
  `noncanonical_witness`: with the real wire model (`Canopy.Proto`), a transaction with an explicit
  zero `nonce` field appended (`0x50 0x00`), and one with a repeated `created_height` as a padded
  varint, decode but are not canonical — so a chain that admits such bytes into a block cannot be
  synced past that block (Go scenarios `corpus-noncanonical-tx-*`; on the current tree `CheckTx`
  refuses non-canonical bytes, so they never enter a block).
* `replay_from_genesis` (model `Canopy.Exec`; sync path, for the mechanism that writes the header's last
  certificate before applying a block — `Canopy.C03.last_certificate_is_the_headers`): a fresh node fed
  the committed blocks in order reaches, height by height, the committed state of the chain, accepts
  every block and archives the same results — by induction over the chain, for the abstract
  `applyBlock`.

Same partiality as C03: that the real `ApplyBlock` is a function of (state, block) is sampled, not
proved.
-/
namespace Canopy.C11
open Canopy.Atomic

theorem proposal_validates (max : Nat) (F : Fsm) (hc : Coherent F) (b : Handler) (txs : List Tx)
    (e : Handler) (F2 : Fsm) (inc : List Tx)
    (h : applyBlock cfgOfFacts max true F b txs e = some (F2, inc)) :
    ∃ F2', applyBlock cfgOfFacts max false F b inc e = some (F2', inc) ∧
      F2'.pure = F2.pure ∧ F2'.get = F2.get := by
  rw [Canopy.C07.mechanism_of_source] at h ⊢
  obtain ⟨h1, c1⟩ := block_refines max true F hc b txs e
  obtain ⟨h2, c2⟩ := block_refines max false F hc b inc e
  -- the specification's proposer block is accepted by the specification's replica, which the
  -- mechanism's replica follows
  rw [h] at h1
  rw [proposal_validates_block_spec max F.pure b txs e F2.pure inc h1.symm] at h2
  cases hm : applyBlock Cfg.all max false F b inc e with
  | none => rw [hm] at h2; cases h2
  | some r =>
    obtain ⟨F2', inc'⟩ := r
    rw [hm] at h2
    obtain ⟨hp, rfl⟩ : F2'.pure = F2.pure ∧ inc' = inc := by
      simpa only [Option.map_some, Option.some.injEq, Prod.mk.injEq] using h2
    refine ⟨F2', rfl, hp, ?_⟩
    rw [get_of_coherent (c2 _ hm), get_of_coherent (c1 _ h)]
    exact congrArg Pure.view hp

/-- non-vacuity: a mempool with a failing transaction and more than fits; the proposer keeps one
transaction, the replica executes that block to the same reads -/
example :
    (applyBlock Cfg.all 1 true Canopy.C07.wF [] [Canopy.C07.wBad, Canopy.C07.wInc 1, Canopy.C07.wInc 2] []).map
        (fun r => (r.1.get 0, r.2.map (·.id))) = some (some 1, [1]) ∧
    (applyBlock Cfg.all 1 false Canopy.C07.wF [] [Canopy.C07.wInc 1] []).map
        (fun r => (r.1.get 0, r.2.map (·.id))) = some (some 1, [1]) := by decide +kernel

/-- without the restoration after the oversize remainder the proposer's block state (what its
end-block and header read through the caches) is not what the replica computes from the block -/
theorem proposal_needs_oversize_restore :
    (run { Cfg.all with oversizeRestore := false } 1 true Canopy.C07.wF [Canopy.C07.wInc 1, Canopy.C07.wInc 2]).map
        (fun L => (L.F.get 0, L.included.map (·.id))) = some (some 2, [1]) ∧
    (run { Cfg.all with oversizeRestore := false } 1 false Canopy.C07.wF [Canopy.C07.wInc 1]).map
        (fun L => (L.F.get 0, L.included.map (·.id))) = some (some 1, [1]) := by decide +kernel

/-- what the leader puts into its proposal as the block's claimed result. The mempool check caches a
result computed with a PROVISIONAL header (no last certificate, no VDF); `ProduceProposal` patches and
re-hashes the header and finalises the result (the checkpoint of every 100th height quotes the block
hash). Finalised after the hash, from a header assigned from inputs: the final result; otherwise
something else (a provisional hash, or a header that carries an earlier call's additions). -/
def shippedResult {ρ : Type} (finalisedAfterHash : Bool) (final provisional : ρ) : ρ :=
  if finalisedAfterHash then final else provisional

open Canopy.Exec in
/-- **honest proposals are accepted** (model `Canopy.Exec`): if the leader's execution of `b` on its
committed state gives `r`, and the proposal claims what `ProduceProposal` ships — decided by the
statements extracted from the source (`proposalBuildFact`: the results are finalised after the header
is hashed, and every header field is assigned from inputs, never from what an earlier call left in the
cached proposal) — then every node with the same committed state, whatever else it did before,
validates the proposal with result `r`.
With the finalisation moved before the hash this is false at every height whose result quotes the
block hash (`proposal_rejected_when_results_precede_hash`). -/
theorem honest_proposal_accepted {σ β ρ ε : Type} [DecidableEq β] [DecidableEq ρ] (S : Sys σ β ρ ε)
    (leader replica : Node σ β ρ) (b : β) (r provisional : ρ)
    (hp : (produce S leader b).2 = .ok r)
    (hclaim : S.claim b = shippedResult proposalBuildFact r provisional)
    (hc : replica.committed = leader.committed) (hh : S.height b = replica.height) :
    (validate S replica b).2 = .ok r := by
  have hf : proposalBuildFact = true :=
    Bool.and_eq_true_iff.2 ⟨beq_iff_eq.2 rfl, Canopy.C03.proposal_header_assigned_from_inputs⟩
  rw [hf] at hclaim
  simp only [shippedResult, if_true] at hclaim
  rw [validate_eq, if_neg (Decidable.not_not.2 hh), hc]
  rw [produce_eq] at hp
  unfold verdict
  cases ha : S.applyBlock leader.committed b with
  | error e => rw [ha] at hp; cases hp
  | ok p => rw [ha] at hp; cases hp; simp [hclaim]

open Canopy.Exec in
/-- a system whose leader ships the PROVISIONAL result (3) although executing the block gives 7 -/
def earlyResultsSys : Sys Nat Nat Nat Unit :=
  ⟨fun s b => .ok (s + 1, b), fun s _ => s, fun _ => shippedResult false 7 3,
   fun _ => 0, true, fun _ => 0, fun _ _ _ => .error (), true⟩

open Canopy.Exec in
/-- the seeded order (results finalised from the provisional hash): at a height whose result quotes
the block hash (final 7 ≠ provisional 3) every replica answers `mismatch`, while with the shipped
result taken after the hash it accepts -/
theorem proposal_rejected_when_results_precede_hash :
    (validate earlyResultsSys (init 0 0 : Node Nat Nat Nat) 7).2 = .mismatch ∧
    (validate { earlyResultsSys with claim := fun _ => shippedResult true 7 3 } (init 0 0 : Node Nat Nat Nat) 7).2 = .ok 7 := by
  decide +kernel

/-- what the archive serves for a certified list of raw transactions: each one decoded and
re-marshalled -/
def served {τ : Type} (canon : τ → τ) (txs : List τ) : List τ := txs.map canon

/-- **archive_roundtrip.** `root` is the transaction root a node computes from a block's raw
transaction bytes (Merkle root of the transaction results, each of which contains the hash of the raw
bytes); `hinj` is the collision-free idealisation. The served block re-validates to the certified
root iff every certified transaction is canonically encoded. -/
theorem archive_roundtrip {τ η : Type} (root : List τ → η) (hinj : ∀ a b, root a = root b → a = b)
    (canon : τ → τ) (txs : List τ) :
    root (served canon txs) = root txs ↔ ∀ t ∈ txs, canon t = t := by
  have hmap : served canon txs = txs ↔ ∀ t ∈ txs, canon t = t := by
    rw [served, ← List.map_inj_left, List.map_id']
  exact ⟨fun h => hmap.1 (hinj _ _ h), fun h => congrArg root (hmap.2 h)⟩

/-- the real re-marshalling on the wire model: `lib.Marshal(lib.Unmarshal(raw))` -/
def protoCanon (raw : Canopy.Bytes) : Canopy.Bytes :=
  match Canopy.Proto.decodeTx raw with
  | some t => Canopy.Proto.canon t
  | none => raw

/-- a (tiny) transaction in canonical bytes: message_type = "a", created_height = 2, fee = 1 -/
def tinyTx : Canopy.Bytes := [0x0a, 0x01, 0x61, 0x20, 0x02, 0x30, 0x01]

/-- the same content with an explicit zero `nonce` (field 10) appended, and with `created_height`
repeated as a two-byte (padded) varint: both decode, both re-marshal to the canonical bytes, neither
is canonical — the archive serves other bytes than were certified -/
theorem noncanonical_witness :
    protoCanon tinyTx = tinyTx ∧
    protoCanon (tinyTx ++ [0x50, 0x00]) = tinyTx ∧ tinyTx ++ [0x50, 0x00] ≠ tinyTx ∧
    protoCanon (tinyTx ++ [0x20, 0x82, 0x00]) = tinyTx ∧ tinyTx ++ [0x20, 0x82, 0x00] ≠ tinyTx := by
  decide +kernel

/-- hence a block containing such bytes is served with a different transaction root -/
theorem archive_block_does_not_revalidate {η : Type} (root : List Canopy.Bytes → η)
    (hinj : ∀ a b, root a = root b → a = b) (pre post : List Canopy.Bytes) :
    root (served protoCanon (pre ++ (tinyTx ++ [0x50, 0x00]) :: post)) ≠
      root (pre ++ (tinyTx ++ [0x50, 0x00]) :: post) := by
  intro h
  have hfix := (archive_roundtrip root hinj protoCanon _).1 h (tinyTx ++ [0x50, 0x00]) (by simp)
  exact noncanonical_witness.2.2.1 (hfix.symm.trans noncanonical_witness.2.1)

open Canopy.Exec

variable {σ β ρ ε : Type} [DecidableEq β] [DecidableEq ρ] (S : Sys σ β ρ ε)

/-- the committed chain: each block is at the next height and is accepted on the state before it -/
def chainOk : σ → Nat → List β → Option σ
  | s, _, [] => some s
  | s, h, b :: r => if S.height b = h then
      match exec S s b with
      | some s' => chainOk s' (h + 1) r
      | none => none
    else none

/-- a node fed the blocks one by one through the SYNC path (each with some version `v` of its commit
certificate, here the archive's: 0) -/
def replay (n : Node σ β ρ) (bs : List β) : Node σ β ρ := bs.foldl (fun n b => (commit S n b true 0).1) n

omit [DecidableEq β] in
/-- a chain with a first block: the block is at the expected height, accepted, and the rest is a chain
from its post-state -/
theorem chainOk_cons {s : σ} {h : Nat} {b : β} {r : List β} {sA : σ} (hk : chainOk S s h (b :: r) = some sA) :
    S.height b = h ∧ ∃ s', exec S s b = some s' ∧ chainOk S s' (h + 1) r = some sA := by
  simp only [chainOk] at hk
  split at hk
  · split at hk
    · exact ⟨‹_›, _, ‹_›, hk⟩
    · cases hk
  · cases hk

theorem replay_chain (hix : S.indexesLastCert = true) (bs : List β) : ∀ (n : Node σ β ρ) (sA : σ), n.cached = none →
    chainOk S n.committed n.height bs = some sA →
    (replay S n bs).committed = sA ∧ (replay S n bs).height = n.height + bs.length ∧
    (replay S n bs).archive = (bs.map fun b => (b, S.claim b)).reverse ++ n.archive ∧
    (replay S n bs).cached = none := by
  induction bs with
  | nil => intro n sA hc h; cases h; exact ⟨rfl, rfl, rfl, hc⟩
  | cons b r ih =>
    intro n sA hc h
    obtain ⟨hh, s', hx, h⟩ := chainOk_cons S h
    -- the commit is a replay and accepts
    have hstep : replay S n (b :: r) = replay S (finish S n s' b (S.claim b) 0) r := by
      rw [replay, List.foldl_cons, commit_replay (.inr hix) hh (by rw [hc]; nofun), hx]
      rfl
    have := ih (finish S n s' b (S.claim b) 0) sA (by simp only [finish, reset, hc, ite_self]) h
    rw [hstep]
    refine ⟨this.1, this.2.1.trans ?_, this.2.2.1.trans ?_, this.2.2.2⟩
    · exact Nat.add_right_comm ..
    · simp [finish, reset]

/-- **replay_from_genesis.** A fresh node holding the genesis, fed the blocks of a committed chain in
order, accepts every one of them and ends with the chain's committed state, at the chain's height,
with every block archived with the certified result. -/
theorem replay_from_genesis (hix : S.indexesLastCert = true) (genesis : σ) (h0 : Nat) (bs : List β) (sA : σ)
    (h : chainOk S genesis h0 bs = some sA) :
    (replay S (init genesis h0) bs).committed = sA ∧
    (replay S (init genesis h0) bs).height = h0 + bs.length ∧
    (replay S (init genesis h0) bs).archive = (bs.map fun b => (b, S.claim b)).reverse := by
  have := replay_chain S hix bs (init genesis h0) sA rfl h
  exact ⟨this.1, this.2.1, by simpa [init] using this.2.2.1⟩

/-- every prefix too: the fresh node reproduces each intermediate state -/
theorem replay_prefix (hix : S.indexesLastCert = true) (genesis : σ) (h0 : Nat) (pre post : List β) (sA : σ)
    (h : chainOk S genesis h0 (pre ++ post) = some sA) :
    ∃ sMid, chainOk S genesis h0 pre = some sMid ∧ (replay S (init genesis h0) pre).committed = sMid := by
  have key : ∀ (pre : List β) (s : σ) (h1 : Nat), chainOk S s h1 (pre ++ post) = some sA →
      ∃ sMid, chainOk S s h1 pre = some sMid := by
    intro pre
    induction pre with
    | nil => intro s h1 _; exact ⟨s, rfl⟩
    | cons b r ih =>
      intro s h1 hk
      obtain ⟨hh, s', hx, hk⟩ := chainOk_cons S hk
      simp only [chainOk, hh, if_true, hx]
      exact ih s' (h1 + 1) hk
  obtain ⟨sMid, hm⟩ := key pre genesis h0 h
  exact ⟨sMid, hm, (replay_from_genesis S hix genesis h0 pre sMid hm).1⟩

/-- non-vacuity -/
example :
    let S : Sys Nat Nat Nat Unit := ⟨fun s b => .ok (s + b, b), fun s _ => s, id, fun b => b / 10, true, fun _ => 0, fun _ _ _ => .error (), true⟩
    chainOk S 0 1 [10, 25, 31] = some 66 ∧ (replay S (init 0 1 : Node Nat Nat Nat) [10, 25, 31]).committed = 66 := by
  decide +kernel

end Canopy.C11
