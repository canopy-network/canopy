import Canopy.Proof.LedgerPercents
/-!
# C04 — token supply conservation

Model: `Canopy.Model.Ledger` (M-ledger), a hand transcription of the canopy state machine's ledger code that is
replayed against the real `fsm.StateMachine` on every run (`harness/ledger`, `Driver/Ledger.lean`).

Statement proved here, for every ledger reachable from an accepted genesis through the modelled operations
(transactions of the kinds send / stake / editStake / unstake / pause / unpause / daoTransfer / subsidy /
changeParameter with fee deduction and faucet; the begin-block mint; slashing; certificate results for the node's
own chain with non-signer settlement, double signers and reward bookkeeping; committee retirement; end of block
with reward distribution, max-pause force-unstake and finished unstaking):

* `InvSupply`: the recorded total supply equals Σ accounts + Σ pools + Σ validator stakes **as natural numbers**
  and is below 2^64 (so no component is negative or wrapped);
* the total changes only by what the operation is allowed to mint (`Op.mintBound`: the scheduled block mint, a
  governance DAO transfer with `mint`, a faucet top-up) and by explicit burns (slashes, undistributed reward
  remainder); every other operation leaves it unchanged.

Explicit hypotheses (`Op.Safe`):
* `total + mint < 2^64` for the three minting operations. The code adds to `Supply.Total` and to pool balances
  WITHOUT a guard (`AddToTotalSupply`, `PoolAdd`): at the excluded point the recorded total wraps while the tokens
  are really created — `mint_wraps_at_excluded_point`, `f5_witness`; the Go oracle runs that point on the real code
  (scenarios `mint-wraps-total`, `dao-mint-wraps-total`, `faucet-mint-wraps-total`; known finding F5).
* a certificate awards at most 100 % of the reward pool of the node's chain (`paySum ≤ 100`; this is what
  `lib.CertificateResult.CheckBasic` enforces). It keeps `PercentsOK` (recorded percents ≤ 100 per certificate
  sample) invariant, which in turn makes the unguarded subtraction `pool − distributed` at the end of the block exact.
-/
namespace Canopy.C04
open Canopy.Ledger Canopy.Gen.LedgerFacts

/-! ## the model is pinned to the source it was transcribed from -/

/-- digest of every Go function body the model transcribes, as regenerated from `/repo` on this run; an edit to
any of them breaks this obligation until the model has been re-read against the new body -/
theorem handlers_pinned : handlerDigests = [
  ("StateMachine.SetAccount", "aa30910cacc2"),
  ("StateMachine.SetAccounts", "8250f91a8302"),
  ("StateMachine.AccountDeductFees", "182c2fd40108"),
  ("StateMachine.AccountAdd", "023f0267053d"),
  ("StateMachine.AccountSub", "bbb3ce698b58"),
  ("StateMachine.maybeFaucetTopUpForSendTx", "b3a42249979b"),
  ("StateMachine.AccountVestedAmount", "41bb470ca345"),
  ("StateMachine.AccountLockedAmount", "8f7a4d79f6e1"),
  ("StateMachine.AccountSpendableAmount", "6af3e457179b"),
  ("StateMachine.clearAccountVestingIfFullyVested", "dbffe92b89cc"),
  ("StateMachine.ValidateAccountAddWithVesting", "1bead3f5bf25"),
  ("StateMachine.AccountAddWithVesting", "f8cea19acb35"),
  ("MessageSend.Check", "f5fe216d4887"),
  ("MessageSubsidy.Check", "08cc30e3ca98"),
  ("checkChainId", "5e572255da53"),
  ("StateMachine.SetPool", "df1558b2f6f2"),
  ("StateMachine.SetPools", "e08e17744db9"),
  ("StateMachine.MintToPool", "ad7616eeff77"),
  ("StateMachine.MintToAccount", "f531bfb79a4f"),
  ("StateMachine.PoolAdd", "6b9a0f426ff5"),
  ("StateMachine.PoolSub", "1d3f87a82da5"),
  ("StateMachine.AddToTotalSupply", "c433ead76830"),
  ("StateMachine.AddToStakedSupply", "c66204145d36"),
  ("StateMachine.AddToDelegateSupply", "385a1e76e2db"),
  ("StateMachine.SubFromTotalSupply", "f6fff83045a9"),
  ("StateMachine.SubFromStakedSupply", "95b07dfa4c2a"),
  ("StateMachine.SubFromDelegateSupply", "4b78e72f74be"),
  ("StateMachine.addToSupplyPool", "88ed615e5c1f"),
  ("StateMachine.subFromSupplyPool", "e0b77122d7c9"),
  ("StateMachine.executeOnSupplyPool", "fdfb9a0fd822"),
  ("FilterAndSortPool", "070220438939"),
  ("StateMachine.SetValidators", "abf8f1c423a2"),
  ("StateMachine.UpdateValidatorStake", "715a7a0ce7ff"),
  ("StateMachine.DeleteValidator", "2bdab49292df"),
  ("StateMachine.SetValidatorUnstaking", "22cbfc897d61"),
  ("StateMachine.SetValidatorUnstakingIfBelowMinimum", "31b6d734c3f2"),
  ("StateMachine.DeleteFinishedUnstaking", "f1e064692622"),
  ("StateMachine.SetValidatorsPaused", "343f3f494a6b"),
  ("StateMachine.SetValidatorPaused", "c5503a555aca"),
  ("StateMachine.SetValidatorUnpaused", "71ef0d626b9a"),
  ("StateMachine.GetAuthorizedSignersForValidator", "2466f13b5004"),
  ("StateMachine.FundCommitteeRewardPools", "2f6f68aa0053"),
  ("StateMachine.GetBlockMintStats", "968a0025abfe"),
  ("StateMachine.GetSubsidizedCommittees", "a300ce323f7e"),
  ("StateMachine.DistributeCommitteeRewards", "22cb30bed7f7"),
  ("StateMachine.DistributeCommitteeReward", "3485dd896466"),
  ("StateMachine.UpdateCommittees", "9261c40fec65"),
  ("StateMachine.SetCommittees", "a65074d6aa8c"),
  ("StateMachine.DeleteCommittees", "e850733f4ceb"),
  ("StateMachine.SetCommitteeMember", "7e7cfb79feb2"),
  ("StateMachine.DeleteCommitteeMember", "0edc979faecb"),
  ("StateMachine.UpdateDelegations", "f6d1363d34e0"),
  ("StateMachine.SetDelegations", "7e862c00e2dc"),
  ("StateMachine.DeleteDelegations", "2edf05e54c9b"),
  ("StateMachine.UpsertCommitteeData", "33a17b3f3fc0"),
  ("StateMachine.HandleByzantine", "4ed960104864"),
  ("StateMachine.SlashAndResetNonSigners", "ebfcf1505026"),
  ("StateMachine.IncrementNonSigners", "9560b933a02f"),
  ("StateMachine.HandleDoubleSigners", "6b6bc652064f"),
  ("StateMachine.ForceUnstakeValidator", "3bf863763c24"),
  ("StateMachine.SlashValidators", "4cb281defc43"),
  ("StateMachine.SlashValidator", "5f74381612a2"),
  ("StateMachine.HandleMessageSend", "69e83b8e83ff"),
  ("StateMachine.HandleMessageStake", "6886a59ca6d8"),
  ("StateMachine.HandleMessageEditStake", "4e2f23761141"),
  ("StateMachine.HandleMessageUnstake", "8c13d11c8426"),
  ("StateMachine.HandleMessagePause", "b771bc4f83f7"),
  ("StateMachine.HandleMessageUnpause", "1c78bf69aa3b"),
  ("StateMachine.HandleMessageChangeParameter", "afb25c9e2eba"),
  ("StateMachine.HandleMessageDAOTransfer", "a0935a3afbd1"),
  ("StateMachine.HandleMessageSubsidy", "4bb8a7d59888"),
  ("StateMachine.GetFeeForMessageName", "92636215d936"),
  ("StateMachine.BeginBlock", "b42be48b7324"),
  ("StateMachine.EndBlock", "7676731668e5"),
  ("StateMachine.HandleCertificateResults", "7137d4c43f6e"),
  ("StateMachine.ForceUnstakeMaxPaused", "f251ecb3df76"),
  ("StateMachine.ApproveProposal", "d99fbf6490fd"),
  ("StateMachine.UpdateParam", "baf17e7eb666"),
  ("StateMachine.ConformStateToParamUpdate", "1d5b39285ae4"),
  ("StateMachine.IsFeatureEnabled", "cfbd79dae7ac"),
  ("ValidatorParams.Check", "b5c14ac1aa3c"),
  ("StateMachine.getParams", "c3db6b6c31e7"),
  ("StateMachine.setParams", "eb648b67f145"),
  ("StateMachine.NewStateFromGenesis", "5763878c29b7"),
  ("StateMachine.SetOrderBooks", "3cb6b86e1ec2"),
  ("StateMachine.ValidateGenesisState", "c043cbcf30d7"),
  ("StateMachine.ApplyTransaction", "0ba980da3e7f"),
  ("checkCommittees", "475aa0886a0a"),
  ("CommitteeData.Combine", "d317573307cd"),
  ("CommitteeData.addPercents", "e9dcb5396a82"),
  ("Uint64PercentageDiv", "a3c717b52c19"),
  ("Uint64ReducePercentage", "4449924d885f"),
  ("SafeMulDiv", "2b5d74b45126")] := rfl

instance (L : Ledger) : Decidable (InvSupply L) := by unfold InvSupply; exact inferInstance

/-- the invariant in plain terms -/
theorem invSupply_iff (L : Ledger) :
    InvSupply L ↔ (L.supply.total = NMap.total L.accounts + NMap.total L.pools + AMap.sumBy (·.stake) L.validators
      ∧ L.supply.total < 2 ^ 64) := Iff.rfl

/-- every single balance is below 2^64 when the invariant holds -/
theorem balances_below_2_64 {L : Ledger} (h : InvSupply L) (a : Addr) (id : Nat) :
    accGet L a < 2 ^ 64 ∧ poolGet L id < 2 ^ 64 ∧ ∀ v, valGet? L a = some v → v.stake < 2 ^ 64 := by
  obtain ⟨h1, h2⟩ := h
  show accGet L a < U64 ∧ poolGet L id < U64 ∧ ∀ v, valGet? L a = some v → v.stake < U64
  unfold bal at h1
  have := accGet_le L a; have := poolGet_le L id
  exact ⟨by omega, by omega, fun v hv => by have := stake_le L a v hv; omega⟩

/-- a genesis accepted by the loader (`ValidateGenesisState` + `NewStateFromGenesis`, amounts being `uint64`)
satisfies the invariant -/
theorem inv_genesis {cfg : Config} {params : Params} {accounts : List (Addr × Nat)} {pools : List (Nat × Nat)}
    {vals : List GenesisValidator} {retired : List Nat} {books : List GenesisBook} {L : Ledger}
    (ha : ∀ e ∈ accounts, e.2 < 2 ^ 64) (hp : ∀ e ∈ pools, e.2 < 2 ^ 64) (hv : ∀ g ∈ vals, g.val.stake < 2 ^ 64)
    (ho : ∀ b ∈ books, ∀ x ∈ b.2, x < 2 ^ 64)
    (h : genesis cfg params accounts pools vals retired books = .ok L) : InvSupply L :=
  genesis_invSupply (fun e he => by have := ha e he; unfold MAXU; omega) (fun e he => by have := hp e he; unfold MAXU; omega)
    (fun g hg => by have := hv g hg; unfold MAXU; omega) (fun b hb x hx => by have := ho b hb x hx; unfold MAXU; omega) h

/-- the order of the state-writing steps of `NewStateFromGenesis`, as regenerated from the source on this run. The
model's `genesis` composes them in this order, and the order matters: `SetPools` OVERWRITES a listed pool (and counts
its amount), `SetOrderBooks` ADDS every open sell order's amount to the chain's escrow pool (and counts it) — so a
genesis that lists an escrow pool AND an order book for that chain (what `ExportState` produces) is only loaded
consistently with the pools first. -/
theorem genesis_steps_pinned : genesisSteps =
    ["SetParams", "SetAccounts", "SetPools", "SetValidators", "SetOrderBooks", "SetSupply", "SetRetiredCommittees"] := rfl

/-- why the order matters (seeded change pending4-C04, Go scenario `export-then-import`): an escrow pool listed with
200 tokens next to two open orders of 120 + 80 on chain 1. Pools first (the code): the pool holds 400, the total
counts 400. Order books first (`genesisBooksBeforePools`): the listed amount overwrites the credit, the pool holds 200,
the total still counts 400 — the supply identity is broken from the first block on. -/
theorem genesis_order_books_after_pools :
    ((genesis {} {} [] [(1 + escrowPoolAddend, 200)] [] [] [(1, [120, 80])]).toOption.map fun L => (L.pools, L.supply.total, decide (InvSupply L)))
      = some ([(1 + escrowPoolAddend, 400)], 400, true) ∧
    ((genesisBooksBeforePools {} {} [] [(1 + escrowPoolAddend, 200)] [] [] [(1, [120, 80])]).toOption.map fun L => (L.pools, L.supply.total, decide (InvSupply L)))
      = some ([(1 + escrowPoolAddend, 200)], 400, false) := by decide

/-- the loader rejects a genesis that lists an account twice (the hypothesis under which `inv_genesis` would fail
otherwise: the record is written once but counted twice) -/
example : (genesis {} {} [(1, 5), (1, 7)] [] [] []).toOption = none := by decide

/-- the operations the harness drives on the real state machine -/
inductive Op
  | tx (sender : Addr) (fee : Nat) (msg : Msg)
  | mint
  | slash (chain percent : Nat) (addrs : List Addr)
  | cert (height rootHeight : Nat) (members : List (Addr × Nat × Bool)) (doubleSigners : List (Addr × List Nat))
      (pay : List (Addr × Nat × Nat))
  | retire (chain : Nat)
  | endBlock

def Op.apply : Op → Ledger → M Ledger
  | .tx sender fee msg, L => applyTx L sender fee msg
  | .mint, L => beginBlockMint L
  | .slash chain percent addrs, L => slashValidators L chain percent addrs
  | .cert h rh mem ds pay, L => handleCertificateResults L h rh mem ds pay
  | .retire chain, L => .ok (retireCommittee L chain)
  | .endBlock, L => Canopy.Ledger.endBlock L

/-- the most an operation may add to the total supply: non-zero only for the scheduled block mint, a governance DAO
transfer with `mint`, and a faucet top-up -/
def Op.mintBound (L : Ledger) : Op → Nat
  | .tx sender fee msg => txMint L sender fee msg
  | .mint => scheduledMint L
  | _ => 0

/-- may the operation burn? only slashes (direct, or through certificate results) and the end-of-block reward
remainder -/
def Op.mayBurn : Op → Bool
  | .slash .. | .cert .. | .endBlock => true
  | _ => false

/-- the explicit hypotheses (see the module header) -/
def Op.Safe (L : Ledger) : Op → Prop
  | .cert _ _ _ _ pay => paySum L.cfg.chainId pay ≤ 100
  | op => L.supply.total + op.mintBound L < 2 ^ 64

/-- the invariant carried along a chain: the supply identity and the bound on the recorded reward percents -/
def Inv (L : Ledger) : Prop := InvSupply L ∧ PercentsOK L

/-- **C04, one operation.** If the invariant holds and the operation succeeds, the invariant holds afterwards and the
total changed by `minted − burned` with `minted ≤ mintBound` (0 unless the operation is one of the three minting
ones) and `burned = 0` unless the operation may burn. -/
theorem op_conserves {L L' : Ledger} {op : Op} (hinv : Inv L) (hs : op.Safe L) (h : op.apply L = .ok L') :
    Inv L' ∧ ∃ minted burned, minted ≤ op.mintBound L ∧ (op.mayBurn = false → burned = 0) ∧
      L'.supply.total + burned = L.supply.total + minted := by
  obtain ⟨hi, hp⟩ := hinv
  -- slashes, certificate results and the end of the block only burn
  have burn : ∀ {L' : Ledger}, Burns L L' → PercentsOK L' → Inv L' ∧ ∃ minted burned, minted ≤ 0 ∧
      (true = false → burned = 0) ∧ L'.supply.total + burned = L.supply.total + minted :=
    fun ⟨b, s⟩ p => ⟨⟨s.inv_of_le hi (Nat.zero_le _), p⟩, 0, b, Nat.le_refl _, nofun, s.1⟩
  cases op with
  | tx sender fee msg =>
    have hm : L.supply.total + txMint L sender fee msg < U64 := by simpa [Op.Safe, Op.mintBound, two_pow_64] using hs
    have s := applyTx_step hi hm h
    have hlt : L'.supply.total < U64 := by have := s.1; omega
    exact ⟨⟨s.inv hi hlt, (keepCD_applyTx h).percents hp⟩, _, 0, Nat.le_refl _, fun _ => rfl, s.1⟩
  | mint =>
    have hm : L.supply.total + scheduledMint L < U64 := by simpa [Op.Safe, Op.mintBound, two_pow_64] using hs
    obtain ⟨m, hle, s⟩ := beginBlockMint_mints hi hm h
    have hlt : L'.supply.total < U64 := by have := s.1; omega
    have k : KeepCD L L' := (beginBlockMint_sameStaking h).ctx.committeesData
    exact ⟨⟨s.inv hi hlt, k.percents hp⟩, m, 0, hle, fun _ => rfl, s.1⟩
  | slash chain percent addrs => exact burn (slashValidators_burns h) ((keepCD_slashValidators h).percents hp)
  | cert hh rh mem ds pay => exact burn (handleCertificateResults_burns h) (handleCertificateResults_percents hp hs h)
  | retire chain =>
    obtain rfl := Except.ok.inj h
    have s : SameBal L (retireCommittee L chain) := by unfold retireCommittee; split <;> exact ⟨rfl, rfl, rfl, rfl⟩
    have k : KeepCD L (retireCommittee L chain) := by unfold retireCommittee KeepCD; split <;> rfl
    exact ⟨⟨s.moves.inv hi, k.percents hp⟩, 0, 0, Nat.zero_le _, fun _ => rfl, s.moves.1⟩
  | endBlock => exact burn (endBlock_burns hi hp h) (endBlock_percents hi hp h)

/-- non-vacuity: a send with a fee succeeds on a concrete ledger, moves 5 tokens, pays 2 into the reward pool and
leaves the total at 100 -/
example :
    let L : Ledger := { accounts := [(7, 100)], supply := { total := 100 }, params := { sendFee := 2 } }
    ((Op.tx 7 2 (.send 7 9 5)).apply L).toOption.map (fun L' => (L'.accounts, L'.pools, L'.supply.total))
      = some ([(7, 93), (9, 5)], [(1, 2)], 100) := by decide

/-- ledgers reachable from `L₀` by successful, `Safe` operations -/
inductive Reachable (L₀ : Ledger) : Ledger → Prop
  | base : Reachable L₀ L₀
  | step {L L' : Ledger} (op : Op) : Reachable L₀ L → op.Safe L → op.apply L = .ok L' → Reachable L₀ L'

/-- **C04, every history.** The invariant holds on every ledger reachable from one that satisfies it. -/
theorem inv_reachable {L₀ L : Ledger} (h0 : Inv L₀) (hr : Reachable L₀ L) : Inv L := by
  induction hr with
  | base => exact h0
  | step op _ hs h ih => exact (op_conserves ih hs h).1

/-- … in particular from every accepted genesis: after any sequence of successful operations the recorded total is the
exact sum of all balances and stakes -/
theorem supply_conserved_from_genesis {cfg : Config} {params : Params} {accounts : List (Addr × Nat)} {pools : List (Nat × Nat)}
    {vals : List GenesisValidator} {retired : List Nat} {books : List GenesisBook} {L₀ L : Ledger}
    (ha : ∀ e ∈ accounts, e.2 < 2 ^ 64) (hp : ∀ e ∈ pools, e.2 < 2 ^ 64) (hv : ∀ g ∈ vals, g.val.stake < 2 ^ 64)
    (ho : ∀ b ∈ books, ∀ x ∈ b.2, x < 2 ^ 64)
    (hg : genesis cfg params accounts pools vals retired books = .ok L₀) (hr : Reachable L₀ L) : InvSupply L :=
  (inv_reachable ⟨inv_genesis ha hp hv ho hg, genesis_percentsOK hg⟩ hr).1

/-! ## F5: the excluded point -/

/-- `MintToPool` at `total + x ≥ 2^64`: the recorded total wraps, the pool really receives the tokens, and the
identity is off by exactly 2^64 (`AddToTotalSupply` has no overflow guard) -/
theorem mint_wraps_at_excluded_point {L : Ledger} {id x : Nat} (hi : InvSupply L) (hx : 2 ^ 64 ≤ L.supply.total + x)
    (hxlt : x < 2 ^ 64) (hp : poolGet L id + x < 2 ^ 64) :
    (mintToPool L id x).supply.total + 2 ^ 64 = bal (mintToPool L id x) := by
  rw [two_pow_64] at hx hxlt hp ⊢
  exact mintToPool_wraps hi hx hxlt hp

/-- concrete witness (the Go scenario `mint-wraps-total`): one account holding 2^64 − 1001, block mint of 80 000 000 at
height 2: the begin-block mint succeeds, the recorded total becomes 79 998 999 and no longer equals the sum -/
theorem f5_witness :
    let L : Ledger := { accounts := [(7, 18446744073709550615)], supply := { total := 18446744073709550615 }, height := 2 }
    InvSupply L ∧ ∃ L', beginBlockMint L = .ok L' ∧ L'.supply.total = 79998999 ∧ ¬ InvSupply L' := by
  refine ⟨by decide, _, rfl, by decide, by decide⟩

end Canopy.C04
