import Canopy.Proof.LedgerC04c
import Canopy.Proof.LedgerLive
/-! C04: `PercentsOK` (recorded reward percents ≤ 100 per certificate sample) as a state invariant: no operation
except certificate results and the end-of-block distribution touches the committee data. -/
namespace Canopy.Ledger
open AMap

/-- the committee data is untouched -/
def KeepCD (L L' : Ledger) : Prop := L'.committeesData = L.committeesData

theorem KeepCD.refl (L : Ledger) : KeepCD L L := rfl
theorem KeepCD.trans {A B C : Ledger} (h1 : KeepCD A B) (h2 : KeepCD B C) : KeepCD A C := Eq.trans h2 h1
theorem KeepCD.percents {L L' : Ledger} (h : KeepCD L L') (hp : PercentsOK L) : PercentsOK L' := by
  unfold PercentsOK; rw [h]; exact hp

theorem SameStaking.keepCD {L L' : Ledger} (h : SameStaking L L') : KeepCD L L' := h.ctx.committeesData

theorem sameStaking_accounts (L : Ledger) (acc : NMap Addr) : SameStaking L { L with accounts := acc, vesting := vs } :=
  ⟨rfl, rfl, rfl, rfl, rfl, rfl, rfl, ⟨rfl, rfl, rfl, rfl⟩⟩
theorem sameStaking_accountAdd {L L' : Ledger} {a : Addr} {x : Nat} (h : accountAdd L a x = .ok L') : SameStaking L L' := by
  obtain ⟨acc, vs, rfl, _⟩ := accountAdd_ok h; exact sameStaking_accounts L acc
theorem sameStaking_accountSub {L L' : Ledger} {a : Addr} {x : Nat} (h : accountSub L a x = .ok L') : SameStaking L L' := by
  obtain ⟨acc, vs, rfl, _⟩ := accountSub_ok h; exact sameStaking_accounts L acc
theorem sameStaking_poolSub {L L' : Ledger} {a x : Nat} (h : poolSub L a x = .ok L') : SameStaking L L' := by
  obtain ⟨p, rfl, _⟩ := poolSub_ok h; exact ⟨rfl, rfl, rfl, rfl, rfl, rfl, rfl, ⟨rfl, rfl, rfl, rfl⟩⟩
theorem sameStaking_poolAdd (L : Ledger) (id x : Nat) : SameStaking L (poolAdd L id x) :=
  ⟨rfl, rfl, rfl, rfl, rfl, rfl, rfl, ⟨rfl, rfl, rfl, rfl⟩⟩

theorem sameStaking_deductFees {L L' : Ledger} {a : Addr} {fee : Nat} (h : deductFees L a fee = .ok L') : SameStaking L L' := by
  unfold deductFees at h
  obtain ⟨L1, h1, h2⟩ := bind_ok h
  obtain rfl := Except.ok.inj h2
  exact (sameStaking_accountSub h1).trans (sameStaking_poolAdd _ _ _)

theorem sameStaking_accountAddWithVesting {L L' : Ledger} {dst : Addr} {x st cl en : Nat}
    (h : accountAddWithVesting L dst x st cl en = .ok L') : SameStaking L L' := by
  obtain ⟨acc, vs, rfl, _⟩ := accountAddWithVesting_ok h
  exact ⟨rfl, rfl, rfl, rfl, rfl, rfl, rfl, ⟨rfl, rfl, rfl, rfl⟩⟩

theorem sameStaking_handleSend {L L' : Ledger} {s d : Addr} {x : Nat} (h : handleSend L s d x = .ok L') : SameStaking L L' := by
  unfold handleSend at h
  obtain ⟨L1, h1, h2⟩ := bind_ok h
  exact (sameStaking_accountSub h1).trans (sameStaking_accountAdd h2)

theorem sameStaking_handleSendVesting {L L' : Ledger} {s d : Addr} {x st cl en : Nat}
    (h : handleSendVesting L s d x st cl en = .ok L') : SameStaking L L' := by
  unfold handleSendVesting at h
  obtain ⟨_, _, h⟩ := bind_ok h
  obtain ⟨L1, h1, h2⟩ := bind_ok h
  exact (sameStaking_accountSub h1).trans (sameStaking_accountAddWithVesting h2)

theorem sameStaking_handleDaoTransfer {L L' : Ledger} {a : Addr} {x s e : Nat} {mint : Bool}
    (h : handleDaoTransfer L a x mint s e = .ok L') : SameStaking L L' := by
  unfold handleDaoTransfer at h
  obtain ⟨_, _, h⟩ := bind_ok h
  obtain ⟨L2, h2, h3⟩ := bind_ok h
  have s1 : SameStaking L (if mint = true then mintToPool L Canopy.Gen.LedgerFacts.daoPoolId x else L) := by
    split
    · exact mintToPool_sameStaking ..
    · exact SameStaking.refl L
  exact (s1.trans (sameStaking_poolSub h2)).trans (sameStaking_accountAdd h3)

theorem sameStaking_handleSubsidy {L L' : Ledger} {a : Addr} {c x : Nat} (h : handleSubsidy L a c x = .ok L') : SameStaking L L' := by
  unfold handleSubsidy at h
  simp only [guard_ok] at h
  obtain ⟨L1, h1, h2⟩ := bind_ok h.2
  obtain rfl := Except.ok.inj h2
  exact (sameStaking_accountSub h1).trans (sameStaking_poolAdd _ _ _)

theorem keepCD_setValidatorUnstaking (L : Ledger) (a : Addr) (v : Validator) (f : Nat) : KeepCD L (setValidatorUnstaking L a v f) := by
  unfold KeepCD; rw [setValidatorUnstaking_eq]

theorem keepCD_slashValidator {mc : Bool} {L L' : Ledger} {a : Addr} {val : Validator} {ch p : Nat}
    (h : slashValidatorWith mc L a val ch p = .ok L') : KeepCD L L' := by
  rcases slashValidatorWith_step h with rfl | ⟨t, after, cs', _, _, _, h⟩
  · rfl
  split at h
  · obtain ⟨L2, r, rfl⟩ := h
    have k := r.env.committeesData
    rw [slashCleanMarkers_eq] at k
    exact k
  · obtain ⟨L3, r, rfl⟩ := h
    exact (show KeepCD L L3 from r.env.committeesData).trans (slashFinish_ctx ..).committeesData

theorem keepCD_slashValidators {mc : Bool} {ch p : Nat} {as : List Addr} {L L' : Ledger}
    (h : slashValidatorsWith mc L ch p as = .ok L') : KeepCD L L' :=
  slashValidatorsWith_keeps (KeepCD L) (fun _ _ _ _ k _ h => k.trans (keepCD_slashValidator h)) (KeepCD.refl L) h

theorem keepCD_handlePause {L L' : Ledger} {a : Addr} (h : handlePause L a = .ok L') : KeepCD L L' := by
  obtain ⟨val, _, _, _, _, rfl⟩ := handlePause_ok h; rfl

theorem keepCD_handleByzantine {L : Ledger} {chain : Nat} {members : List (Addr × Nat × Bool)} {ds : List (Addr × List Nat)}
    {r : Ledger × Nat} (h : handleByzantine L chain members ds = .ok r) : KeepCD L r.1 :=
  handleByzantine_keeps (KeepCD L) (fun _ _ _ k h => k.trans (keepCD_handlePause h))
    (fun _ _ _ _ _ _ k _ h => k.trans (keepCD_slashValidator h)) (fun _ _ _ k => k) h (KeepCD.refl L)

theorem keepCD_conformMinStakeStep (L : Ledger) (a : Addr) : KeepCD L (conformMinStakeStep L a) := by
  unfold conformMinStakeStep
  split
  · next val hv =>
    rcases setUnstakingIfBelowMinimum_cases L a val with e | ⟨f, _, _, e⟩
    · rw [e]; rfl
    · rw [e]; exact keepCD_setValidatorUnstaking ..
  · rfl

theorem keepCD_conformTrimStep {acc acc' : Ledger × Nat} {a : Addr} (h : conformTrimStep acc a = .ok acc') : KeepCD acc.1 acc'.1 := by
  rcases conformTrimStep_cases h with e | ⟨val, cs, L1, _, _, _, r, e⟩
  · rw [e]; rfl
  · rw [e]; exact r.env.committeesData

theorem keepCD_handleChangeParameter {L L' : Ledger} {space key : String} {v s e : Nat}
    (h : handleChangeParameter L space key v s e = .ok L') : KeepCD L L' := by
  obtain ⟨p, _, h⟩ := handleChangeParameter_run h
  exact conformStateToParamUpdate_keeps (KeepCD L) (fun s a k => k.trans (keepCD_conformMinStakeStep s a))
    (fun _ _ _ k h => k.trans (keepCD_conformTrimStep h)) h rfl

theorem sameStaking_txFaucet {L L1 : Ledger} {sender : Addr} {fee : Nat} {msg : Msg} (h : txFaucet L sender fee msg = .ok L1) :
    SameStaking L L1 := by
  obtain ⟨m, h, _⟩ := txFaucet_ok h
  unfold mintToAccount at h
  split at h
  · obtain rfl := Except.ok.inj h; exact SameStaking.refl L
  · exact SameStaking.trans (B := addToTotal L m) ⟨rfl, rfl, rfl, rfl, rfl, rfl, rfl, ⟨rfl, rfl, rfl, rfl⟩⟩ (sameStaking_accountAdd h)

theorem keepCD_handleMessage {L L' : Ledger} {sender : Addr} {msg : Msg} (h : handleMessage L sender msg = .ok L') : KeepCD L L' := by
  cases msg with
  | send s d x => exact (sameStaking_handleSend h).keepCD
  | sendVesting s d x st cl en => exact (sameStaking_handleSendVesting h).keepCD
  | stake a x cs dl c o =>
    obtain ⟨_, L1, L3, h1, r, rfl⟩ := handleStake_reweigh h
    exact (sameStaking_accountSub h1).keepCD.trans r.env.committeesData
  | editStake a x cs c o =>
    obtain ⟨val, L1, _, _, h1, h2⟩ := handleEditStake_ok h
    exact (sameStaking_accountSub h1).keepCD.trans (updateValidatorStake_frame h2).2.committeesData
  | unstake a => obtain ⟨val, _, _, rfl⟩ := handleUnstake_ok h; exact keepCD_setValidatorUnstaking ..
  | pause a => exact keepCD_handlePause h
  | unpause a => obtain ⟨val, _, _, _, _, rfl⟩ := handleUnpause_ok h; rfl
  | daoTransfer a x m s e => exact (sameStaking_handleDaoTransfer h).keepCD
  | subsidy a c x => exact (sameStaking_handleSubsidy h).keepCD
  | changeParameter sg sp k v s e => exact keepCD_handleChangeParameter h

theorem keepCD_applyTx {L L' : Ledger} {sender : Addr} {fee : Nat} {msg : Msg} (h : applyTx L sender fee msg = .ok L') : KeepCD L L' := by
  obtain ⟨L1, L2, h1, h2, h⟩ := applyTx_ok h
  exact ((sameStaking_txFaucet h1).trans (sameStaking_deductFees h2)).keepCD.trans (keepCD_handleMessage h)

theorem addPercentAt_sum : ∀ (ps ps' : List (Addr × Nat)) (a : Addr) (p : Nat), addPercentAt ps a p = .ok ps' →
    percentSum ps' = percentSum ps + p
  | [], ps', a, p, h => by
    obtain rfl := Except.ok.inj h; simp [percentSum]
  | (b, old) :: t, ps', a, p, h => by
    unfold addPercentAt at h
    split at h
    · split at h
      · exact absurd h (by intro h; cases h)
      · obtain rfl := Except.ok.inj h
        simp only [percentSum, List.map_cons, List.sum_cons]; omega
    · split at h
      · exact absurd h (by intro h; cases h)
      · next t' ht =>
        obtain rfl := Except.ok.inj h
        have := addPercentAt_sum t t' a p ht
        simp only [percentSum, List.map_cons, List.sum_cons] at this ⊢; omega

theorem addPercent_sum {ps ps' : List (Addr × Nat)} {a : Addr} {p : Nat} (h : addPercent ps a p = .ok ps') :
    percentSum ps' = percentSum ps + p := by
  unfold addPercent at h
  split at h
  · next hp => obtain rfl := Except.ok.inj h; omega
  · exact addPercentAt_sum _ _ _ _ h

/-- the percents a certificate awards for chain `chain` -/
def paySum (chain : Nat) : List (Addr × Nat × Nat) → Nat
  | [] => 0
  | e :: t => (if e.2.2 = chain then e.2.1 else 0) + paySum chain t

theorem foldlM_addPercent_sum (chain : Nat) : ∀ (pay : List (Addr × Nat × Nat)) (ps ps' : List (Addr × Nat)),
    pay.foldlM (fun ps (e : Addr × Nat × Nat) => if e.2.2 = chain then addPercent ps e.1 e.2.1 else pure ps) ps = .ok ps' →
    percentSum ps' = percentSum ps + paySum chain pay
  | [], ps, ps', h => by obtain rfl := Except.ok.inj h; simp [paySum]
  | e :: t, ps, ps', h => by
    simp only [List.foldlM_cons] at h
    obtain ⟨ps1, h1, h2⟩ := bind_ok h
    have ih := foldlM_addPercent_sum chain t ps1 ps' h2
    unfold paySum
    split at h1
    · next hc => have := addPercent_sum h1; simp only [hc, if_true]; omega
    · next hc => obtain rfl := Except.ok.inj h1; simp only [hc, if_false]; omega

theorem reducePercentage_le (p ns : Nat) : reducePercentage p ns ≤ p := by
  unfold reducePercentage
  split
  · omega
  · split
    · omega
    · apply Nat.div_le_of_le_mul
      refine Nat.le_trans (Nat.mod_le _ _) ?_
      calc p * (100 - ns) ≤ p * 100 := Nat.mul_le_mul_left p (by omega)
        _ = 100 * p := Nat.mul_comm _ _

theorem paySum_map_le (chain : Nat) (g : Addr × Nat × Nat → Addr × Nat × Nat)
    (hg : ∀ e, (g e).2.2 = e.2.2 ∧ (g e).2.1 ≤ e.2.1) : ∀ pay : List (Addr × Nat × Nat), paySum chain (pay.map g) ≤ paySum chain pay
  | [] => Nat.le_refl _
  | e :: t => by
    have ih := paySum_map_le chain g hg t
    obtain ⟨h1, h2⟩ := hg e
    simp only [List.map_cons, paySum, h1]
    split <;> omega

theorem paySum_reduce_le (chain ns : Nat) (pay : List (Addr × Nat × Nat)) :
    paySum chain (pay.map fun (a, p, c) => (a, reducePercentage p ns, c)) ≤ paySum chain pay :=
  paySum_map_le chain _ (fun ⟨_, p, _⟩ => ⟨rfl, reducePercentage_le p ns⟩) pay

theorem getCommitteeData_ok (L : Ledger) (chain : Nat) (hp : PercentsOK L) :
    percentSum (getCommitteeData L chain).percents ≤ 100 * (getCommitteeData L chain).samples := by
  unfold getCommitteeData
  cases hf : L.committeesData.find? (·.chainId = chain) with
  | none => simp [percentSum]
  | some d => simp only [Option.getD_some]; exact hp d (List.mem_of_find?_eq_some hf)

theorem upsertCommitteeData_percents {L L' : Ledger} {chain qh qrh : Nat} {pay : List (Addr × Nat × Nat)} (hp : PercentsOK L)
    (hpay : paySum chain pay ≤ 100) (h : upsertCommitteeData L chain qh qrh pay = .ok L') : PercentsOK L' := by
  obtain ⟨percents, hps, rfl⟩ := upsertCommitteeData_run h
  have hd := getCommitteeData_ok L chain hp
  have hs := foldlM_addPercent_sum chain pay _ percents hps
  refine putCommitteeData_percents hp ?_
  show percentSum percents ≤ 100 * ((getCommitteeData L chain).samples + 1)
  omega

/-- `HandleCertificateResults` keeps `PercentsOK` when the certificate awards at most 100 % for this chain
(`CertificateResult.CheckBasic`) -/
theorem handleCertificateResults_percents {L L' : Ledger} {qh qrh : Nat} {members : List (Addr × Nat × Bool)}
    {ds : List (Addr × List Nat)} {pay : List (Addr × Nat × Nat)} (hp : PercentsOK L) (hpay : paySum L.cfg.chainId pay ≤ 100)
    (h : handleCertificateResults L qh qrh members ds pay = .ok L') : PercentsOK L' := by
  obtain ⟨r, hr, h⟩ := handleCertificateResults_run h
  exact upsertCommitteeData_percents ((keepCD_handleByzantine hr).percents hp)
    (Nat.le_trans (paySum_reduce_le L.cfg.chainId r.2 pay) hpay) h

theorem keepCD_genesisValidator {L L' : Ledger} {g : GenesisValidator} (h : genesisValidator L g = .ok L') : KeepCD L L' := by
  obtain ⟨_, L1, v1, e1, _, r⟩ := genesisValidator_run h
  have k1 : KeepCD L L1 := by
    rw [e1]
    split
    · exact keepCD_setValidatorUnstaking ..
    · split <;> rfl
  exact k1.trans r.env.committeesData

/-- an accepted genesis has no reward percents recorded -/
theorem genesis_percentsOK {cfg : Config} {params : Params} {accounts : List (Addr × Nat)} {pools : List (Nat × Nat)}
    {vals : List GenesisValidator} {retired : List Nat} {books : List GenesisBook} {L : Ledger}
    (h : genesis cfg params accounts pools vals retired books = .ok L) : PercentsOK L := by
  obtain ⟨_, L1, L2, L3, L4, h1, h2, h3, h4, rfl⟩ := genesis_ok h
  have k1 : KeepCD _ L1 := (foldlM_genesisAccount_rest accounts h1).2
  have k2 : KeepCD L1 L2 := (foldlM_genesisPool_rest pools h2).2
  have k3 := foldlM_rel KeepCD.refl KeepCD.trans (fun L g L' h => keepCD_genesisValidator h) vals h3
  have k4 : KeepCD L3 L4 := (foldlM_genesisBook_rest books L3 L4 h4).2
  have e : L4.committeesData = [] := (((k1.trans k2).trans k3).trans k4)
  intro d hd
  have : d ∈ L4.committeesData := hd
  rw [e] at this; cases this

theorem keepCD_forceUnstakeValidator (L : Ledger) (a : Addr) : KeepCD L (forceUnstakeValidator L a) := by
  rcases forceUnstakeValidator_cases L a with ⟨e, _⟩ | ⟨val, _, _, e⟩
  · rw [e]; rfl
  · rw [e]; exact keepCD_setValidatorUnstaking ..

theorem keepCD_forceUnstakeMaxPaused (L : Ledger) : KeepCD L (forceUnstakeMaxPaused L) := by
  unfold forceUnstakeMaxPaused
  dsimp only
  exact (foldl_rel KeepCD.refl KeepCD.trans keepCD_forceUnstakeValidator (dueAt L.paused L.height) L).trans
    (foldl_rel KeepCD.refl KeepCD.trans (f := fun L a => { L with paused := KSet.del L.paused (L.height, a) }) (fun L a => rfl) (dueAt L.paused L.height) _)

theorem keepCD_finishUnstakingStep {L L' : Ledger} {a : Addr} (h : finishUnstakingStep L a = .ok L') : KeepCD L L' := by
  obtain ⟨val, L1, _, h1, h⟩ := finishUnstakingStep_ok h
  exact (sameStaking_accountAdd h1).keepCD.trans ((deleteValidator_frame h).2.committeesData)

theorem keepCD_deleteFinishedUnstaking {L L' : Ledger} (h : deleteFinishedUnstaking L = .ok L') : KeepCD L L' := by
  obtain ⟨L1, h1, rfl⟩ := deleteFinishedUnstaking_run h
  exact (foldlM_rel KeepCD.refl KeepCD.trans (fun L a L' h => keepCD_finishUnstakingStep h) _ h1).trans
    (foldl_rel KeepCD.refl KeepCD.trans (f := fun L a => { L with unstaking := KSet.del L.unstaking (L.height, a) }) (fun L a => rfl) (dueAt L.unstaking L.height) L1)

/-- `EndBlock` re-establishes `PercentsOK`: the distribution clears what it pays out, the rest does not touch the
committee data -/
theorem endBlock_percents {L L' : Ledger} (hi : InvSupply L) (hp : PercentsOK L) (h : endBlock L = .ok L') : PercentsOK L' := by
  obtain ⟨L1, L3, h1, h3, rfl⟩ := endBlock_run h
  obtain ⟨_, p1⟩ := distributeCommitteeRewards_burns hi hp h1
  exact ((keepCD_forceUnstakeMaxPaused L1).trans (keepCD_deleteFinishedUnstaking h3)).percents p1

end Canopy.Ledger
