import Canopy.Proof.StoreGroups
/-! The `VersionedIterator` machine (`first/advanceToNextKey/rewindToLatestVersion/step`) yields, for
each of its four strategies, one entry per user-key group: the newest version ≤ the read version, if
the group has one and it is not a tombstone (`VS.iter_groups`, C10). What the caller's loop collects
from a state is `Yields`, with a bound on the rounds of the first search; the run is followed from one
loop head of `advanceToNextKey` to the next (`FwdHead`, `RevHead`), one group at a time (`fwd_group`,
`rev_group`). At the end the two facts that bring a reader to this form: the iterator bounds
`[pfx, prefixEnd pfx)` cut out whole groups (`bound_groups`), and the point read `getRaw` on the
groups (`VS.getRaw_groups`). -/
namespace Canopy.Store

theorem filterMap_cons_toList {α β : Type} (f : α → Option β) (a : α) (l : List α) :
    (a :: l).filterMap f = (f a).toList ++ l.filterMap f := by
  rw [List.filterMap_cons]
  cases f a <;> rfl

theorem exists_snoc {α : Type} (l : List α) (h : l ≠ []) : ∃ l' x, l = l' ++ [x] :=
  ⟨l.dropLast, l.getLast h, (List.dropLast_concat_getLast h).symm⟩

theorem takeWhile_append_stop {α : Type} (p : α → Bool) (A rest : List α) (hA : ∀ a ∈ A, p a = true)
    (hr : ∀ x, rest.head? = some x → p x = false) :
    (A ++ rest).takeWhile p = A ∧ (A ++ rest).dropWhile p = rest := by
  rw [List.takeWhile_append_of_pos hA, List.dropWhile_append_of_pos hA]
  cases rest with
  | nil => simp
  | cons x xs => simp [hr x rfl]

/-- entries of one user key -/
def ents (uk : Bytes) (ps : List (Nat × Bytes)) : List Entry := ps.map fun p => (mkKey uk p.1, p.2)

@[simp] theorem ents_nil (uk : Bytes) : ents uk [] = [] := rfl
@[simp] theorem ents_cons (uk : Bytes) (p : Nat × Bytes) (ps : List (Nat × Bytes)) :
    ents uk (p :: ps) = (mkKey uk p.1, p.2) :: ents uk ps := rfl
@[simp] theorem ents_append (uk : Bytes) (a b : List (Nat × Bytes)) : ents uk (a ++ b) = ents uk a ++ ents uk b := by
  simp [ents]
@[simp] theorem ents_length (uk : Bytes) (ps : List (Nat × Bytes)) : (ents uk ps).length = ps.length := by simp [ents]
theorem G.entries_eq (g : G) : g.entries = ents g.uk g.es := rfl

theorem blt_prefixEnd_of_mem_ents {uk : Bytes} {ps : List (Nat × Bytes)} {a : Entry} (h : a ∈ ents uk ps) :
    blt a.1 (prefixEnd uk) = true := by
  obtain ⟨q, _, rfl⟩ := List.mem_map.mp h
  exact blt_prefixEnd (by simp [invVer_length])

/-- positioned at the head of `rest`, with `A` before it -/
def posAt (A rest : List Entry) : PCur := { rpre := A.reverse, post := rest, bof := false }

/-- positioned at the last entry of `A` (before-first when `A` is empty), `rest` after it -/
def posEnd (A rest : List Entry) : PCur :=
  match A.reverse with
  | [] => { rpre := [], post := rest, bof := true }
  | a :: r => { rpre := r, post := a :: rest, bof := false }

theorem posAt_cur (A : List Entry) (e : Entry) (rest : List Entry) : (posAt A (e :: rest)).cur? = some e := rfl
theorem posAt_cur_nil (A : List Entry) : (posAt A []).cur? = none := rfl
theorem posAt_next (A : List Entry) (e : Entry) (rest : List Entry) :
    (posAt A (e :: rest)).next = posAt (A ++ [e]) rest := by
  simp [posAt, PCur.next]

theorem posAt_prev_snoc (A : List Entry) (a : Entry) (rest : List Entry) :
    (posAt (A ++ [a]) rest).prev = posAt A (a :: rest) := by
  simp [posAt, PCur.prev]

theorem posAt_prev (A rest : List Entry) : (posAt A rest).prev = posEnd A rest := by
  cases hA : A.reverse with
  | nil => simp [posAt, PCur.prev, posEnd, hA]
  | cons a r => simp [posAt, PCur.prev, posEnd, hA]

theorem posEnd_nil (rest : List Entry) : posEnd [] rest = { rpre := [], post := rest, bof := true } := rfl

theorem posEnd_snoc (A : List Entry) (a : Entry) (rest : List Entry) :
    posEnd (A ++ [a]) rest = posAt A (a :: rest) := by
  simp [posEnd, posAt]

theorem posEnd_cur_snoc (A : List Entry) (a : Entry) (R : List Entry) : (posEnd (A ++ [a]) R).cur? = some a := by
  rw [posEnd_snoc]; rfl

theorem posEnd_prev_snoc (A : List Entry) (a : Entry) (R : List Entry) :
    (posEnd (A ++ [a]) R).prev = posEnd A (a :: R) := by
  rw [posEnd_snoc, posAt_prev]

theorem seekGE_split (A rest : List Entry) (t : Bytes) (hA : ∀ a ∈ A, blt a.1 t = true)
    (hr : ∀ x, rest.head? = some x → blt x.1 t = false) : PCur.seekGE (A ++ rest) t = posAt A rest := by
  have := takeWhile_append_stop (fun e : Entry => blt e.1 t) A rest hA hr
  simp [PCur.seekGE, posAt, this.1, this.2]

theorem seekLT_split (A rest : List Entry) (t : Bytes) (hA : ∀ a ∈ A, blt a.1 t = true)
    (hr : ∀ x, rest.head? = some x → blt x.1 t = false) : PCur.seekLT (A ++ rest) t = posEnd A rest := by
  have := takeWhile_append_stop (fun e : Entry => blt e.1 t) A rest hA hr
  unfold PCur.seekLT posEnd
  rw [this.1, this.2]
  cases hA' : A.reverse with
  | nil =>
    have : A = [] := by simpa using hA'
    subst this; rfl
  | cons a r => rfl

/-- `SeekGE(prefixEnd(userKey))` lands behind all versions of the key -/
theorem seekGE_prefixEnd_flat {a b : List G} {g : G} (hW : WFG (a ++ g :: b)) :
    PCur.seekGE (flat (a ++ g :: b)) (prefixEnd g.uk) = posAt (flat a ++ g.entries) (flat b) := by
  rw [flat_append, flat_cons, ← List.append_assoc]
  refine seekGE_split _ _ _ (fun x hx => ?_) fun x hx => blt_asymm (hW.after (List.mem_of_mem_head? hx) _)
  exact (List.mem_append.mp hx).elim (fun hx => hW.before hx _) blt_prefixEnd_of_mem_ents

/-- `SeekLT(userKey)` lands on the last entry before the versions of the key -/
theorem seekLT_uk_flat {a b : List G} {g : G} (hW : WFG (a ++ g :: b)) :
    PCur.seekLT (flat (a ++ g :: b)) g.uk = posEnd (flat a) (g.entries ++ flat b) := by
  rw [flat_append, flat_cons]
  refine seekLT_split _ _ _ (fun x hx => by simpa using hW.before hx []) fun x hx => ?_
  obtain ⟨p, ps, hp⟩ := List.exists_cons_of_ne_nil hW.mid.es_ne
  rw [G.entries_eq, hp] at hx
  cases hx
  apply blt_asymm
  show blt g.uk (g.uk ++ invVer p.1) = true
  rw [blt_append_self]; rfl

/-- `SeekGE(userKey ++ ^v)` lands on the newest version ≤ `v` of the key, or behind its versions -/
theorem seekGE_mkKey_flat {a b : List G} {g : G} (hW : WFG (a ++ g :: b)) {v : Nat} (hvm : v ≤ maxVer)
    {es1 rest : List (Nat × Bytes)} (hes : g.es = es1 ++ rest) (hes1 : ∀ p ∈ es1, v < p.1 ∧ p.1 ≤ maxVer)
    (hrest : ∀ p ∈ rest, p.1 ≤ v ∧ p.1 ≤ maxVer) :
    PCur.seekGE (flat (a ++ g :: b)) (mkKey g.uk v) = posAt (flat a ++ ents g.uk es1) (ents g.uk rest ++ flat b) := by
  have hfl : flat (a ++ g :: b) = (flat a ++ ents g.uk es1) ++ (ents g.uk rest ++ flat b) := by
    rw [flat_append, flat_cons, G.entries_eq, hes, ents_append]
    simp only [List.append_assoc]
  rw [hfl]
  apply seekGE_split
  · intro x hx
    rcases List.mem_append.mp hx with hx | hx
    · exact hW.before hx _
    · obtain ⟨p, hp, rfl⟩ := List.mem_map.mp hx
      rw [blt_mkKey_same g.uk (hes1 p hp).2 hvm]
      exact decide_eq_true (hes1 p hp).1
  · cases rest with
    | nil => exact fun x hx => blt_asymm (hW.after (List.mem_of_mem_head? hx) _)
    | cons q rest2 =>
      intro x hx
      cases hx
      have hq := hrest q List.mem_cons_self
      rw [blt_mkKey_same g.uk hq.2 hvm]
      exact decide_eq_false (Nat.not_lt_of_le hq.1)

/-- reset of the output fields at the top of `advanceToNextKey` -/
def VIt.clr (it : VIt) : VIt := { it with isValid := false, key := [], value := [] }

@[simp] theorem VIt.clr_clr (it : VIt) : it.clr.clr = it.clr := rfl
@[simp] theorem VIt.clr_cur (it : VIt) : it.clr.cur = it.cur := rfl
@[simp] theorem VIt.clr_last (it : VIt) : it.clr.last = it.last := rfl
@[simp] theorem VIt.clr_version (it : VIt) : it.clr.version = it.version := rfl
@[simp] theorem VIt.clr_all (it : VIt) : it.clr.all = it.all := rfl
@[simp] theorem VIt.clr_reverse (it : VIt) : it.clr.reverse = it.reverse := rfl
@[simp] theorem VIt.clr_seek (it : VIt) : it.clr.seek = it.seek := rfl
@[simp] theorem VIt.clr_snp (it : VIt) : it.clr.snp = it.snp := rfl
@[simp] theorem VIt.clr_vbuf (it : VIt) : it.clr.vbuf = it.vbuf := rfl
@[simp] theorem VIt.clr_isValid (it : VIt) : it.clr.isValid = false := rfl

def VIt.setCur (it : VIt) (c : PCur) : VIt := { it with cur := c }

@[simp] theorem VIt.setCur_cur (it : VIt) (c : PCur) : (it.setCur c).cur = c := rfl
@[simp] theorem VIt.setCur_last (it : VIt) (c : PCur) : (it.setCur c).last = it.last := rfl
@[simp] theorem VIt.setCur_version (it : VIt) (c : PCur) : (it.setCur c).version = it.version := rfl
@[simp] theorem VIt.setCur_all (it : VIt) (c : PCur) : (it.setCur c).all = it.all := rfl
@[simp] theorem VIt.setCur_reverse (it : VIt) (c : PCur) : (it.setCur c).reverse = it.reverse := rfl
@[simp] theorem VIt.setCur_seek (it : VIt) (c : PCur) : (it.setCur c).seek = it.seek := rfl
@[simp] theorem VIt.setCur_snp (it : VIt) (c : PCur) : (it.setCur c).snp = it.snp := rfl
@[simp] theorem VIt.setCur_vbuf (it : VIt) (c : PCur) : (it.setCur c).vbuf = it.vbuf := rfl
@[simp] theorem VIt.setCur_setCur (it : VIt) (c d : PCur) : (it.setCur c).setCur d = it.setCur d := rfl
theorem VIt.setCur_self (it : VIt) (c : PCur) (h : it.cur = c) : it.setCur c = it := by
  subst h; rfl

def VIt.setSnp (it : VIt) (b : Bool) : VIt := { it with snp := b }

@[simp] theorem VIt.setSnp_cur (it : VIt) (b : Bool) : (it.setSnp b).cur = it.cur := rfl
@[simp] theorem VIt.setSnp_last (it : VIt) (b : Bool) : (it.setSnp b).last = it.last := rfl
@[simp] theorem VIt.setSnp_version (it : VIt) (b : Bool) : (it.setSnp b).version = it.version := rfl
@[simp] theorem VIt.setSnp_all (it : VIt) (b : Bool) : (it.setSnp b).all = it.all := rfl
@[simp] theorem VIt.setSnp_reverse (it : VIt) (b : Bool) : (it.setSnp b).reverse = it.reverse := rfl
@[simp] theorem VIt.setSnp_seek (it : VIt) (b : Bool) : (it.setSnp b).seek = it.seek := rfl
@[simp] theorem VIt.setSnp_snp (it : VIt) (b : Bool) : (it.setSnp b).snp = b := rfl
@[simp] theorem VIt.setCur_setSnp_snp (it : VIt) (c : PCur) (b : Bool) : ((it.setCur c).setSnp b).snp = b := rfl
theorem VIt.setSnp_self (it : VIt) (b : Bool) (h : it.snp = b) : it.setSnp b = it := by subst h; rfl

def VIt.setLV (it : VIt) (uk vb : Bytes) : VIt := { it with last := some uk, vbuf := vb }

/-- `step` away from the seek shortcut (linear strategy, no key decided yet, the cursor exhausted or not
on the decided key): one `Next()`/`Prev()`, in reverse held back once by `shouldNotPrev` -/
theorem VIt.step_normal (it : VIt)
    (h : it.seek = false ∨ it.last = none ∨ it.cur.cur? = none ∨
      (∃ e ck, it.cur.cur? = some e ∧ userKeyOf? e.1 = some ck ∧ it.last ≠ some ck)) :
    it.step = if it.reverse then (if it.snp then it.setSnp false else it.setCur it.cur.prev)
      else it.setCur it.cur.next := by
  rcases it with ⟨all, cur, version, reverse, seek, last, vbuf, snp, isValid, key, value⟩
  cases seek with
  | false => rfl
  | true =>
    rcases h with h | h | h | ⟨e, ck, he, hk, hl⟩
    · cases h
    · subst h
      simp only [VIt.step]
      cases cur.cur? <;> rfl
    · simp only [VIt.step, h]
      rfl
    · simp only [VIt.step, he]
      cases last with
      | none => rfl
      | some L =>
        simp only [hk]
        rw [if_pos trivial, if_neg (by intro h; exact hl (by rw [h]))]
        rfl

/-- `step` under the seek strategy with the cursor on the decided key: one seek past all its versions -/
theorem VIt.step_seek (it : VIt) (hs : it.seek = true) (e : Entry) (L : Bytes)
    (hc : it.cur.cur? = some e) (hk : userKeyOf? e.1 = some L) (hl : it.last = some L) :
    it.step = it.setCur (if it.reverse then PCur.seekLT it.all L else PCur.seekGE it.all (prefixEnd L)) := by
  rcases it with ⟨all, cur, version, reverse, seek, last, vbuf, snp, isValid, key, value⟩
  simp only at hs hc hl
  subst hs hl
  simp only [VIt.step, VIt.setCur, hc, hk]
  cases reverse <;> rfl

/-- `step` under the seek strategy on a key with no user key before the version (`parseVersionedKey`
fails with `ErrInvalidKey`): the iterator is only invalidated and the cursor stays, so the loop of
`advanceToNextKey` does not get past such a key. A well-formed key space (`WFG`) has none. -/
theorem VIt.step_badKey (it : VIt) (hs : it.seek = true) (e : Entry) (L : Bytes)
    (hc : it.cur.cur? = some e) (hk : userKeyOf? e.1 = none) (hl : it.last = some L) :
    it.step = { it with isValid := false } := by
  cases it
  simp only at hs hc hl
  subst hs hl
  simp only [VIt.step, hc, hk]
  rfl

/-- the linear rewind walks back over the versions ≤ `v` of the key (`W`, newest first) and keeps the
value of the newest of them -/
theorem rewindLin_walk (v : Nat) (uk : Bytes) (huk : uk ≠ []) :
    ∀ (W : List (Nat × Bytes)) (X post : List Entry) (vbuf : Bytes) (snp : Bool),
      (∀ q ∈ W, q.1 ≤ v ∧ q.1 ≤ maxVer) →
      rewindLin v uk (X ++ ents uk W).reverse post vbuf snp =
        rewindLin v uk X.reverse (ents uk W ++ post) ((W.head?.map (·.2)).getD vbuf)
          (if W = [] then snp else true) := by
  intro W
  induction W with
  | nil =>
    intro X post vbuf snp _
    simp
  | cons w W ih =>
    intro X post vbuf snp hW
    have hw := hW w List.mem_cons_self
    -- the versions behind `w` first (with `w` moved to the left part), then `w` itself
    rw [ents_cons, List.append_cons, ih (X ++ [(mkKey uk w.1, w.2)]) post vbuf snp
        (fun q hq => hW q (List.mem_cons_of_mem _ hq)),
      List.reverse_append, List.reverse_singleton, List.singleton_append, rewindLin,
      if_neg (by rw [versionOf_mkKey _ hw.2]; exact Nat.not_lt_of_le hw.1),
      if_neg (by rw [userKeyOf_mkKey _ huk]; simp)]
    simp

/-- the linear rewind stops on an entry that is newer than `v` or of another key, or exhausted -/
theorem rewindLin_stop (v : Nat) (uk : Bytes) (A' post : List Entry) (vbuf : Bytes) (snp : Bool)
    (hstop : ∀ a, A'.getLast? = some a → versionOf a.1 > v ∨ userKeyOf? a.1 ≠ some uk) :
    rewindLin v uk A'.reverse post vbuf snp = (posEnd A' post, vbuf, if A' = [] then snp else true) := by
  by_cases hA : A' = []
  · subst hA
    rfl
  · obtain ⟨L, a, rfl⟩ := exists_snoc A' hA
    rw [if_neg hA, List.reverse_append, List.reverse_singleton, List.singleton_append, posEnd_snoc, rewindLin]
    -- both stopping tests of the loop body leave the same state
    rcases hstop a (by simp) with hs | hs
    · rw [if_pos hs]; rfl
    · rw [if_pos hs, ite_self]; rfl

theorem VIt.advance_clr (f : Nat) (it : VIt) : VIt.advance f it.clr = VIt.advance f it := by
  cases f <;> rfl

/-- the state right after a new user key has been found and (in reverse mode) rewound -/
def VIt.found (it : VIt) (e : Entry) (uk : Bytes) : VIt :=
  let it1 : VIt := { it.clr with last := some uk, vbuf := e.2 }
  if it1.reverse then it1.rewind uk else it1

theorem VIt.found_fwd (it : VIt) (e : Entry) (uk : Bytes) (hr : it.reverse = false) :
    it.found e uk = it.clr.setLV uk e.2 := by
  cases it
  simp only at hr
  subst hr
  rfl

/-- one round of the loop of `advanceToNextKey` -/
theorem VIt.advance_succ (f : Nat) (it : VIt) :
    VIt.advance (f + 1) it =
      match it.cur.cur? with
      | none => it.clr
      | some e =>
        if versionOf e.1 > it.version then VIt.advance f it.clr.step
        else match userKeyOf? e.1 with
          | none => VIt.advance f it.clr.step
          | some uk =>
            if it.last = some uk then VIt.advance f it.clr.step
            else if (parseVal (it.found e uk).vbuf).1 = deadTomb then VIt.advance f (it.found e uk).step
            else { it.found e uk with key := uk, value := (parseVal (it.found e uk).vbuf).2, isValid := true } := rfl

theorem VIt.advance_none (f : Nat) (it : VIt) (h : it.cur.cur? = none) : VIt.advance (f + 1) it = it.clr := by
  rw [VIt.advance_succ, h]

theorem VIt.advance_skip (f : Nat) (it : VIt) (e : Entry) (h : it.cur.cur? = some e)
    (hs : versionOf e.1 > it.version ∨ userKeyOf? e.1 = none ∨ it.last = userKeyOf? e.1) :
    VIt.advance (f + 1) it = VIt.advance f it.clr.step := by
  rw [VIt.advance_succ, h]
  dsimp only
  by_cases hv : versionOf e.1 > it.version
  · rw [if_pos hv]
  · rw [if_neg hv]
    cases huk : userKeyOf? e.1 with
    | none => rfl
    | some uk =>
      rcases hs with hs | hs | hs
      · exact absurd hs hv
      · rw [huk] at hs; cases hs
      · rw [huk] at hs
        dsimp only
        rw [if_pos hs]

/-- a round that passes the entry at the cursor (too new, or of the key just decided) by one
`Next()`/`Prev()`, away from the seek shortcut -/
theorem VIt.advance_pass (f : Nat) (it : VIt) (e : Entry) (uk : Bytes) (hc : it.cur.cur? = some e)
    (hk : userKeyOf? e.1 = some uk) (hskip : versionOf e.1 > it.version ∨ it.last = some uk)
    (hnorm : it.seek = false ∨ it.last ≠ some uk) :
    VIt.advance (f + 1) it = VIt.advance f (if it.reverse then
      (if it.snp then it.setSnp false else it.setCur it.cur.prev) else it.setCur it.cur.next) := by
  -- the cleared output fields play no part in `step`, nor in the rounds that follow
  rw [VIt.advance_skip f it e hc (hskip.imp_right fun hl => Or.inr (hl.trans hk.symm)),
    VIt.step_normal it.clr (hnorm.imp_right fun hl => Or.inr (Or.inr ⟨e, uk, hc, hk, hl⟩))]
  refine Eq.trans ?_ (VIt.advance_clr f _)
  rw [apply_ite VIt.clr, apply_ite VIt.clr]
  rfl

theorem VIt.advance_new (f : Nat) (it : VIt) (e : Entry) (uk : Bytes) (h : it.cur.cur? = some e)
    (hv : versionOf e.1 ≤ it.version) (huk : userKeyOf? e.1 = some uk) (hl : it.last ≠ some uk) :
    VIt.advance (f + 1) it =
      if (parseVal (it.found e uk).vbuf).1 = deadTomb then VIt.advance f (it.found e uk).step
      else { it.found e uk with key := uk, value := (parseVal (it.found e uk).vbuf).2, isValid := true } := by
  rw [VIt.advance_succ, h]
  dsimp only
  rw [if_neg (Nat.not_lt_of_le hv)]
  simp only [huk]
  rw [if_neg hl]

theorem VIt.collect_succ (n : Nat) (it : VIt) :
    VIt.collect (n + 1) it =
      if it.isValid then (it.key, it.value) :: VIt.collect n (it.advance (iterFuel it.all)) else [] := rfl

/-- the loop `for ; it.Valid(); it.Next()`, entered through `advanceToNextKey` on `it`, collects `out`
whenever this first search is given at least `c` rounds. `c` is an upper bound, so the strategies
share one count and a result for few rounds holds for more. -/
def Yields (c : Nat) (it : VIt) (out : List (Bytes × Bytes)) : Prop :=
  ∀ f n, c ≤ f → out.length < n → (it.advance f).collect n = out

theorem Yields.mono {c c' : Nat} {it : VIt} {out : List (Bytes × Bytes)} (h : Yields c it out) (hc : c ≤ c') :
    Yields c' it out :=
  fun f n hf hn => h f n (Nat.le_trans hc hf) hn

theorem Yields.nil {it : VIt} (h : it.cur.cur? = none) : Yields 1 it [] := by
  intro f n hf hn
  obtain ⟨f, rfl⟩ := Nat.exists_eq_add_of_le' hf
  obtain ⟨n, rfl⟩ := Nat.exists_eq_add_of_le' hn
  rw [VIt.advance_none f it h]
  rfl

/-- `k` rounds of the search lead from `it` to `it'` -/
theorem Yields.step {k c : Nat} {it it' : VIt} {out : List (Bytes × Bytes)}
    (h : ∀ f, VIt.advance (f + k) it = VIt.advance f it') (hy : Yields c it' out) : Yields (c + k) it out := by
  intro f n hf hn
  obtain ⟨f, rfl⟩ := Nat.exists_eq_add_of_le' (Nat.le_of_add_left_le hf)
  rw [h f]
  exact hy f n (Nat.le_of_add_le_add_right hf) hn

/-- a new user key at the cursor, decided in state `D`: behind a tombstone the search goes on from
`D.step`; otherwise the loop takes the value and calls `advanceToNextKey` on `D` again -/
theorem Yields.decide {c c' : Nat} {it D : VIt} {e : Entry} {uk : Bytes} {out : List (Bytes × Bytes)}
    (h : it.cur.cur? = some e) (hv : versionOf e.1 ≤ it.version) (huk : userKeyOf? e.1 = some uk)
    (hl : it.last ≠ some uk) (hD : it.found e uk = D)
    (hy : Yields c D.step out) (hre : Yields c' D out) (hc' : c' ≤ iterFuel D.all) :
    Yields (c + 1) it (((emit D.vbuf).map fun x => (uk, x)).toList ++ out) := by
  intro f n hf hn
  obtain ⟨f, rfl⟩ := Nat.exists_eq_add_of_le' (Nat.le_of_add_left_le hf)
  obtain ⟨n, rfl⟩ := Nat.exists_eq_add_of_le' (Nat.succ_le_of_lt (Nat.zero_lt_of_lt hn))
  subst hD
  rw [VIt.advance_new f it e uk h hv huk hl]
  unfold emit at hn ⊢
  by_cases hd : (parseVal (it.found e uk).vbuf).1 = deadTomb
  · rw [if_pos hd] at hn ⊢
    rw [if_pos hd]
    exact hy f (n + 1) (Nat.le_of_add_le_add_right hf) hn
  · rw [if_neg hd] at hn ⊢
    rw [if_neg hd, VIt.collect_succ, if_pos rfl]
    -- the state handed out differs from the decided one in the output fields only
    refine congrArg (List.cons _) ((congrArg (VIt.collect n) ?_).trans (hre _ n hc' (Nat.lt_of_succ_lt_succ hn)))
    exact (VIt.advance_clr _ _).symm.trans (VIt.advance_clr _ (it.found e uk))

/-- loop head of the forward strategies: on the first entry of `R`, with `A` behind -/
structure FwdHead (v : Nat) (it : VIt) (A R : List Entry) : Prop where
  cur : it.cur = posAt A R
  all : it.all = A ++ R
  fwd : it.reverse = false
  ver : it.version = v

/-- forward, a run of entries of one user key that are passed one `Next()` at a time: versions newer
than the read version, or (linear strategy) the remaining versions of the key just decided -/
theorem fwd_skip (v : Nat) (uk : Bytes) (huk : uk ≠ []) :
    ∀ (ps : List (Nat × Bytes)) (A R : List Entry) (it : VIt) (f : Nat),
      it.cur = posAt A (ents uk ps ++ R) → it.reverse = false → it.version = v →
      ((∀ p ∈ ps, v < p.1 ∧ p.1 ≤ maxVer) ∨ it.last = some uk) → (it.seek = false ∨ it.last ≠ some uk) →
      VIt.advance (f + ps.length) it = VIt.advance f (it.setCur (posAt (A ++ ents uk ps) R)) := by
  intro ps
  induction ps with
  | nil =>
    intro A R it f hc _ _ _ _
    simp only [ents_nil, List.append_nil, List.nil_append, List.length_nil, Nat.add_zero] at hc ⊢
    rw [VIt.setCur_self it _ hc]
  | cons p ps ih =>
    intro A R it f hc hr hv hw hn
    have hcur : it.cur.cur? = some (mkKey uk p.1, p.2) := by rw [hc]; rfl
    have hskip : versionOf (mkKey uk p.1) > it.version ∨ it.last = some uk :=
      hw.imp_left fun hp => by
        have hp1 := hp p List.mem_cons_self
        rw [versionOf_mkKey _ hp1.2, hv]; exact hp1.1
    rw [List.length_cons, ← Nat.add_assoc, VIt.advance_pass _ it _ uk hcur (userKeyOf_mkKey _ huk) hskip hn,
      hr, if_neg Bool.false_ne_true, hc, ents_cons, List.cons_append, posAt_next,
      ih (A ++ [(mkKey uk p.1, p.2)]) R (it.setCur (posAt (A ++ [(mkKey uk p.1, p.2)]) (ents uk ps ++ R))) f rfl hr hv
        (hw.imp_left fun h q hq => h q (List.mem_cons_of_mem _ hq)) hn]
    simp [List.append_assoc]

/-- forward, one group: from the loop head on its first entry to the loop head behind it; what is
collected on the way is what a reader at `v` sees of the group -/
theorem fwd_group (v : Nat) {a b : List G} {g : G} (hW : WFG (a ++ g :: b)) (it : VIt)
    (h : FwdHead v it (flat a) (g.entries ++ flat b)) (hl : it.last ≠ some g.uk) {out : List (Bytes × Bytes)}
    (hk : ∀ it', FwdHead v it' (flat a ++ g.entries) (flat b) → (it'.last = it.last ∨ it'.last = some g.uk) →
      Yields ((flat b).length + 1) it' out) :
    Yields ((g.entries ++ flat b).length + 1) it ((g.pick v).toList ++ out) := by
  have hg := hW.mid
  obtain ⟨es1, rest, hes, hes1, hrest, hfind⟩ := hg.split v
  have hent : g.entries = ents g.uk es1 ++ ents g.uk rest := by rw [G.entries_eq, hes, ents_append]
  have hall : it.all = flat (a ++ g :: b) := by rw [h.all, flat_append, flat_cons]
  rw [G.pick, hfind]
  rw [hent, List.append_assoc] at h
  -- first the versions newer than `v`, to a loop head inside the group
  let it1 := it.setCur (posAt (flat a ++ ents g.uk es1) (ents g.uk rest ++ flat b))
  have h1 : FwdHead v it1 (flat a ++ ents g.uk es1) (ents g.uk rest ++ flat b) :=
    ⟨rfl, h.all.trans (List.append_assoc _ _ _).symm, h.fwd, h.ver⟩
  have hskip := fun f => fwd_skip v g.uk hg.uk_ne es1 (flat a) (ents g.uk rest ++ flat b) it f h.cur h.fwd h.ver
    (Or.inl hes1) (Or.inr hl)
  refine (Yields.step (c := (flat b).length + 1 + rest.length) hskip ?_).mono
    (by simp only [hent, List.length_append, ents_length]; omega)
  cases rest with
  | nil =>
    rw [ents_nil, List.append_nil] at hent
    exact hk it1 (by rw [hent]; exact h1) (Or.inl rfl)
  | cons p es2 =>
    have hp := hrest p List.mem_cons_self
    let D : VIt := it1.clr.setLV g.uk p.2
    have hD : FwdHead v D (flat a ++ ents g.uk es1) (ents g.uk (p :: es2) ++ flat b) := ⟨rfl, h1.all, h.fwd, h.ver⟩
    have hkey : userKeyOf? (mkKey g.uk p.1) = some g.uk := userKeyOf_mkKey _ hg.uk_ne
    -- past the remaining versions of the key: one by one, or by one `SeekGE(prefixEnd(userKey))`
    have hafter : Yields ((flat b).length + 1 + es2.length) D.step out := by
      have hDl : D.last = some g.uk := rfl
      have hy := hk (D.setCur (posAt (flat a ++ g.entries) (flat b)))
        ⟨rfl, hall.trans (by rw [flat_append, flat_cons, List.append_assoc]), hD.fwd, hD.ver⟩ (Or.inr hDl)
      cases hs : D.seek with
      | false =>
        refine Yields.step (fun f => ?_) hy
        rw [VIt.step_normal D (Or.inl hs), hD.fwd, if_neg Bool.false_ne_true, hD.cur, ents_cons, List.cons_append,
          posAt_next, fwd_skip v g.uk hg.uk_ne es2 (flat a ++ ents g.uk es1 ++ [(mkKey g.uk p.1, p.2)]) (flat b)
            (D.setCur (posAt (flat a ++ ents g.uk es1 ++ [(mkKey g.uk p.1, p.2)]) (ents g.uk es2 ++ flat b))) f rfl hD.fwd hD.ver
            (Or.inr hDl) (Or.inl hs), hent]
        simp [List.append_assoc]
      | true =>
        refine Yields.mono ?_ (Nat.le_add_right _ _)
        rwa [VIt.step_seek D hs (mkKey g.uk p.1, p.2) g.uk rfl hkey hDl, hD.fwd, if_neg Bool.false_ne_true, show D.all = _ from hall,
          seekGE_prefixEnd_flat hW]
    -- the call after a value has been handed out re-examines the decided entry and skips it by key
    have hre : Yields ((flat b).length + 1 + es2.length + 1) D out :=
      Yields.step (fun f => VIt.advance_skip f D (mkKey g.uk p.1, p.2) rfl (Or.inr (Or.inr hkey.symm))) hafter
    have hfuel : (flat b).length + 1 + es2.length + 1 ≤ iterFuel D.all := by
      rw [hD.all]; simp only [iterFuel, List.length_append, ents_length, List.length_cons]; omega
    simp only [List.head?_cons]
    exact Yields.decide (it := it1) (D := D) rfl (by rw [versionOf_mkKey _ hp.2]; exact h.ver ▸ hp.1)
      hkey hl (VIt.found_fwd it1 _ _ h.fwd) hafter hre hfuel

/-- **forward strategies** (linear and seek): one entry per user-key group, in order -/
theorem fwd_main (v : Nat) : ∀ (gs gsA : List G) (it : VIt),
    WFG (gsA ++ gs) → FwdHead v it (flat gsA) (flat gs) → (∀ g ∈ gs, it.last ≠ some g.uk) →
    Yields ((flat gs).length + 1) it (gs.filterMap (G.pick v)) := by
  intro gs
  induction gs with
  | nil =>
    intro gsA it _ h _
    exact Yields.nil (by rw [h.cur]; rfl)
  | cons g gs ih =>
    intro gsA it hW h hl
    rw [flat_cons] at h ⊢
    rw [filterMap_cons_toList]
    exact fwd_group v hW it h (hl g List.mem_cons_self)
      (fun it' h' hl' => ih (gsA ++ [g]) it' (by simpa using hW) (by simpa using h')
        (fun x hx => by
          rcases hl' with e | e
          · rw [e]; exact hl x (List.mem_cons_of_mem _ hx)
          · rw [e]; exact fun hh => hW.uk_ne_of_mem.2 x hx (Option.some.inj hh).symm))

/-- loop head of the reverse strategies (`sk` = the seek strategy): on the last entry of `A`; under
the seek strategy `shouldNotPrev` is never pending -/
structure RevHead (v : Nat) (sk : Bool) (it : VIt) (A R : List Entry) : Prop where
  cur : it.cur = posEnd A R
  all : it.all = A ++ R
  rev : it.reverse = true
  ver : it.version = v
  seek : it.seek = sk
  snp : sk = true → it.snp = false

theorem RevHead.setCur {v : Nat} {sk : Bool} {it : VIt} {A R : List Entry} (h : RevHead v sk it A R)
    {A' R' : List Entry} (hAR : A ++ R = A' ++ R') : RevHead v sk (it.setCur (posEnd A' R')) A' R' :=
  ⟨rfl, h.all.trans hAR, h.rev, h.ver, h.seek, h.snp⟩

theorem RevHead.setSnp {v : Nat} {sk : Bool} {it : VIt} {A R : List Entry} (h : RevHead v sk it A R)
    {b : Bool} (hb : sk = true → b = false) : RevHead v sk (it.setSnp b) A R :=
  ⟨h.cur, h.all, h.rev, h.ver, h.seek, hb⟩

theorem RevHead.decided {v : Nat} {sk : Bool} {it : VIt} {A R : List Entry} (h : RevHead v sk it A R)
    (uk vb : Bytes) : RevHead v sk (it.clr.setLV uk vb) A R :=
  ⟨h.cur, h.all, h.rev, h.ver, h.seek, h.snp⟩

/-- reverse linear: the `step` that follows a decision only spends `shouldNotPrev`, which holds the
cursor in place, unless nothing lies before it and it is exhausted anyway -/
theorem RevHead.step_lin {v : Nat} {it : VIt} {A R : List Entry} (h : RevHead v false it A R)
    (hsnp : it.snp = true ∨ A = []) : it.step = it.setSnp false := by
  rw [VIt.step_normal it (Or.inl h.seek), h.rev, if_pos rfl]
  cases hsn : it.snp with
  | true => rfl
  | false =>
    have hA := hsnp.resolve_left (by rw [hsn]; exact Bool.false_ne_true)
    subst hA
    have hprev : it.cur.prev = it.cur := by rw [h.cur]; rfl
    rw [if_neg Bool.false_ne_true, hprev, VIt.setCur_self it _ rfl, VIt.setSnp_self it _ hsn]

/-- reverse, loop head on an entry newer than `v`: it is passed by one `Prev()`, after one more round
when `shouldNotPrev` is pending -/
theorem rev_pass {v : Nat} {sk : Bool} {uk : Bytes} (huk : uk ≠ []) {p : Nat × Bytes} {A R : List Entry}
    {it : VIt} (h : RevHead v sk it (A ++ [(mkKey uk p.1, p.2)]) R) (hp : v < p.1 ∧ p.1 ≤ maxVer)
    (hl : sk = false ∨ it.last ≠ some uk) {c : Nat} {out : List (Bytes × Bytes)}
    (hk : ∀ it', RevHead v sk it' A ((mkKey uk p.1, p.2) :: R) → it'.last = it.last → Yields c it' out) :
    Yields (c + 2) it out := by
  have hpass : ∀ s : VIt, RevHead v sk s (A ++ [(mkKey uk p.1, p.2)]) R → s.last = it.last → ∀ f,
      VIt.advance (f + 1) s = VIt.advance f (if s.snp then s.setSnp false
        else s.setCur (posEnd A ((mkKey uk p.1, p.2) :: R))) := by
    intro s hs hls f
    rw [VIt.advance_pass f s (mkKey uk p.1, p.2) uk (by rw [hs.cur]; exact posEnd_cur_snoc _ _ _)
      (userKeyOf_mkKey p.1 huk) (Or.inl (by rw [versionOf_mkKey _ hp.2, hs.ver]; exact hp.1))
      (by rw [hs.seek, hls]; exact hl), hs.rev, if_pos rfl, hs.cur, posEnd_prev_snoc]
  have hfalse : ∀ s : VIt, RevHead v sk s (A ++ [(mkKey uk p.1, p.2)]) R → s.snp = false → s.last = it.last →
      Yields (c + 1) s out := by
    intro s hs hsnp hls
    refine Yields.step (fun f => ?_) (hk _ (hs.setCur (List.append_assoc _ _ _)) hls)
    rw [hpass s hs hls f, hsnp, if_neg Bool.false_ne_true]
  cases hsnp : it.snp with
  | false => exact (hfalse it h hsnp rfl).mono (Nat.le_succ _)
  | true =>
    -- the pending `shouldNotPrev` holds the cursor in place for one round
    refine Yields.step (k := 1) (c := c + 1) (fun f => ?_)
      (hfalse (it.setSnp false) (h.setSnp fun _ => rfl) rfl rfl)
    rw [hpass it h rfl f, hsnp, if_pos rfl]

/-- reverse, loop head behind a run of entries newer than `v`: they are passed one by one, the last first -/
theorem rev_skip {v : Nat} {sk : Bool} {uk : Bytes} (huk : uk ≠ []) {out : List (Bytes × Bytes)}
    {ps : List (Nat × Bytes)} : ∀ {A R : List Entry} {it : VIt} {c : Nat},
    RevHead v sk it (A ++ ents uk ps) R → (∀ p ∈ ps, v < p.1 ∧ p.1 ≤ maxVer) →
    (sk = false ∨ it.last ≠ some uk) →
    (∀ it', RevHead v sk it' A (ents uk ps ++ R) → it'.last = it.last → Yields c it' out) →
    Yields (c + 2 * ps.length) it out := by
  induction ps with
  | nil =>
    intro A R it c h _ _ hk
    exact hk it (by rw [ents_nil, List.append_nil] at h; exact h) rfl
  | cons p ps ih =>
    intro A R it c h hp hl hk
    -- first the versions behind `p` (with `p` moved to the left part), then `p` itself
    refine (ih (A := A ++ [(mkKey uk p.1, p.2)]) (c := c + 2) (by rw [List.append_assoc]; exact h)
      (fun q hq => hp q (List.mem_cons_of_mem _ hq)) hl fun it' h' hl' => ?_).mono
      (by rw [List.length_cons]; omega)
    exact rev_pass huk h' (hp p List.mem_cons_self) (hl' ▸ hl) fun it'' h'' hl'' => hk it'' h'' (hl''.trans hl')

/-- reverse linear: the state after `rewindToLatestVersion` from the oldest version `pn` of the key: on
the entry before the newest version ≤ `v`, which is `q`, with `shouldNotPrev` set by the walk -/
theorem rev_found_lin (v : Nat) (uk : Bytes) (huk : uk ≠ []) (it : VIt) (A' B : List Entry)
    (q : Nat × Bytes) (rest2 rest' : List (Nat × Bytes)) (pn : Nat × Bytes) (hrp : q :: rest2 = rest' ++ [pn])
    (hc : it.cur = posAt (A' ++ ents uk rest') ((mkKey uk pn.1, pn.2) :: B))
    (hr : it.reverse = true) (hs : it.seek = false) (hv : it.version = v)
    (hq : ∀ p ∈ q :: rest2, p.1 ≤ v ∧ p.1 ≤ maxVer)
    (hstop : ∀ a, A'.getLast? = some a → versionOf a.1 > v ∨ userKeyOf? a.1 ≠ some uk) :
    it.found (mkKey uk pn.1, pn.2) uk =
      ((it.clr.setLV uk q.2).setCur (posEnd A' (ents uk (q :: rest2) ++ B))).setSnp
        (if A' = [] then (if rest' = [] then it.snp else true) else true) := by
  have hwalk := rewindLin_walk v uk huk rest' A' ((mkKey uk pn.1, pn.2) :: B) pn.2 it.snp
    (fun p hp => hq p (by rw [hrp]; exact List.mem_append_left _ hp))
  have hqv : (rest'.head?.map (·.2)).getD pn.2 = q.2 := by
    cases rest' with
    | nil => cases hrp; rfl
    | cons y ys => cases hrp; rfl
  have hR : ents uk rest' ++ (mkKey uk pn.1, pn.2) :: B = ents uk (q :: rest2) ++ B := by rw [hrp]; simp
  rw [rewindLin_stop v uk A' _ _ _ hstop, hqv, hR] at hwalk
  cases it
  simp only at hc hr hs hv hwalk
  subst hc hr hs hv
  simp only [VIt.found, VIt.clr, VIt.rewind, posAt, Bool.false_eq_true, if_false, if_true, hwalk]
  rfl

/-- reverse seek: the state after `rewindToLatestVersion` (`SeekGE(userKey ++ ^version)`) -/
theorem rev_found_seek {v : Nat} (hvm : v ≤ maxVer) {a b : List G} {g : G} (hW : WFG (a ++ g :: b))
    {es1 rest2 : List (Nat × Bytes)} {q : Nat × Bytes} (hes : g.es = es1 ++ q :: rest2)
    (hes1 : ∀ p ∈ es1, v < p.1 ∧ p.1 ≤ maxVer) (hrest : ∀ p ∈ q :: rest2, p.1 ≤ v ∧ p.1 ≤ maxVer)
    (it : VIt) (e : Entry) (hall : it.all = flat (a ++ g :: b))
    (hr : it.reverse = true) (hs : it.seek = true) (hv : it.version = v) :
    it.found e g.uk =
      (it.clr.setLV g.uk q.2).setCur (posAt (flat a ++ ents g.uk es1) (ents g.uk (q :: rest2) ++ flat b)) := by
  have hseek := seekGE_mkKey_flat hW hvm hes hes1 hrest
  rw [← hall] at hseek
  cases it
  simp only at hr hs hv hseek
  subst hr hs hv
  simp only [VIt.found, VIt.clr, VIt.rewind, if_true, hseek]
  simp only [posAt, ents_cons, List.cons_append, PCur.cur?, Bool.false_eq_true, if_false, List.head?_cons,
    userKeyOf_mkKey _ hW.mid.uk_ne, ne_eq, not_true_eq_false]
  rfl

/-- reverse, one group: from the loop head on its last entry to the loop head on the last entry before
it; what is collected on the way is what a reader at `v` sees of the group -/
theorem rev_group (v : Nat) (hvm : v ≤ maxVer) (sk : Bool) {a b : List G} {g : G} (hW : WFG (a ++ g :: b))
    (it : VIt) (h : RevHead v sk it (flat a ++ g.entries) (flat b))
    (hl : it.last ≠ some g.uk) {c : Nat} {out : List (Bytes × Bytes)}
    (hf : c + 2 * g.entries.length ≤ iterFuel it.all)
    (hk : ∀ it', RevHead v sk it' (flat a) (g.entries ++ flat b) → (it'.last = it.last ∨ it'.last = some g.uk) →
      Yields c it' out) :
    Yields (c + 2 * g.entries.length) it ((g.pick v).toList ++ out) := by
  have huk := hW.mid.uk_ne
  obtain ⟨es1, rest, hes, hes1, hrest, hfind⟩ := hW.mid.split v
  rw [G.pick, hfind]
  cases rest with
  | nil =>
    -- the whole group is newer than v
    rw [List.append_nil] at hes
    rw [G.entries_eq, hes] at h hk ⊢
    rw [ents_length]
    exact rev_skip huk h hes1 (Or.inr hl) fun it' h' hl' => hk it' h' (Or.inl hl')
  | cons q rest2 =>
    -- the newest version ≤ `v` is `q`: the rewind finds it (walking back, or by `SeekGE(userKey ++ ^v)`),
    -- and the search resumes before the group
    simp only [List.head?_cons]
    have hc : c + 2 * es1.length + 2 ≤ c + 2 * g.entries.length := by
      rw [G.entries_eq, hes, ents_length, List.length_append, List.length_cons]; omega
    have hf' := Nat.le_trans hc hf
    refine Yields.mono ?_ hc
    have hent : g.entries = ents g.uk es1 ++ ents g.uk (q :: rest2) := by rw [G.entries_eq, hes, ents_append]
    obtain ⟨rest', pn, hrp⟩ := exists_snoc (q :: rest2) (List.cons_ne_nil _ _)
    have hpn := hrest pn (by rw [hrp]; simp)
    let en : Entry := (mkKey g.uk pn.1, pn.2)
    have hcn : it.cur = posAt ((flat a ++ ents g.uk es1) ++ ents g.uk rest') (en :: flat b) := by
      rw [h.cur, hent, hrp, ← posEnd_snoc]; simp [en, List.append_assoc]
    have hcur : it.cur.cur? = some en := by rw [hcn]; rfl
    have hver : versionOf en.1 ≤ it.version := by rw [versionOf_mkKey _ hpn.2, h.ver]; exact hpn.1
    have hAR : flat a ++ g.entries ++ flat b = (flat a ++ ents g.uk es1) ++ (ents g.uk (q :: rest2) ++ flat b) := by
      rw [hent]; simp only [List.append_assoc]
    cases sk with
    | false =>
      -- the rewind stops on the entry before the versions ≤ v: a newer version, or another key
      have hstop : ∀ x, (flat a ++ ents g.uk es1).getLast? = some x →
          versionOf x.1 > v ∨ userKeyOf? x.1 ≠ some g.uk := by
        intro x hx
        rcases List.mem_append.mp (List.mem_of_getLast? hx) with hm | hm
        · exact Or.inr (userKeyOf_ne_of_blt (hW.before hm))
        · obtain ⟨p1, hp1, rfl⟩ := List.mem_map.mp hm
          have := hes1 p1 hp1
          exact Or.inl (by rw [versionOf_mkKey _ this.2]; exact this.1)
      let s : Bool := if flat a ++ ents g.uk es1 = [] then (if rest' = [] then it.snp else true) else true
      let D : VIt :=
        ((it.clr.setLV g.uk q.2).setCur (posEnd (flat a ++ ents g.uk es1) (ents g.uk (q :: rest2) ++ flat b))).setSnp s
      have hD : it.found en g.uk = D :=
        rev_found_lin v g.uk huk it _ (flat b) q rest2 rest' pn hrp hcn h.rev h.seek h.ver hrest hstop
      -- after the rewind: a loop head again, behind the versions newer than `v`
      have hDh : RevHead v false D (flat a ++ ents g.uk es1) (ents g.uk (q :: rest2) ++ flat b) :=
        ((h.decided g.uk q.2).setCur hAR).setSnp fun hk => absurd hk Bool.false_ne_true
      have hk' : ∀ it', RevHead v false it' (flat a) (ents g.uk es1 ++ (ents g.uk (q :: rest2) ++ flat b)) →
          it'.last = some g.uk → Yields c it' out :=
        fun it' h' hl' => hk it' (by rw [hent, List.append_assoc]; exact h') (Or.inr hl')
      have hsD : D.snp = true ∨ flat a ++ ents g.uk es1 = [] := by
        by_cases hemp : flat a ++ ents g.uk es1 = []
        · exact Or.inr hemp
        · exact Or.inl (if_neg hemp)
      have hy : Yields (c + 2 * es1.length) D.step out := by
        rw [hDh.step_lin hsD]
        exact rev_skip huk (hDh.setSnp fun _ => rfl) hes1 (Or.inl rfl) hk'
      exact (Yields.decide hcur hver (userKeyOf_mkKey _ huk) hl hD hy
        (rev_skip huk hDh hes1 (Or.inl rfl) hk') (Nat.le_trans (Nat.le_add_right _ 2) hf')).mono (Nat.le_succ _)
    | true =>
      have hall : it.all = flat (a ++ g :: b) := by rw [h.all, flat_append, flat_cons, List.append_assoc]
      let D : VIt :=
        (it.clr.setLV g.uk q.2).setCur (posAt (flat a ++ ents g.uk es1) (ents g.uk (q :: rest2) ++ flat b))
      have hD : it.found en g.uk = D := rev_found_seek hvm hW hes hes1 hrest it en hall h.rev h.seek h.ver
      have hcurD : D.cur.cur? = some (mkKey g.uk q.1, q.2) := rfl
      have hkD : userKeyOf? (mkKey g.uk q.1) = some g.uk := userKeyOf_mkKey _ huk
      have hd := h.decided g.uk q.2
      -- `SeekLT(lastUserKey)` leaves the group
      have hy : Yields c D.step out := by
        rw [VIt.step_seek D hd.seek _ g.uk hcurD hkD rfl, show D.reverse = true from hd.rev, if_pos rfl,
          show D.all = flat (a ++ g :: b) from hall, seekLT_uk_flat hW]
        exact hk _ (hd.setCur (List.append_assoc _ _ _)) (Or.inr rfl)
      -- the call after a value has been handed out re-examines the decided entry and skips it by key
      have hre : Yields (c + 1) D out :=
        Yields.step (fun f => VIt.advance_skip f D _ hcurD (Or.inr (Or.inr hkD.symm))) hy
      have hc1 : c + 1 ≤ c + 2 * es1.length + 2 := Nat.add_le_add (Nat.le_add_right _ _) (Nat.le_succ 1)
      exact (Yields.decide hcur hver (userKeyOf_mkKey _ huk) hl hD hy hre (Nat.le_trans hc1 hf')).mono hc1

/-- **reverse strategies** (linear and seek): one entry per user-key group, last group first
(`gsr` = the groups still to visit, in visiting order) -/
theorem rev_main (v : Nat) (hvm : v ≤ maxVer) (sk : Bool) : ∀ (gsr gsB : List G) (it : VIt),
    WFG (gsr.reverse ++ gsB) → RevHead v sk it (flat gsr.reverse) (flat gsB) → (∀ g ∈ gsr, it.last ≠ some g.uk) →
    Yields (2 * (flat gsr.reverse).length + 1) it (gsr.filterMap (G.pick v)) := by
  intro gsr
  induction gsr with
  | nil =>
    intro gsB it _ h _
    exact Yields.nil (by rw [h.cur]; rfl)
  | cons g gsr ih =>
    intro gsB it hW h hl
    have hW0 : WFG (gsr.reverse ++ g :: gsB) := by simpa using hW
    have hfl : flat (g :: gsr).reverse = flat gsr.reverse ++ g.entries := by simp
    rw [hfl] at h ⊢
    rw [filterMap_cons_toList, List.length_append, Nat.mul_add, Nat.add_right_comm]
    exact rev_group v hvm sk hW0 it h (hl g List.mem_cons_self)
      (by rw [h.all, iterFuel]; simp only [List.length_append]; omega)
      (fun it' h' hl' => ih (g :: gsB) it' hW0 (by rw [flat_cons]; exact h')
        (fun x hx => by
          rcases hl' with e | e
          · rw [e]; exact hl x (List.mem_cons_of_mem _ hx)
          · rw [e]; exact fun hh => hW0.uk_ne_of_mem.1 x (List.mem_reverse.mpr hx) (Option.some.inj hh).symm))

/-- **the `VersionedIterator`, all four strategies**: over any bounded range that consists of whole
groups it yields one entry per group — the newest version ≤ the read version, if the group has one and
it is not a tombstone — in ascending (forward) or descending (reverse) group order. -/
theorem VS.iter_groups (db : DB) (v : Nat) (hvm : v ≤ maxVer) (pfx : Bytes) (reverse seek : Bool)
    (gs : List G) (hW : WFG gs) (hb : bound db pfx (prefixEnd pfx) = flat gs) :
    (VS.mk db v).iter pfx reverse seek =
      if reverse then gs.reverse.filterMap (G.pick v) else gs.filterMap (G.pick v) := by
  have hlen := length_le_flat hW
  have hout : ∀ l : List G, l.length = gs.length → (l.filterMap (G.pick v)).length < (flat gs).length + 1 :=
    fun l hl => Nat.lt_succ_of_le (Nat.le_trans (List.length_filterMap_le _ _) (hl ▸ hlen))
  have hbl : ∀ e ∈ flat gs, ble pfx e.1 = true ∧ blt e.1 (prefixEnd pfx) = true := by
    intro e he
    rw [← hb] at he
    simpa using (List.mem_filter.mp he).2
  unfold VS.iter VS.newIter
  simp only [hb]
  by_cases hne : flat gs = []
  · have : gs = [] := List.eq_nil_of_length_eq_zero (by rw [hne] at hlen; exact Nat.le_zero.mp hlen)
    subst this
    cases reverse <;> rfl
  cases reverse with
  | false =>
    have hseek : PCur.seekGE (flat gs) pfx = posAt [] (flat gs) :=
      seekGE_split [] (flat gs) pfx (by simp)
        (fun x hx => not_blt_iff_ble.mpr (hbl x (List.mem_of_mem_head? hx)).1)
    have hvalid : (posAt [] (flat gs)).valid = true := by
      obtain ⟨e, l, hfl⟩ := List.exists_cons_of_ne_nil hne
      rw [hfl]; rfl
    simp only [Bool.false_eq_true, if_false, hseek, hvalid, if_true]
    exact fwd_main v gs [] _ (by simpa using hW) ⟨rfl, rfl, rfl, rfl⟩ (fun _ _ => by simp) _ _
      (by simp only [iterFuel]; omega) (hout gs rfl)
  | true =>
    have hseek : PCur.seekLT (flat gs) (prefixEnd pfx) = posEnd (flat gs) [] := by
      simpa using seekLT_split (flat gs) [] (prefixEnd pfx) (fun a ha => (hbl a ha).2) (by simp)
    have hvalid : (posEnd (flat gs) []).valid = true := by
      obtain ⟨l, a, hfl⟩ := exists_snoc _ hne
      rw [hfl, posEnd_snoc]; rfl
    simp only [if_true, hseek, hvalid]
    exact rev_main v hvm seek gs.reverse []
      { all := flat gs, cur := posEnd (flat gs) [], version := v, reverse := true, seek := seek }
      (by simpa using hW) ⟨by simp, by simp, rfl, rfl, rfl, fun _ => rfl⟩ (fun _ _ => by simp) _ _
      (by simp only [iterFuel, List.reverse_reverse]; omega) (hout _ List.length_reverse)

/-- `QueryOK`: no stored user key is a *proper* byte-prefix of the iteration prefix -/
def QueryOK (gs : List G) (pfx : Bytes) : Prop := ∀ g ∈ gs, g.uk <+: pfx → g.uk = pfx

theorem bound_groups (gs : List G) (hW : WFG gs) (pfx : Bytes) (hq : QueryOK gs pfx) :
    bound (flat gs) pfx (prefixEnd pfx) = flat (gs.filter fun g => hasPrefix pfx g.uk) := by
  unfold bound
  apply flat_filter_groups
  intro g hg e he
  have hgw := hW.wf g hg
  obtain ⟨p, _, rfl⟩ := mem_entries.mp he
  show (ble pfx (mkKey g.uk p.1) && blt (mkKey g.uk p.1) (prefixEnd pfx)) = hasPrefix pfx g.uk
  cases hp : hasPrefix pfx g.uk with
  | true =>
    obtain ⟨r, hr⟩ := hasPrefix_iff.mp hp
    have hk : mkKey g.uk p.1 = pfx ++ (r ++ invVer p.1) := by rw [← List.append_assoc, hr]; rfl
    have hl : (r ++ invVer p.1).length ≤ 256 := by
      have := hgw.uk_len
      rw [← hr] at this
      simp [invVer_length] at this ⊢; omega
    rw [hk, ble_of_prefix (List.prefix_append _ _), blt_prefixEnd hl]
    rfl
  | false =>
    refine Bool.eq_false_iff.mpr fun hb => ?_
    obtain ⟨h1, h2⟩ := Bool.and_eq_true_iff.mp hb
    -- a key inside the range extends `pfx`, so `pfx` and the user key are comparable
    have hpre : pfx <+: g.uk ++ invVer p.1 := prefix_of_range h1 h2
    rcases List.prefix_or_prefix_of_prefix hpre (List.prefix_append _ _) with h | h
    · rw [hasPrefix_iff.mpr h] at hp; cases hp
    · rw [hq g hg h, hasPrefix_iff.mpr (List.prefix_refl _)] at hp; cases hp

/-- **`VersionedStore.getRaw`**: the newest version ≤ the read version of exactly this user key,
provided the queried key is not a proper prefix/extension of a stored user key -/
theorem VS.getRaw_groups (gs : List G) (hW : WFG gs) (v : Nat) (hvm : v ≤ maxVer) (uk : Bytes)
    (hcompat : ∀ g ∈ gs, (g.uk <+: uk ∨ uk <+: g.uk) → g.uk = uk) :
    (VS.mk (flat gs) v).getRaw uk =
      match gs.find? (fun g => decide (g.uk = uk)) with
      | none => none
      | some g => (g.es.find? fun p => decide (p.1 ≤ v)).map fun p => parseVal p.2 := by
  have hq : QueryOK gs uk := fun g hg h => hcompat g hg (Or.inl h)
  have hfil : (gs.filter fun g => hasPrefix uk g.uk) = gs.filter (fun g => decide (g.uk = uk)) := by
    apply List.filter_congr
    intro g hg
    rw [Bool.eq_iff_iff, hasPrefix_iff, decide_eq_true_eq]
    exact ⟨fun hp => hcompat g hg (Or.inr hp), fun h => h ▸ List.prefix_refl _⟩
  unfold VS.getRaw
  simp only [bound_groups gs hW uk hq, hfil, filter_key_eq_find hW]
  cases hf : gs.find? (fun g => decide (g.uk = uk)) with
  | none => rfl
  | some g =>
    have hg : g ∈ gs := List.mem_of_find?_eq_some hf
    have hgu : g.uk = uk := by simpa using List.find?_some hf
    have hgw := hW.wf g hg
    obtain ⟨es1, rest, hes, hes1, hrest, h3⟩ := hgw.split v
    have hseek : PCur.seekGE (flat [g]) (mkKey uk v) = posAt (ents uk es1) (ents uk rest) := by
      have := seekGE_mkKey_flat (a := []) (b := []) (g := g) ⟨by simpa using hgw, by simp⟩ hvm hes hes1 hrest
      simpa [hgu] using this
    simp only [Option.toList_some, hseek, h3]
    cases rest with
    | nil => rfl
    | cons q rest2 =>
      have hqv := hrest q List.mem_cons_self
      simp only [posAt, ents_cons, PCur.cur?, Bool.false_eq_true, if_false, List.head?_cons, Option.map_some]
      rw [userKeyOf_mkKey _ (hgu ▸ hgw.uk_ne)]
      simp only [ne_eq, not_true_eq_false, if_false, versionOf_mkKey _ hqv.2]
      rw [if_neg (by omega)]

end Canopy.Store
