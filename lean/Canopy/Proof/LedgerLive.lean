import Canopy.Proof.LedgerTally
import Canopy.Proof.LedgerC04b
/-! C12: the chain never wedges itself, first form — an empty block (begin-block mint + `EndBlock`) applies on every
`Live` ledger (supply identity, right tallies, sound unstaking markers) on which no reward percents wait to be distributed,
and leaves such a ledger at the next height. `LedgerEndBlockLive` does the same under the full invariants with rewards
pending. `SameStaking`, the frame of the later files, is defined here. -/
namespace Canopy.Ledger
open AMap

/-- every unstaking marker refers to an existing validator that is unstaking at exactly that (non-zero) height -/
def UnstakingSound (L : Ledger) : Prop :=
  ∀ h a, KSet.has L.unstaking (h, a) = true → ∃ v, valGet? L a = some v ∧ v.unstakingHeight = h ∧ h ≠ 0

structure Live (L : Ledger) : Prop where
  supply : InvSupply L
  tallies : Tallies L
  vals : NodupKeys L.validators
  pools : Pools L
  unst : NodupKeys L.unstaking
  sound : UnstakingSound L

/-- rewriting the status fields of an existing record keeps all four tallies -/
theorem tallies_status {L L' : Ledger} {a : Addr} {old v : Validator} (ht : Tallies L) (hg : valGet? L a = some old)
    (hs : L'.supply = L.supply) (hv : L'.validators = AMap.set L.validators a v)
    (h1 : v.stake = old.stake) (h2 : v.delegate = old.delegate) (h3 : v.committees = old.committees) : Tallies L' :=
  ht.replace (old := some old) (nv := some v)
    (fun f => by rw [hv, ← hg]; exact sumBy_set f L.validators a v)
    (by simp only [ow_some, hs, h1]) (by simp only [ow_some, hs, h1, h2])
    (fun c => by simp only [comGet, ow_some, hs, h1, h3]) (fun c => by simp only [delGet, ow_some, hs, h1, h2, h3])

theorem forceUnstakeValidator_live {L : Ledger} (a : Addr) (hl : Live L) (hh : (L.height + L.params.unstakingBlocks) % U64 ≠ 0) :
    Live (forceUnstakeValidator L a) ∧ SameCtx L (forceUnstakeValidator L a) := by
  rcases forceUnstakeValidator_cases L a with ⟨e, _⟩ | ⟨val, hv, hu0, e⟩
  · rw [e]; exact ⟨hl, SameCtx.refl L⟩
  · rw [e]
    generalize hf : (L.height + L.params.unstakingBlocks) % U64 = f at hh ⊢
    have hm := setValidatorUnstaking_money L a val f
    have hvv := setValidatorUnstaking_validators L a val f
    have hun : (setValidatorUnstaking L a val f).unstaking = KSet.add L.unstaking (f, a) := by
      rw [setValidatorUnstaking_eq]
    refine ⟨⟨?_, ?_, ?_, ?_, ?_, ?_⟩, ?_⟩
    · exact (moves_of_money hm (stakeSum_setValidatorUnstaking _ hv rfl)).inv hl.supply
    · exact tallies_status hl.tallies hv hm.supply hvv rfl rfl rfl
    · rw [hvv]; exact nodup_set _ _ _ hl.vals
    · exact ⟨by rw [hm.supply]; exact hl.pools.committee, by rw [hm.supply]; exact hl.pools.delegated⟩
    · rw [hun]; exact nodup_set _ _ _ hl.unst
    · intro h' b hb
      rw [hun, has_add] at hb
      rcases hb with hb | hb
      · simp only [Prod.mk.injEq] at hb
        obtain ⟨rfl, rfl⟩ := hb
        refine ⟨{ val with maxPausedHeight := 0, unstakingHeight := f }, ?_, rfl, hh⟩
        unfold valGet?; rw [hvv, find?_set_self]
      · obtain ⟨v, hv', he, hne⟩ := hl.sound h' b hb
        have hba : a ≠ b := by
          intro e; subst e
          rw [hv] at hv'; cases hv'
          exact hne (he ▸ hu0)
        exact ⟨v, by unfold valGet?; rw [hvv, find?_set_ne _ _ hba]; exact hv', he, hne⟩
    · rw [setValidatorUnstaking_eq]; exact ⟨rfl, rfl, rfl, rfl⟩

theorem foldl_forceUnstake_live : ∀ (as : List Addr) (L : Ledger), Live L → (L.height + L.params.unstakingBlocks) % U64 ≠ 0 →
    Live (as.foldl forceUnstakeValidator L) ∧ SameCtx L (as.foldl forceUnstakeValidator L)
  | [], L, hl, _ => ⟨hl, SameCtx.refl L⟩
  | a :: as, L, hl, hh => by
    obtain ⟨l1, c1⟩ := forceUnstakeValidator_live a hl hh
    obtain ⟨l2, c2⟩ := foldl_forceUnstake_live as (forceUnstakeValidator L a) l1 (by rw [c1.height, c1.params]; exact hh)
    exact ⟨l2, c1.trans c2⟩

/-- the two marker deletion loops write one field each: the key set without the keys `(height, a)` -/
theorem foldl_pausedDel (as : List Addr) (L : Ledger) :
    as.foldl (fun L a => { L with paused := KSet.del L.paused (L.height, a) }) L =
      { L with paused := (as.map (L.height, ·)).foldl KSet.del L.paused } := by
  induction as generalizing L with
  | nil => rfl
  | cons a as ih => exact ih _

theorem foldl_unstakingDel (as : List Addr) (L : Ledger) :
    as.foldl (fun L a => { L with unstaking := KSet.del L.unstaking (L.height, a) }) L =
      { L with unstaking := (as.map (L.height, ·)).foldl KSet.del L.unstaking } := by
  induction as generalizing L with
  | nil => rfl
  | cons a as ih => exact ih _

/-- the markers left by such a loop: the old ones, except those of the listed addresses at that height -/
theorem has_foldl_del_at (as : List Addr) (ht : Nat) (m : KSet (Nat × Addr)) (hn : NodupKeys m) :
    NodupKeys ((as.map (ht, ·)).foldl KSet.del m) ∧
    ∀ h b, KSet.has ((as.map (ht, ·)).foldl KSet.del m) (h, b) = true ↔ KSet.has m (h, b) = true ∧ ¬ (h = ht ∧ b ∈ as) := by
  obtain ⟨n', i⟩ := has_foldl_del (as.map (ht, ·)) m hn
  refine ⟨n', fun h b => ?_⟩
  rw [i (h, b)]
  simp only [List.mem_map, Prod.mk.injEq]
  constructor
  · rintro ⟨h1, h2⟩; exact ⟨h1, fun ⟨e1, e2⟩ => h2 ⟨b, e2, e1.symm, rfl⟩⟩
  · rintro ⟨h1, h2⟩; exact ⟨h1, fun ⟨x, hx, e1, e2⟩ => h2 ⟨e1.symm, e2 ▸ hx⟩⟩

/-- `ForceUnstakeMaxPaused` keeps the ledger live -/
theorem forceUnstakeMaxPaused_live {L : Ledger} (hl : Live L) (hh : (L.height + L.params.unstakingBlocks) % U64 ≠ 0) :
    Live (forceUnstakeMaxPaused L) ∧ SameCtx L (forceUnstakeMaxPaused L) := by
  unfold forceUnstakeMaxPaused
  dsimp only
  rw [foldl_pausedDel]
  obtain ⟨l1, c1⟩ := foldl_forceUnstake_live (dueAt L.paused L.height) L hl hh
  exact ⟨⟨l1.supply, l1.tallies.of_same rfl rfl rfl rfl rfl, l1.vals, ⟨l1.pools.committee, l1.pools.delegated⟩, l1.unst, l1.sound⟩,
    c1.trans ⟨rfl, rfl, rfl, rfl⟩⟩

theorem accountAdd_ok_of (L : Ledger) (a : Addr) (x : Nat) (h : accSum L + x ≤ MAXU) : ∃ L', accountAdd L a x = .ok L' := by
  have := accGet_le L a
  unfold accountAdd
  split
  · exact ⟨L, rfl⟩
  · rw [if_neg (by omega)]; exact ⟨_, rfl⟩

/-- one finished unstaking succeeds on a live ledger and leaves everything but the marker set in order -/
theorem finishUnstakingStep_ok_of {L : Ledger} {a : Addr} {val : Validator} (hi : InvSupply L) (ht : Tallies L)
    (hn : NodupKeys L.validators) (hp : Pools L) (hg : valGet? L a = some val) :
    ∃ L', finishUnstakingStep L a = .ok L' ∧ InvSupply L' ∧ Tallies L' ∧ NodupKeys L'.validators ∧ Pools L' ∧
      L'.validators = AMap.erase L.validators a ∧ L'.unstaking = L.unstaking ∧ SameCtx L L' := by
  -- the output account cannot overflow: accounts + stake ≤ accounts + stakes ≤ total < 2^64
  have h2 := stake_le L a val hg
  obtain ⟨L1, hL1⟩ := accountAdd_ok_of L val.output val.stake (by
    obtain ⟨i1, i2⟩ := hi
    unfold bal at i1; unfold MAXU; unfold U64 at i2; omega)
  obtain ⟨acc, vs, rfl, _⟩ := accountAdd_ok hL1
  have ht1 : Tallies { L with accounts := acc, vesting := vs } := ht.of_same rfl rfl rfl rfl rfl
  have hp1 : Pools { L with accounts := acc, vesting := vs } := ⟨hp.committee, hp.delegated⟩
  obtain ⟨L', hd⟩ := deleteValidator_ok_of ht1 hp1 (a := a) hg
  obtain ⟨t', p', v', env⟩ := deleteValidator_tallies ht1 hp1 (a := a) hg hd
  have hstep : finishUnstakingStep L a = .ok L' := by
    unfold finishUnstakingStep; rw [hg]; dsimp only; rw [hL1]; exact hd
  exact ⟨L', hstep, (finishUnstakingStep_moves hstep).inv hi, t', by rw [v']; exact nodup_erase _ _ hn, p', v', env.unstaking,
    ⟨env.height, env.params, env.cfg, env.committeesData⟩⟩

theorem foldlM_finishUnstaking_ok : ∀ (as : List Addr) (L : Ledger), InvSupply L → Tallies L → NodupKeys L.validators → Pools L →
    as.Nodup → (∀ a ∈ as, ∃ v, valGet? L a = some v) →
    ∃ L', as.foldlM finishUnstakingStep L = .ok L' ∧ InvSupply L' ∧ Tallies L' ∧ NodupKeys L'.validators ∧ Pools L' ∧
      L'.unstaking = L.unstaking ∧ SameCtx L L' ∧ ∀ b, valGet? L' b = if b ∈ as then none else valGet? L b
  | [], L, hi, ht, hn, hp, _, _ => ⟨L, rfl, hi, ht, hn, hp, rfl, SameCtx.refl L, fun _ => rfl⟩
  | a :: as, L, hi, ht, hn, hp, hnd, hex => by
    rw [List.nodup_cons] at hnd
    obtain ⟨val, hg⟩ := hex a (List.mem_cons_self ..)
    obtain ⟨L1, h1, i1, t1, n1, p1, v1, u1, c1⟩ := finishUnstakingStep_ok_of hi ht hn hp hg
    have hex1 : ∀ b ∈ as, ∃ v, valGet? L1 b = some v := by
      intro b hb
      obtain ⟨v, hv⟩ := hex b (List.mem_cons_of_mem _ hb)
      have hne : a ≠ b := fun e => hnd.1 (e ▸ hb)
      exact ⟨v, by unfold valGet?; rw [v1, find?_erase_ne _ hne]; exact hv⟩
    obtain ⟨L', h2, i2, t2, n2, p2, u2, c2, k2⟩ := foldlM_finishUnstaking_ok as L1 i1 t1 n1 p1 hnd.2 hex1
    refine ⟨L', by simp only [List.foldlM_cons, h1]; exact h2, i2, t2, n2, p2, u2.trans u1, c1.trans c2, fun b => ?_⟩
    rw [k2 b]; unfold valGet?; rw [v1, find?_erase _ _ _ hn]
    simp only [List.mem_cons]
    by_cases hb : b ∈ as
    · rw [if_pos hb, if_pos (Or.inr hb)]
    · by_cases hab : a = b
      · rw [if_neg hb, if_pos hab, if_pos (Or.inl hab.symm)]
      · rw [if_neg hb, if_neg hab, if_neg (not_or.2 ⟨fun e => hab e.symm, hb⟩)]

theorem mem_dueAt (m : KSet (Nat × Addr)) (h : Nat) (a : Addr) : a ∈ dueAt m h ↔ (h, a) ∈ m.map (·.1) := by
  unfold dueAt
  simp only [List.mem_filterMap, List.mem_map]
  constructor
  · rintro ⟨e, he, hx⟩
    split at hx
    · next hh => cases hx; exact ⟨e, he, by rw [← hh]⟩
    · cases hx
  · rintro ⟨e, he, hx⟩
    exact ⟨e, he, by simp [hx]⟩

theorem nodup_dueAt (m : KSet (Nat × Addr)) (h : Nat) (hn : NodupKeys m) : (dueAt m h).Nodup := by
  -- an entry that is due at `h` has the key `(h, address)`, so distinct keys give distinct addresses
  have key : ∀ (e : (Nat × Addr) × Unit) b, (if e.1.1 = h then some e.1.2 else none) = some b → e.1 = (h, b) := by
    intro e b hb
    split at hb
    · next hh => cases hb; rw [← hh]
    · cases hb
  exact List.Pairwise.filterMap _ (fun e e' hne b hb b' hb' hbb => hne (by rw [key e b hb, key e' b' hb', hbb]))
    (List.pairwise_map.1 hn)

/-- `DeleteFinishedUnstaking` succeeds on a live ledger and keeps it live -/
theorem deleteFinishedUnstaking_live {L : Ledger} (hl : Live L) :
    ∃ L', deleteFinishedUnstaking L = .ok L' ∧ Live L' ∧ SameCtx L L' := by
  unfold deleteFinishedUnstaking
  dsimp only
  have hdue : ∀ a, a ∈ dueAt L.unstaking L.height → ∃ v, valGet? L a = some v ∧ v.unstakingHeight = L.height := by
    intro a ha
    obtain ⟨v, hv, he, _⟩ := hl.sound _ _ ((has_iff_mem_keys L.unstaking (L.height, a)).2 ((mem_dueAt _ _ _).1 ha))
    exact ⟨v, hv, he⟩
  obtain ⟨L1, h1, i1, t1, n1, p1, u1, c1, k1⟩ :=
    foldlM_finishUnstaking_ok (dueAt L.unstaking L.height) L hl.supply hl.tallies hl.vals hl.pools
      (nodup_dueAt L.unstaking L.height hl.unst) (fun a ha => (hdue a ha).imp fun v hv => hv.1)
  rw [h1]
  dsimp only
  rw [foldl_unstakingDel]
  obtain ⟨j1, j2⟩ := has_foldl_del_at (dueAt L.unstaking L.height) L1.height L1.unstaking (by rw [u1]; exact hl.unst)
  refine ⟨_, rfl, ⟨i1, t1.of_same rfl rfl rfl rfl rfl, n1, ⟨p1.committee, p1.delegated⟩, j1, ?_⟩, c1.trans ⟨rfl, rfl, rfl, rfl⟩⟩
  intro h b hb
  obtain ⟨q1, q2⟩ := (j2 h b).1 hb
  rw [u1] at q1
  obtain ⟨v, hv, he, hne⟩ := hl.sound h b q1
  have hb' : b ∉ dueAt L.unstaking L.height := by
    intro hm
    -- then `b` is unstaking at this height, so `h` is this height: the marker would have been deleted
    obtain ⟨v2, hv2, he2⟩ := hdue b hm
    rw [hv] at hv2; cases hv2
    exact q2 ⟨by rw [c1.height, ← he, he2], hm⟩
  exact ⟨v, (k1 b).trans ((if_neg hb').trans hv), he, hne⟩

/-- same staking state and block context (pools, accounts and the recorded total may differ) -/
structure SameStaking (L L' : Ledger) : Prop where
  validators : L'.validators = L.validators
  unstaking : L'.unstaking = L.unstaking
  paused : L'.paused = L.paused
  staked : L'.supply.staked = L.supply.staked
  delegatedOnly : L'.supply.delegatedOnly = L.supply.delegatedOnly
  committee : L'.supply.committee = L.supply.committee
  delegated : L'.supply.delegated = L.supply.delegated
  ctx : SameCtx L L'

theorem SameStaking.refl (L : Ledger) : SameStaking L L := ⟨rfl, rfl, rfl, rfl, rfl, rfl, rfl, SameCtx.refl L⟩
theorem SameStaking.trans {A B C : Ledger} (h1 : SameStaking A B) (h2 : SameStaking B C) : SameStaking A C :=
  ⟨h2.validators.trans h1.validators, h2.unstaking.trans h1.unstaking, h2.paused.trans h1.paused, h2.staked.trans h1.staked,
   h2.delegatedOnly.trans h1.delegatedOnly, h2.committee.trans h1.committee, h2.delegated.trans h1.delegated, h1.ctx.trans h2.ctx⟩

theorem mintToPool_sameStaking (L : Ledger) (id x : Nat) : SameStaking L (mintToPool L id x) :=
  ⟨rfl, rfl, rfl, rfl, rfl, rfl, rfl, ⟨rfl, rfl, rfl, rfl⟩⟩

theorem foldl_mintToPool_sameStaking (per : Nat) : ∀ (cs : List Nat) (L : Ledger), SameStaking L (cs.foldl (fun L c => mintToPool L c per) L)
  | [], L => SameStaking.refl L
  | c :: cs, L => (mintToPool_sameStaking L c per).trans (foldl_mintToPool_sameStaking per cs _)

theorem beginBlockMint_sameStaking {L L' : Ledger} (h : beginBlockMint L = .ok L') : SameStaking L L' := by
  unfold beginBlockMint at h
  split at h
  · obtain rfl := Except.ok.inj h; exact SameStaking.refl L
  · rcases fundCommitteeRewardPools_run h with rfl | ⟨A, _, rfl⟩
    · exact SameStaking.refl _
    · exact (mintToPool_sameStaking L _ _).trans (foldl_mintToPool_sameStaking _ _ _)

theorem beginBlockMint_ok_of (L : Ledger) (hb : L.cfg.blocksPerHalvening ≠ 0) : ∃ L', beginBlockMint L = .ok L' := by
  unfold beginBlockMint
  split
  · exact ⟨L, rfl⟩
  · unfold fundCommitteeRewardPools
    rw [if_neg hb]
    -- both branches of what remains succeed
    exact ⟨_, (apply_ite Except.ok _ _ _).symm⟩

theorem Live.of_sameStaking {L L' : Ledger} (hl : Live L) (hs : SameStaking L L') (hi : InvSupply L') : Live L' := by
  refine ⟨hi, hl.tallies.of_same hs.validators hs.staked hs.delegatedOnly hs.committee hs.delegated,
    by rw [hs.validators]; exact hl.vals, ⟨by rw [hs.committee]; exact hl.pools.committee, by rw [hs.delegated]; exact hl.pools.delegated⟩,
    by rw [hs.unstaking]; exact hl.unst, ?_⟩
  · intro h a hb
    rw [hs.unstaking] at hb
    obtain ⟨v, hv, he, hne⟩ := hl.sound h a hb
    exact ⟨v, by unfold valGet?; rw [hs.validators]; exact hv, he, hne⟩

/-- no reward percents are waiting to be distributed -/
def NoPendingRewards (L : Ledger) : Prop := ∀ d ∈ L.committeesData, d.percents = []

theorem distributeCommitteeRewards_noop {L : Ledger} (hr : NoPendingRewards L) : distributeCommitteeRewards L = .ok L := by
  unfold distributeCommitteeRewards
  have key : ∀ (ds : List CommitteeData) (A : Ledger), (∀ d ∈ ds, d.percents = []) → ds.foldlM distributeFor A = .ok A := by
    intro ds
    induction ds with
    | nil => intro A _; rfl
    | cons d ds ih =>
      intro A hd
      have h0 : distributeFor A d = .ok A := by
        unfold distributeFor
        rw [hd d (List.mem_cons_self ..)]; rfl
      simp only [List.foldlM_cons, h0]
      exact ih A (fun d' hd' => hd d' (List.mem_cons_of_mem _ hd'))
  exact key _ L hr

/-- **an empty block applies on a live ledger and leaves a live ledger at the next height** -/
theorem emptyBlock_live {L : Ledger} (hl : Live L) (hb : L.cfg.blocksPerHalvening ≠ 0)
    (hx : L.supply.total + scheduledMint L < U64) (hh : (L.height + L.params.unstakingBlocks) % U64 ≠ 0)
    (hr : NoPendingRewards L) :
    ∃ L', emptyBlock L = .ok L' ∧ Live L' ∧ L'.height = L.height + 1 ∧ L'.params = L.params ∧ L'.cfg = L.cfg ∧
      NoPendingRewards L' ∧ L'.supply.total ≤ L.supply.total + scheduledMint L := by
  obtain ⟨L1, h1⟩ := beginBlockMint_ok_of L hb
  obtain ⟨m, hm, s1⟩ := beginBlockMint_mints hl.supply hx h1
  have ss := beginBlockMint_sameStaking h1
  have i1 : InvSupply L1 := s1.inv hl.supply (by have := s1.1; omega)
  have l1 := hl.of_sameStaking ss i1
  have hr1 : NoPendingRewards L1 := by intro d hd; rw [ss.ctx.committeesData] at hd; exact hr d hd
  obtain ⟨l2, c2⟩ := forceUnstakeMaxPaused_live l1 (by rw [ss.ctx.height, ss.ctx.params]; exact hh)
  obtain ⟨L3, h3, l3, c3⟩ := deleteFinishedUnstaking_live l2
  have c : SameCtx L L3 := ss.ctx.trans (c2.trans c3)
  refine ⟨{ L3 with height := L3.height + 1, slashTracker := [] }, ?_, ?_, congrArg (· + 1) c.height, c.params, c.cfg,
    fun d hd => hr d (c.committeesData ▸ hd), ?_⟩
  · unfold emptyBlock
    simp only [bind, Except.bind, h1]
    unfold endBlock
    rw [distributeCommitteeRewards_noop hr1]
    dsimp only
    rw [h3]
  · exact ⟨l3.supply, l3.tallies.of_same rfl rfl rfl rfl rfl, l3.vals, ⟨l3.pools.committee, l3.pools.delegated⟩, l3.unst, l3.sound⟩
  · show L3.supply.total ≤ _
    have t2 := (forceUnstakeMaxPaused_moves L1).1
    have t3 := (deleteFinishedUnstaking_moves h3).1
    have t1 := s1.1
    omega

end Canopy.Ledger
