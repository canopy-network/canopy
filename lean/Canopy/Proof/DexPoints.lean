import Canopy.Proof.DexFrame
/-! Liquidity points: every function that writes the points table keeps Σ points = total (C20). Core Lean only. -/
namespace Canopy.Dex

def ptsSum (pts : List (Bytes × Nat)) : Nat := AM.wsum (fun _ v => v) pts

/-- `Σ Points = TotalPoolPoints`, and the total is a `uint64` -/
structure PointsOk (p : Pool) : Prop where
  sum : ptsSum p.points = p.total
  fits : p.total < U64

theorem ptsSum_append (l : List (Bytes × Nat)) (a : Bytes) (n : Nat) : ptsSum (l ++ [(a, n)]) = ptsSum l + n :=
  AM.wsum_append_one _ l a n

theorem ptsSum_dropZero (l : List (Bytes × Nat)) : ptsSum (dropZero l) = ptsSum l := by
  induction l with
  | nil => rfl
  | cons e l ih =>
    obtain ⟨k, v⟩ := e
    by_cases hv : v = 0 <;> simpa [dropZero, List.filter, hv, ptsSum, AM.wsum] using ih

theorem ptsAt_le_sum (l : List (Bytes × Nat)) (i : Nat) : ptsAt l i ≤ ptsSum l := by
  induction l generalizing i with
  | nil => exact Nat.le_refl 0
  | cons e l ih =>
    cases i with
    | zero => exact Nat.le_add_right _ _
    | succ i => exact Nat.le_trans (ih i) (Nat.le_add_left _ _)

theorem ptsSum_setPtsAt (l : List (Bytes × Nat)) (i v : Nat) (h : i < l.length) :
    ptsSum (setPtsAt l i v) + ptsAt l i = ptsSum l + v := by
  unfold setPtsAt ptsAt
  rw [List.getElem?_eq_getElem h]
  show ptsSum (l.set i (l[i].1, v)) + l[i].2 = ptsSum l + v
  induction l generalizing i with
  | nil => cases h
  | cons e l ih =>
    cases i with
    | zero =>
      show v + ptsSum l + e.2 = e.2 + ptsSum l + v
      omega
    | succ i =>
      have hi : i < l.length := Nat.lt_of_succ_lt_succ h
      have := ih i hi
      show e.2 + ptsSum (l.set i (l[i].1, v)) + l[i].2 = e.2 + ptsSum l + v
      omega

theorem lastIdx_go_lt (l : List (Bytes × Nat)) (a : Bytes) (start : Nat) (acc : Option Nat) (i : Nat)
    (hacc : ∀ j, acc = some j → j < start + l.length) (h : lastIdx.go a l start acc = some i) : i < start + l.length := by
  induction l generalizing start acc with
  | nil => simp [lastIdx.go] at h; exact hacc i h
  | cons e l ih =>
    obtain ⟨k, v⟩ := e
    simp only [lastIdx.go] at h
    have := ih (start + 1) _ (by
      intro j hj
      split at hj
      · injection hj with hj; subst hj; omega
      · have := hacc j hj; simp only [List.length_cons] at this; omega) h
    simp only [List.length_cons] at this ⊢; omega

theorem lastIdx_lt {l : List (Bytes × Nat)} {a : Bytes} {i : Nat} (h : lastIdx l a = some i) : i < l.length := by
  have := lastIdx_go_lt l a 0 none i (by intro j hj; cases hj) h
  omega

theorem subU64_eq {a b : Nat} (hb : b ≤ a) (ha : a < U64) : subU64 a b = a - b := by
  unfold subU64
  rw [Nat.add_comm a U64, Nat.add_sub_assoc hb, Nat.add_mod_left, Nat.mod_eq_of_lt (by omega)]

theorem subU64_lt {a b : Nat} : subU64 a b < U64 := Nat.mod_lt _ (by decide)

theorem points_addPoints {p p' : Pool} {a : Bytes} {n : Nat} (hp : PointsOk p) (hn : n < U64) (h : addPoints p a n = .ok p') :
    PointsOk p' ∧ p'.amount = p.amount := by
  unfold addPoints at h
  by_cases hn0 : n = 0
  · rw [if_pos hn0] at h; cases h; exact ⟨hp, rfl⟩
  rw [if_neg hn0] at h
  have hfit : ¬ p.total > maxU64 - n → p.total + n < U64 := fun h1 => by unfold maxU64 at h1; omega
  have hs := hp.sum
  cases hcur : AM.get? p.points a with
  | some cur =>
    simp only [hcur, ite_error_eq_ok, Except.ok.injEq] at h
    obtain ⟨h1, _, rfl⟩ := h
    have := AM.wsum_set_old (fun _ v => v) p.points a (cur + n) cur hcur
    refine ⟨⟨?_, hfit h1⟩, rfl⟩
    simp only [ptsSum] at hs ⊢
    omega
  | none =>
    simp only [hcur, ite_error_eq_ok, Except.ok.injEq] at h
    obtain ⟨h1, _, rfl⟩ := h
    exact ⟨⟨(ptsSum_append _ _ _).trans (congrArg (· + n) hs), hfit h1⟩, rfl⟩

theorem points_burn {p : Pool} {i b : Nat} (hp : PointsOk p) (hi : i < p.points.length) (hb : b ≤ ptsAt p.points i) :
    PointsOk { p with total := subU64 p.total b, points := setPtsAt p.points i (subU64 (ptsAt p.points i) b) } := by
  have hheld : ptsAt p.points i ≤ p.total := hp.sum ▸ ptsAt_le_sum p.points i
  have hset := ptsSum_setPtsAt p.points i (ptsAt p.points i - b) hi
  rw [hp.sum] at hset
  refine ⟨?_, subU64_lt⟩
  show ptsSum (setPtsAt p.points i (subU64 (ptsAt p.points i) b)) = subU64 p.total b
  rw [subU64_eq hb (Nat.lt_of_le_of_lt hheld hp.fits), subU64_eq (Nat.le_trans hb hheld) hp.fits]
  omega

/-- no withdrawal of the batch asks for more than 100 % (`checkPercent` on a message, `CheckBasic` on a remote batch) -/
def PctOk (ws : List Withdraw) : Prop := ∀ w ∈ ws, w.percent ≤ 100

theorem pctOk_singleton {w : Withdraw} (h : w.percent ≤ 100) : PctOk [w] := fun _ hw => List.mem_singleton.mp hw ▸ h

theorem points_withdrawPay {tx ty T : Nat} {isLocal : Bool} {ws : List Withdraw} {st st' : WState}
    (hw : PctOk ws) (hp : PointsOk st.p) (h : withdrawPay tx ty T isLocal ws st = .ok st') :
    PointsOk st'.p := by
  induction ws generalizing st with
  | nil => cases h; exact hp
  | cons w ws ih =>
    have hw' : PctOk ws := fun w' hm => hw w' (List.mem_cons_of_mem _ hm)
    rcases withdrawPay_cons h with ⟨_, h⟩ | ⟨i, s1, n, hi, _, h⟩
    · exact ih hw' hp h
    · exact ih hw' (points_burn hp (lastIdx_lt hi) (safeMulDiv_percent_le _ _ (hw w List.mem_cons_self))) h

/-- `handleBatchWithdraw`: the pool it leaves (and writes with `SetPool` when `persist`) keeps Σ points = total -/
theorem points_batchWithdraw {s : State} {ws : List Withdraw} {c x y : Nat} {isLocal : Bool} {p0 : Option Pool} {persist : Bool}
    {l : Ledger} (hw : PctOk ws) (hp : PointsOk (p0.getD (getPool s (liquidityId c))))
    (h : batchWithdraw s ws c x y isLocal p0 persist = .ok l) : PointsOk l.p := by
  have hp' : PointsOk { (p0.getD (getPool s (liquidityId c))) with points := dropZero (p0.getD (getPool s (liquidityId c))).points } :=
    ⟨(ptsSum_dropZero _).trans hp.sum, hp.fits⟩
  rcases batchWithdraw_ok rfl h with ⟨_, rfl⟩ | ⟨T, _, ⟨_, hl, _⟩ | ⟨_, st, hst, _, hl, _⟩⟩
  · exact hp
  · rw [hl]; exact hp'
  · have := points_withdrawPay hw hp' hst
    rw [hl]; exact ⟨(ptsSum_dropZero _).trans this.sum, this.fits⟩

theorem mapErr_ldp_lt {L x y a d : Nat} (h : mapErr (liquidityDepositPoints L x y a) = .ok d) : d < U64 := by
  unfold mapErr at h
  split at h
  · rename_i v hv
    cases h
    rw [(liquidityDepositPoints_ok hv).2.2.2]; exact safeMulDiv_lt
  · cases h

theorem ldp_zero_reserve {L x y a : Nat} (h : x = 0 ∨ y = 0) : mapErr (liquidityDepositPoints L x y a) = .error .InvalidLiquidityPool := by
  have hs : sqrtProduct x y = 0 := by
    unfold sqrtProduct
    rcases h with h | h <;> subst h <;> simp [sqrt_zero]
  unfold liquidityDepositPoints
  split
  · rfl
  · rw [if_pos (Or.inl hs)]; rfl

theorem points_depositLocal {s : State} {p : Pool} {c : Nat} {d : Deposit} {isLocal : Bool} {r : State × Pool}
    (hp : PointsOk p) (h : depositLocal s p c d isLocal = .ok r) : PointsOk r.2 := by
  rcases depositLocal_ok h with ⟨_, _, hr⟩ | ⟨_, rfl⟩
  · rw [hr]; exact ⟨hp.sum, hp.fits⟩
  · exact hp

theorem points_depositPass2 {dl td c : Nat} {isLocal : Bool} {ds : List (Deposit × Bool)} {st st' : P2}
    (hp : PointsOk st.p) (h : depositPass2 dl td c isLocal ds st = .ok st') : PointsOk st'.p := by
  induction ds generalizing st with
  | nil => cases h; exact hp
  | cons e ds ih =>
    obtain ⟨d, acc⟩ := e
    cases acc
    · unfold depositPass2 at h
      exact ih hp h
    · obtain ⟨p, sp, h1, h2, _, h⟩ := depositPass2_cons h
      exact ih (points_depositLocal (points_addPoints hp (safeMulDiv_lt) h1).1 h2) h

theorem points_initDead {p : Pool} {x y : Nat} {lp : Nat × Pool} (hp : PointsOk p) (h : initDead p x y = .ok lp) :
    PointsOk lp.2 ∧ lp.2.amount = p.amount := by
  unfold initDead at h
  split at h
  · split at h
    · cases h
    · cases h; exact points_addPoints hp (sqrtProduct_lt) ‹_›
  · cases h; exact ⟨hp, rfl⟩

theorem points_mintDeposits {p1 : P1} {p : Pool} {ds : List Deposit} {c x y : Nat} {isLocal persist : Bool} {l : Ledger}
    (hp : PointsOk p) (h : mintDeposits p1 p ds c x y isLocal persist = .ok l) : PointsOk l.p := by
  obtain ⟨lp, dl, p2, h1, h2, h3, h4, _⟩ := mintDeposits_ok h
  have hdl := mapErr_ldp_lt h2
  have hp2 := points_depositPass2 (points_initDead hp h1).1 h3
  exact (points_addPoints (n := _ - _) hp2 (by omega) h4).1

theorem points_batchDepositCore {s : State} {ds : List Deposit} {c x y : Nat} {isLocal : Bool} {p : Pool} {persist : Bool}
    {l : Ledger} (hp : PointsOk p) (h : batchDepositCore s ds c x y isLocal (some p) persist = .ok l) : PointsOk l.p := by
  rcases batchDepositCore_ok rfl h with ⟨rfl, _⟩ | ⟨raw, p1, _, _, _, ⟨_, rfl⟩ | ⟨_, hm⟩⟩
  · exact hp
  · exact hp
  · exact points_mintDeposits hp hm

theorem points_cappedEvict {c : Nat} {isLocal : Bool} {nc : Newcomer} {l : Ledger} {low : Bytes × Nat}
    {r : Ledger × Option (Bytes × Nat)} (hp : PointsOk l.p) (h : cappedEvict c isLocal nc l low = .ok r) : PointsOk r.1.p := by
  rcases (cappedEvict_ok h).2 with ⟨s1, _, hr⟩ | ⟨l1, h1, h2⟩
  · rw [hr]; exact hp
  · have hw := points_batchWithdraw (p0 := some l.p) (pctOk_singleton (Nat.le_refl _)) hp h1
    exact points_batchDepositCore hw h2

theorem points_cappedStep {c : Nat} {isLocal : Bool} {nc : Newcomer} {l : Ledger} {low : Option (Bytes × Nat)}
    {r : Ledger × Option (Bytes × Nat)} (hp : PointsOk l.p) (h : cappedStep c isLocal nc l low = .ok r) : PointsOk r.1.p := by
  rcases cappedStep_ok h with h | ⟨low, h⟩
  · exact points_batchDepositCore hp h
  · exact points_cappedEvict hp h

theorem points_cappedLoop {c : Nat} {isLocal : Bool} {ncs : List Newcomer} {l l' : Ledger} {low : Option (Bytes × Nat)}
    (hp : PointsOk l.p) (h : cappedLoop c isLocal ncs l low = .ok l') : PointsOk l'.p := by
  induction ncs generalizing l low with
  | nil => cases h; exact hp
  | cons nc rest ih =>
    obtain ⟨r, hr, h⟩ := cappedLoop_cons h
    exact ih (points_cappedStep hp hr) h

/-- `handleBatchDeposit` (with the provider cap): the pool it leaves (and writes with `SetPool`) keeps Σ points = total -/
theorem points_batchDeposit {s : State} {b : Batch} {c x y : Nat} {isLocal : Bool} {l : Ledger}
    (hp : PointsOk (getPool s (liquidityId c))) (h : batchDeposit s b c x y isLocal = .ok l) : PointsOk l.p := by
  rcases batchDeposit_ok h with ⟨_, rfl⟩ | ⟨cl, _, h | ⟨l1, l2, _, h1, h2, rfl⟩⟩
  · exact hp
  · exact points_batchDepositCore hp h
  · exact points_cappedLoop (l' := l2) (points_batchDepositCore hp h1) h2

end Canopy.Dex
