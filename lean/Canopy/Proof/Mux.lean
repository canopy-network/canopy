import Canopy.Model.Mux
import Canopy.Proof.Guards
/-!
Helper lemmas for C18: the association map, `split`, the single-topic assembly function `assembleOk`,
what `Receiver.handle` does on a live stream, the connection invariant `CInv` of histories whose
enqueues are all-or-nothing, and its extension `DInv` to histories in which an enqueue fails half-way
and the sender stops. Core Lean only.
-/
namespace Canopy.Mux
open Canopy

@[simp] theorem TMap.get_nil {α} (t : Nat) : TMap.get ([] : TMap α) t = [] := rfl

@[simp] theorem TMap.get_set_self {α} {m : TMap α} {t : Nat} {v : List α} : (m.set t v).get t = v := by
  induction m with
  | nil => simp [TMap.set, TMap.get]
  | cons kv rest ih => by_cases h : kv.1 = t <;> simp [TMap.set, TMap.get, h, ih]

theorem TMap.get_set_ne {α} {m : TMap α} {t t' : Nat} {v : List α} (h : t' ≠ t) : (m.set t v).get t' = m.get t' := by
  induction m with
  | nil => simp [TMap.set, TMap.get, Ne.symm h]
  | cons kv rest ih => by_cases hk : kv.1 = t <;> simp [TMap.set, TMap.get, hk, ih, Ne.symm h]

theorem splitLensLoop_spec (lim : Nat) (hl : 0 < lim) (fuel n : Nat) (hf : n < fuel) :
    (splitLensLoop lim fuel n).length = (n + lim - 1) / lim ∧ (splitLensLoop lim fuel n).sum = n := by
  induction fuel generalizing n with
  | zero => exact absurd hf (Nat.not_lt_zero _)
  | succ fuel ih =>
    rw [splitLensLoop]
    by_cases h : lim ≤ n
    · obtain ⟨k, rfl⟩ := Nat.exists_eq_add_of_le h
      obtain ⟨h1, h2⟩ := ih k (Nat.lt_of_lt_of_le (Nat.lt_add_of_pos_left hl) (Nat.le_of_lt_succ hf))
      rw [if_pos h, Nat.add_sub_cancel_left, List.length_cons, List.sum_cons, h1, h2, Nat.add_comm lim k,
        Nat.sub_add_comm (Nat.le_trans hl (Nat.le_add_left lim k)), Nat.add_div_right _ hl]
      exact ⟨rfl, rfl⟩
    · rw [if_neg h]
      by_cases h0 : 0 < n
      · -- a single short chunk: `n + lim - 1` lies in `[lim, 2 * lim)`
        rw [if_pos h0, Nat.sub_add_comm h0, Nat.add_div_right _ hl,
          Nat.div_eq_of_lt (Nat.lt_of_le_of_lt (Nat.sub_le _ _) (Nat.lt_of_not_le h))]
        exact ⟨rfl, Nat.add_zero _⟩
      · obtain rfl : n = 0 := Nat.eq_zero_of_not_pos h0
        rw [if_neg h0, Nat.zero_add, Nat.div_eq_of_lt (Nat.sub_lt hl Nat.one_pos)]
        exact ⟨rfl, rfl⟩

theorem splitLoop_spec (lim : Nat) (hl : 0 < lim) (fuel : Nat) (buf : Bytes) (hf : buf.length < fuel) :
    (splitLoop lim fuel buf).flatten = buf ∧ (∀ c ∈ splitLoop lim fuel buf, 0 < c.length ∧ c.length ≤ lim) ∧
    (splitLoop lim fuel buf).map List.length = splitLensLoop lim fuel buf.length := by
  induction fuel generalizing buf with
  | zero => exact absurd hf (Nat.not_lt_zero _)
  | succ fuel ih =>
    rw [splitLoop, splitLensLoop]
    by_cases h : lim ≤ buf.length
    · obtain ⟨h1, h2, h3⟩ := ih (buf.drop lim) (by rw [List.length_drop]; omega)
      have htake : (buf.take lim).length = lim := by rw [List.length_take, Nat.min_eq_left h]
      rw [if_pos h, if_pos h]
      refine ⟨?_, List.forall_mem_cons.2 ⟨by rw [htake]; exact ⟨hl, Nat.le_refl _⟩, h2⟩, ?_⟩
      · rw [List.flatten_cons, h1, List.take_append_drop]
      · rw [List.map_cons, h3, htake, List.length_drop]
    · rw [if_neg h, if_neg h]
      by_cases h0 : 0 < buf.length
      · rw [if_pos h0, if_pos h0]
        exact ⟨List.append_nil _, List.forall_mem_cons.2 ⟨⟨h0, Nat.le_of_not_le h⟩, fun _ hc => nomatch hc⟩, rfl⟩
      · rw [if_neg h0, if_neg h0, List.eq_nil_of_length_eq_zero (Nat.eq_zero_of_not_pos h0)]
        exact ⟨rfl, fun _ hc => (nomatch hc), rfl⟩

/-- `p2p.split`. There is always at least one chunk because the empty message travels as one empty
chunk; that no other chunk is empty is in `splitLoop_spec`. -/
theorem split_spec (buf : Bytes) (lim : Nat) (hl : 0 < lim) :
    (split buf lim).map List.length = splitLens buf.length lim ∧ (split buf lim).flatten = buf ∧
    (∀ c ∈ split buf lim, c.length ≤ lim) ∧ split buf lim ≠ [] := by
  unfold split splitLens
  by_cases h : buf.length = 0
  · rw [if_pos h, if_pos h, List.eq_nil_of_length_eq_zero h]
    exact ⟨rfl, rfl, by simp, by simp⟩
  · obtain ⟨h1, h2, h3⟩ := splitLoop_spec lim hl _ buf (Nat.lt_succ_self _)
    rw [if_neg h, if_neg h]
    refine ⟨h3, h1, fun c hc => (h2 c hc).2, fun he => h ?_⟩
    rw [← h1, he]; rfl

theorem markEof_cons (t : Nat) (c : Bytes) (cs : List Bytes) :
    markEof t (c :: cs) = ⟨t, cs.isEmpty, c⟩ :: markEof t cs := by cases cs <;> rfl

theorem packetsOf_topic (L : Limits) (t : Nat) (m : Bytes) : ∀ p ∈ packetsOf L t m, p.topic = t := by
  unfold packetsOf
  generalize split m L.chunk = cs
  induction cs with
  | nil => intro p hp; cases hp
  | cons c cs ih => rw [markEof_cons]; exact List.forall_mem_cons.2 ⟨rfl, ih⟩

theorem ofTopic_append (t : Nat) (xs ys : List Packet) : ofTopic t (xs ++ ys) = ofTopic t xs ++ ofTopic t ys :=
  List.filter_append xs ys

theorem ofTopic_cons_self {t : Nat} {p : Packet} {ps : List Packet} (h : p.topic = t) :
    ofTopic t (p :: ps) = p :: ofTopic t ps := by simp [ofTopic, h]

theorem ofTopic_cons_ne {t : Nat} {p : Packet} {ps : List Packet} (h : t ≠ p.topic) :
    ofTopic t (p :: ps) = ofTopic t ps := by simp [ofTopic, h.symm]

theorem sentOn_cons (t : Nat) (op : MuxOp) (ops : List MuxOp) :
    sentOn t (op :: ops) = sentOn t [op] ++ sentOn t ops := by
  cases op <;> simp only [sentOn, List.nil_append]
  split <;> rfl

/-- what the receiver completes from the packets of ONE topic it has yet to be handed, starting with
assembler `asm`; `none` = the cap is hit, or a partial message is left dangling at the end -/
def assembleOk (L : Limits) : Bytes → List Packet → Option (List Bytes)
  | asm, [] => if asm = [] then some [] else none
  | asm, p :: ps =>
    if L.maxMsg < asm.length + p.bytes.length then none
    else if p.eof then (assembleOk L [] ps).map ((asm ++ p.bytes) :: ·)
    else assembleOk L (asm ++ p.bytes) ps

theorem assembleOk_nil_eq_some {L : Limits} {asm : Bytes} {todo : List Bytes} :
    assembleOk L asm [] = some todo ↔ asm = [] ∧ todo = [] := by
  rw [assembleOk, Option.ite_some_none_eq_some, eq_comm (b := todo)]

theorem assembleOk_cons_eq_some {L : Limits} {asm : Bytes} {p : Packet} {ps : List Packet} {todo : List Bytes} :
    assembleOk L asm (p :: ps) = some todo ↔
      ¬ L.maxMsg < asm.length + p.bytes.length ∧
      (if p.eof then (assembleOk L [] ps).map ((asm ++ p.bytes) :: ·) else assembleOk L (asm ++ p.bytes) ps)
        = some todo := by
  rw [assembleOk]; exact ite_none_eq_some

theorem assembleOk_append {L : Limits} {xs : List Packet} {asm : Bytes} {t1 : List Bytes}
    (h : assembleOk L asm xs = some t1) (ys : List Packet) :
    assembleOk L asm (xs ++ ys) = (assembleOk L [] ys).map (t1 ++ ·) := by
  induction xs generalizing asm t1 with
  | nil =>
    obtain ⟨rfl, rfl⟩ := assembleOk_nil_eq_some.1 h
    rw [List.nil_append]
    cases assembleOk L [] ys <;> rfl
  | cons p ps ih =>
    obtain ⟨hfit, h⟩ := assembleOk_cons_eq_some.1 h
    rw [List.cons_append, assembleOk, if_neg hfit]
    cases he : p.eof with
    | false => rw [he] at h; exact ih h
    | true =>
      rw [he, if_pos rfl] at h
      obtain ⟨t2, h2, rfl⟩ := Option.map_eq_some_iff.1 h
      rw [if_pos rfl, ih h2]
      cases assembleOk L [] ys <;> rfl

theorem assembleOk_markEof (L : Limits) (t : Nat) (cs : List Bytes) (hne : cs ≠ []) (asm : Bytes)
    (hlen : asm.length + cs.flatten.length ≤ L.maxMsg) :
    assembleOk L asm (markEof t cs) = some [asm ++ cs.flatten] := by
  induction cs generalizing asm with
  | nil => exact absurd rfl hne
  | cons c cs ih =>
    simp only [List.flatten_cons, List.length_append] at hlen
    have hfit : ¬ L.maxMsg < asm.length + c.length := by omega
    cases cs with
    | nil => simp [markEof, assembleOk, hfit]
    | cons c' cs' =>
      have := ih (List.cons_ne_nil _ _) (asm ++ c) (by rw [List.length_append]; omega)
      simpa [markEof, assembleOk, hfit, List.append_assoc] using this

theorem assembleOk_packetsOf (L : Limits) (t : Nat) (m : Bytes) (h : m.length ≤ L.maxMsg) :
    assembleOk L [] (packetsOf L t m) = some [m] := by
  obtain ⟨-, hfl, -, hne⟩ := split_spec m L.chunk L.chunk_pos
  have := assembleOk_markEof L t (split m L.chunk) hne [] (by rw [hfl]; simpa using h)
  simpa [packetsOf, hfl] using this

theorem handle_closed (L : Limits) (r : Receiver) (p : Packet) (h : r.closed.isSome) : r.handle L p = r := by
  simp [Receiver.handle, h]

theorem handle_over {L : Limits} {r : Receiver} (p : Packet) (ho : r.closed = none)
    (ht : p.topic ≠ L.heartbeat ∧ p.topic < L.invalid)
    (hover : L.maxMsg < (r.asm.get p.topic).length + p.bytes.length) :
    r.handle L p = { r with asm := r.asm.set p.topic [], closed := some .maxMessageSize } := by
  simp only [Receiver.handle, ho, Option.isSome_none, Bool.false_eq_true, if_false, ht.1, ge_iff_le,
    Nat.not_le.2 ht.2, hover, if_true]

theorem handle_fit {L : Limits} {r : Receiver} (p : Packet) (ho : r.closed = none)
    (ht : p.topic ≠ L.heartbeat ∧ p.topic < L.invalid)
    (hfit : ¬ L.maxMsg < (r.asm.get p.topic).length + p.bytes.length) :
    r.handle L p =
      if p.eof then
        if p.topic < L.inboxTopics ∧ (r.inbox.get p.topic).length < L.inboxCap then
          { r with asm := r.asm.set p.topic [],
                   inbox := r.inbox.set p.topic (r.inbox.get p.topic ++ [r.asm.get p.topic ++ p.bytes]),
                   log := r.log.set p.topic (r.log.get p.topic ++ [r.asm.get p.topic ++ p.bytes]) }
        else { r with asm := r.asm.set p.topic [] }
      else { r with asm := r.asm.set p.topic (r.asm.get p.topic ++ p.bytes) } := by
  simp only [Receiver.handle, ho, Option.isSome_none, Bool.false_eq_true, if_false, ht.1, ge_iff_le,
    Nat.not_le.2 ht.2, hfit]

theorem handle_frame (L : Limits) (r : Receiver) (p : Packet) (t : Nat) (ht : t ≠ p.topic) :
    (r.handle L p).asm.get t = r.asm.get t ∧ (r.handle L p).log.get t = r.log.get t ∧
      (r.handle L p).inbox.get t = r.inbox.get t := by
  -- push the projections through the `if`s: every branch leaves `t` alone
  simp only [Receiver.handle, apply_ite Receiver.asm, apply_ite Receiver.log, apply_ite Receiver.inbox,
    apply_ite (fun m : TMap UInt8 => m.get t), apply_ite (fun m : TMap Bytes => m.get t),
    TMap.get_set_ne ht, ite_self, and_self]

theorem run_closed (L : Limits) (r : Receiver) (ps : List Packet) (h : r.closed.isSome) : r.run L ps = r := by
  induction ps with
  | nil => rfl
  | cons p ps ih => simp only [Receiver.run, handle_closed L r p h, ih]

/-- a message whose chunks overflow the cap closes the connection before its EOF packet is accepted -/
theorem run_overflow (L : Limits) (t : Nat) (ht : t ≠ L.heartbeat ∧ t < L.invalid) (cs : List Bytes) (hne : cs ≠ [])
    (r : Receiver) (ho : r.closed = none) (hlen : L.maxMsg < (r.asm.get t).length + cs.flatten.length) :
    (r.run L (markEof t cs)).closed = some .maxMessageSize ∧ (r.run L (markEof t cs)).log = r.log ∧
      (r.run L (markEof t cs)).inbox = r.inbox := by
  induction cs generalizing r with
  | nil => exact absurd rfl hne
  | cons c cs ih =>
    rw [markEof_cons, Receiver.run]
    by_cases hover : L.maxMsg < (r.asm.get t).length + c.length
    · -- this packet overflows; the rest finds the connection closed
      rw [handle_over ⟨t, _, c⟩ ho ht hover, run_closed L _ _ rfl]
      exact ⟨rfl, rfl, rfl⟩
    · -- it fits, so it is not the last one, and the assembler grows by it
      have hcs : cs ≠ [] := by
        rintro rfl
        exact hover (by simpa using hlen)
      simp only [handle_fit ⟨t, _, c⟩ ho ht hover, List.isEmpty_eq_false_iff.2 hcs, Bool.false_eq_true, if_false]
      refine ih hcs _ ho ?_
      simp only [List.flatten_cons, List.length_append] at hlen
      simp only [TMap.get_set_self, List.length_append]
      omega

/-- packets of topic `t` the receiver has not been handed yet: on the wire, then in the send queue -/
def pending (c : Conn) (t : Nat) : List Packet := ofTopic t (c.s.wire.drop c.rcvd) ++ c.s.queues.get t

/-- per-topic clause of the connection invariant. `sent` = messages sent on this topic so far; `done` =
those the receiver has completed (logged, or dropped for want of inbox room), `todo` = those its
assembler and the pending packets still hold -/
def TInv (L : Limits) (c : Conn) (t : Nat) (sent : List Bytes) : Prop :=
  ∃ done todo, assembleOk L (c.r.asm.get t) (pending c t) = some todo ∧ sent = done ++ todo ∧
    (c.r.log.get t).Sublist done ∧ (c.r.inbox.get t).length ≤ (c.r.log.get t).length ∧
    (t < L.inboxTopics → sent.length ≤ L.inboxCap → c.r.log.get t = done)

theorem TInv.congr {L : Limits} {c c' : Conn} {t : Nat} {sent : List Bytes} (h : TInv L c t sent)
    (ha : c'.r.asm.get t = c.r.asm.get t) (hp : pending c' t = pending c t)
    (hl : c'.r.log.get t = c.r.log.get t) (hi : c'.r.inbox.get t = c.r.inbox.get t) : TInv L c' t sent := by
  unfold TInv; rw [ha, hp, hl, hi]; exact h

structure CInv (L : Limits) (c : Conn) (sent : Nat → List Bytes) : Prop where
  alive : c.s.dead = false
  rcvd_le : c.rcvd ≤ c.s.wire.length
  open_ : c.r.closed = none
  qtopic : ∀ t, ∀ p ∈ c.s.queues.get t, p.topic = t
  qvalid : ∀ t, c.s.queues.get t ≠ [] → t ≠ L.heartbeat ∧ t < L.invalid
  wvalid : ∀ p ∈ c.s.wire, p.topic ≠ L.heartbeat ∧ p.topic < L.invalid
  topic : ∀ t, TInv L c t (sent t)

theorem CInv.init (L : Limits) : CInv L Conn.init (fun _ => []) where
  alive := rfl
  rcvd_le := Nat.le_refl _
  open_ := rfl
  qtopic := fun _ _ h => nomatch h
  qvalid := fun _ h => absurd rfl h
  wvalid := fun _ h => nomatch h
  topic := fun _ => ⟨[], [], rfl, rfl, List.Sublist.refl _, Nat.le_refl _, fun _ _ => rfl⟩

theorem CInv.send {L c sent} (h : CInv L c sent) (t0 : Nat) (m : Bytes)
    (hv : t0 ≠ L.heartbeat ∧ t0 < L.invalid ∧ m.length ≤ L.maxMsg) :
    CInv L (c.step L (.send t0 m)) (fun t => sent t ++ sentOn t [.send t0 m]) := by
  simp only [Conn.step, Sender.send, h.alive, Bool.false_eq_true, if_false]
  refine ⟨rfl, h.rcvd_le, h.open_, fun t p hp => ?_, fun t hne => ?_, h.wvalid, fun t => ?_⟩
  · by_cases ht : t = t0
    · subst ht
      rw [TMap.get_set_self, List.mem_append] at hp
      exact hp.elim (h.qtopic t p) (packetsOf_topic L t m p)
    · rw [TMap.get_set_ne ht] at hp; exact h.qtopic t p hp
  · by_cases ht : t = t0
    · subst ht; exact ⟨hv.1, hv.2.1⟩
    · rw [TMap.get_set_ne ht] at hne; exact h.qvalid t hne
  · by_cases ht : t = t0
    · -- the new packets come last and assemble to exactly `m`
      subst ht
      obtain ⟨done, todo, ha, hs, hl, hi, he⟩ := h.topic t
      simp only [sentOn, if_true]
      refine ⟨done, todo ++ [m], ?_, by rw [hs, List.append_assoc], hl, hi, fun h1 h2 => ?_⟩
      · simp only [pending, TMap.get_set_self, ← List.append_assoc] at ha ⊢
        rw [assembleOk_append ha (packetsOf L t m), assembleOk_packetsOf L t m hv.2.2]; rfl
      · rw [List.length_append] at h2
        exact he h1 (Nat.le_of_add_right_le h2)
    · simp only [sentOn, if_neg (Ne.symm ht), List.append_nil]
      exact (h.topic t).congr rfl (by simp only [pending, TMap.get_set_ne ht]) rfl rfl

/-- the send loop moves the head of a queue to the end of the wire: no topic's pending packets change -/
theorem CInv.pick {L c sent} (h : CInv L c sent) (t0 : Nat) : CInv L (c.step L (.pick t0)) sent := by
  simp only [Conn.step, Sender.pick, h.alive, Bool.false_eq_true, if_false]
  cases hq : c.s.queues.get t0 with
  | nil => exact h
  | cons p rest =>
    have hpt : p.topic = t0 := h.qtopic t0 p (by simp [hq])
    have hval := h.qvalid t0 (by simp [hq])
    show CInv L ⟨⟨c.s.queues.set t0 rest, c.s.wire ++ [p], false⟩, c.r, c.rcvd⟩ sent
    refine ⟨rfl, Nat.le_trans h.rcvd_le (by simp), h.open_, fun t q hq' => ?_, fun t hne => ?_, fun q hq' => ?_, fun t => ?_⟩
    · by_cases ht : t = t0
      · subst ht
        rw [TMap.get_set_self] at hq'
        exact h.qtopic t q (by rw [hq]; exact List.mem_cons_of_mem _ hq')
      · rw [TMap.get_set_ne ht] at hq'; exact h.qtopic t q hq'
    · by_cases ht : t = t0
      · exact ht ▸ hval
      · rw [TMap.get_set_ne ht] at hne; exact h.qvalid t hne
    · rcases List.mem_append.1 hq' with hq' | hq'
      · exact h.wvalid q hq'
      · rw [List.mem_singleton.1 hq', hpt]; exact hval
    · refine (h.topic t).congr rfl ?_ rfl rfl
      simp only [pending, List.drop_append_of_le_length h.rcvd_le, ofTopic_append, List.append_assoc]
      by_cases ht : t = t0
      · subst ht; rw [TMap.get_set_self, hq, ofTopic_cons_self hpt]; rfl
      · rw [TMap.get_set_ne ht, ofTopic_cons_ne (hpt ▸ ht)]; rfl

theorem CInv.drain {L c sent} (h : CInv L c sent) (t0 : Nat) : CInv L (c.step L (.drain t0)) sent := by
  refine ⟨h.alive, h.rcvd_le, h.open_, h.qtopic, h.qvalid, h.wvalid, fun t => ?_⟩
  obtain ⟨done, todo, ha, hs, hl, hi, he⟩ := h.topic t
  refine ⟨done, todo, ha, hs, hl, ?_, he⟩
  simp only [Conn.step, Receiver.drain]
  by_cases ht : t = t0
  · subst ht
    rw [TMap.get_set_self]
    exact Nat.zero_le _
  · rw [TMap.get_set_ne ht]; exact hi

theorem CInv.deliver {L c sent} (h : CInv L c sent) : CInv L (c.step L .deliver) sent := by
  simp only [Conn.step]
  cases hw : c.s.wire[c.rcvd]? with
  | none => exact h
  | some p =>
    show CInv L ⟨c.s, c.r.handle L p, c.rcvd + 1⟩ sent
    obtain ⟨hlt, hp⟩ := List.getElem?_eq_some_iff.1 hw
    have hdrop : c.s.wire.drop c.rcvd = p :: c.s.wire.drop (c.rcvd + 1) := by
      rw [List.drop_eq_getElem_cons hlt, hp]
    have hval := h.wvalid p (hp ▸ List.getElem_mem hlt)
    -- streams other than `p`'s see neither the packet nor a change of the receiver; for `p`'s own
    -- stream it remains to show the clause, and that the receiver stays open
    suffices hr : (c.r.handle L p).closed = none ∧ TInv L ⟨c.s, c.r.handle L p, c.rcvd + 1⟩ p.topic (sent p.topic) by
      refine ⟨h.alive, hlt, hr.1, h.qtopic, h.qvalid, h.wvalid, fun t => ?_⟩
      by_cases ht : t = p.topic
      · exact ht ▸ hr.2
      · obtain ⟨h1, h2, h3⟩ := handle_frame L c.r p t ht
        refine (h.topic t).congr h1 ?_ h2 h3
        simp only [pending, hdrop, ofTopic_cons_ne ht]
    -- `p` heads the pending packets of its stream, so the clause of that stream says that it fits
    obtain ⟨done, todo, ha, hs, hl, hi, he⟩ := h.topic p.topic
    simp only [pending, hdrop, ofTopic_cons_self rfl, List.cons_append, assembleOk_cons_eq_some] at ha
    obtain ⟨hfit, ha⟩ := ha
    rw [handle_fit p h.open_ hval hfit]
    cases heof : p.eof with
    | false =>
      rw [heof] at ha
      exact ⟨h.open_, done, todo, by simpa [pending] using ha, hs, hl, hi, he⟩
    | true =>
      -- the message completes: it moves from `todo` to `done`, logged if the inbox has room
      rw [heof, if_pos rfl] at ha
      obtain ⟨todo', h2, rfl⟩ := Option.map_eq_some_iff.1 ha
      have hs' : sent p.topic = (done ++ [c.r.asm.get p.topic ++ p.bytes]) ++ todo' := by
        rw [hs, List.append_assoc]; rfl
      by_cases hroom : p.topic < L.inboxTopics ∧ (c.r.inbox.get p.topic).length < L.inboxCap
      · simp only [hroom, and_self, if_true]
        refine ⟨h.open_, _, todo', by simpa [pending] using h2, hs', ?_, ?_, fun h1 h3 => ?_⟩
        · simp only [TMap.get_set_self]; exact List.Sublist.append hl (List.Sublist.refl _)
        · simp only [TMap.get_set_self, List.length_append, List.length_cons, List.length_nil]; omega
        · simp only [TMap.get_set_self]; rw [he h1 h3]
      · simp only [hroom, if_false, if_true]
        refine ⟨h.open_, _, todo', by simpa [pending] using h2, hs', hl.trans (List.sublist_append_left _ _), hi, fun h1 h3 => ?_⟩
        -- nothing was dropped so far, so the inbox holds at most `done`, fewer than were sent
        refine absurd ⟨h1, ?_⟩ hroom
        have := congrArg List.length (he h1 h3)
        rw [hs] at h3
        simp only [List.length_append, List.length_cons] at h3
        omega

theorem CInv.step {L c sent} (h : CInv L c sent) (op : MuxOp) (ha : op.atomic = true) (hv : op.valid L = true) :
    CInv L (c.step L op) (fun t => sent t ++ sentOn t [op]) := by
  cases op with
  | send t0 m => exact h.send t0 m (by simpa [MuxOp.valid, and_assoc] using hv)
  | sendPartial t0 m k => cases ha
  | pick t0 => simpa [sentOn] using h.pick t0
  | deliver => simpa [sentOn] using h.deliver
  | drain t0 => simpa [sentOn] using h.drain t0

theorem run_induction (L : Limits) {P : Conn → (Nat → List Bytes) → Prop} (ops : List MuxOp)
    (hstep : ∀ op ∈ ops, ∀ c sent, P c sent → P (c.step L op) (fun t => sent t ++ sentOn t [op]))
    {c : Conn} {sent : Nat → List Bytes} (h : P c sent) :
    P (Conn.run L c ops) (fun t => sent t ++ sentOn t ops) := by
  induction ops generalizing c sent with
  | nil => simpa only [Conn.run, sentOn, List.append_nil] using h
  | cons op ops ih =>
    have := ih (fun o ho => hstep o (List.mem_cons_of_mem _ ho)) (hstep op (List.mem_cons_self ..) c sent h)
    simpa only [Conn.run, sentOn_cons _ op ops, List.append_assoc] using this

theorem run_inv (L : Limits) (ops : List MuxOp) (hA : EnqueueAtomic ops) (hV : SendsValid L ops)
    {c : Conn} {sent : Nat → List Bytes} (h : CInv L c sent) :
    CInv L (Conn.run L c ops) (fun t => sent t ++ sentOn t ops) :=
  run_induction L (P := CInv L) ops (fun op ho _ _ h => h.step op (hA op ho) (hV op ho)) h

theorem CInv.delivery {L c sent} (h : CInv L c sent) (t : Nat) :
    c.r.closed = none ∧ ∃ done todo, sent t = done ++ todo ∧ (c.r.log.get t).Sublist done ∧
      (pending c t = [] → todo = []) ∧
      (t < L.inboxTopics → (sent t).length ≤ L.inboxCap → c.r.log.get t = done) := by
  obtain ⟨done, todo, ha, hs, hl, -, he⟩ := h.topic t
  refine ⟨h.open_, done, todo, hs, hl, fun hp => ?_, he⟩
  rw [hp] at ha
  exact (assembleOk_nil_eq_some.1 ha).2

/-- the invariant of histories in which an enqueue may stop half-way, for code that then stops the
sender: the connection invariant until an enqueue fails; from then on the receiver's future depends on
the wire, the receiver and the number of packets handed over only, and these are as in a live
connection (with queues `q₀`) on which a prefix `sent₀` of the messages was sent -/
def DInv (L : Limits) (c : Conn) (sent : Nat → List Bytes) : Prop :=
  CInv L c sent ∨ (c.s.dead = true ∧ ∃ q₀ sent₀,
    CInv L ⟨⟨q₀, c.s.wire, false⟩, c.r, c.rcvd⟩ sent₀ ∧ ∀ t, sent₀ t <+: sent t)

theorem DInv.init (L : Limits) : DInv L Conn.init (fun _ => []) := .inl (CInv.init L)

/-- a stopped sender refuses sends and its send loop has quit: nothing new reaches the wire -/
theorem step_dead (L : Limits) {c : Conn} (hd : c.s.dead = true) (op : MuxOp) : (c.step L op).s = c.s := by
  cases op <;> simp only [Conn.step, Sender.send, Sender.sendPartial, Sender.pick, hd, if_true]
  split <;> rfl

theorem DInv.step {L c sent} (hT : L.tearDownOnPartial = true) (h : DInv L c sent) (op : MuxOp)
    (hv : op.valid L = true) : DInv L (c.step L op) (fun t => sent t ++ sentOn t [op]) := by
  rcases h with h | ⟨hd, q₀, sent₀, h, hp⟩
  · cases op with
    | sendPartial t0 m k =>
      -- the failed enqueue stops the sender; wire and receiver have seen nothing of it
      refine .inr ⟨?_, c.s.queues, sent, ?_, fun t => List.prefix_append _ _⟩
      · simp only [Conn.step, Sender.sendPartial, h.alive, Bool.false_eq_true, if_false, hT]
      · simp only [Conn.step, Sender.sendPartial, h.alive, Bool.false_eq_true, if_false]
        rw [← h.alive]; exact h
    | _ => exact .inl (h.step _ rfl hv)
  · refine .inr ⟨by rw [step_dead L hd]; exact hd, q₀, sent₀, ?_, fun t => (hp t).trans (List.prefix_append _ _)⟩
    rw [step_dead L hd]
    -- `send`, `sendPartial` and `pick` leave a stopped connection as it is; `deliver` and `drain` read
    -- wire and receiver only, so they act on the live connection alike
    cases op with
    | deliver =>
      have := h.deliver
      simp only [Conn.step] at this ⊢
      generalize c.s.wire[c.rcvd]? = next at this ⊢
      cases next with
      | none => exact this
      | some p => exact this
    | drain t0 => exact h.drain t0
    | _ => exact h

theorem run_dinv (L : Limits) (hT : L.tearDownOnPartial = true) (ops : List MuxOp) (hV : SendsValid L ops)
    {c : Conn} {sent : Nat → List Bytes} (h : DInv L c sent) :
    DInv L (Conn.run L c ops) (fun t => sent t ++ sentOn t ops) :=
  run_induction L (P := DInv L) ops (fun op ho _ _ h => h.step hT op (hV op ho)) h

theorem DInv.delivery {L c sent} (h : DInv L c sent) (t : Nat) :
    c.r.closed = none ∧ ∃ done todo, sent t = done ++ todo ∧ (c.r.log.get t).Sublist done := by
  rcases h with h | ⟨-, q₀, sent₀, h, hp⟩
  · obtain ⟨ho, done, todo, hs, hl, -⟩ := h.delivery t
    exact ⟨ho, done, todo, hs, hl⟩
  · obtain ⟨ho, done, todo, hs, hl, -⟩ := h.delivery t
    obtain ⟨rest, hrest⟩ := hp t
    exact ⟨ho, done, todo ++ rest, by rw [← hrest, hs, List.append_assoc], hl⟩

end Canopy.Mux
