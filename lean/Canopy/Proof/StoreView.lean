import Canopy.Proof.StoreIter
import Canopy.Proof.StoreSorted
/-! What a `VersionedStore` reader shows, stated on the key space as a finite map (C10):
`Sees db v uk x` = the newest version ≤ `v` of user key `uk` present in `db` is alive with value `x`.
`VersionedStore.get` and every iterator strategy return exactly that. -/
namespace Canopy.Store

/-- a logical view: `R k x` = key `k` is present with value `x` -/
abbrev View := Bytes → Bytes → Prop

/-- `out` is *the* prefix scan of the view `R` -/
def IsScanR (R : View) (p : Bytes) (reverse : Bool) (out : List (Bytes × Bytes)) : Prop :=
  KeysSorted reverse (out.map (·.1)) ∧ ∀ k x, (k, x) ∈ out ↔ (hasPrefix p k = true ∧ R k x)

theorem IsScanR.congr {R R' : View} {p : Bytes} {reverse : Bool} {out : List (Bytes × Bytes)}
    (h : ∀ k x, R k x ↔ R' k x) (hs : IsScanR R p reverse out) : IsScanR R' p reverse out :=
  ⟨hs.1, fun k x => by rw [hs.2, h]⟩

theorem isScan_iff_isScanR (f : Bytes → Option Bytes) (p : Bytes) (reverse : Bool) (out : List (Bytes × Bytes)) :
    IsScan f p reverse out ↔ IsScanR (fun k x => f k = some x) p reverse out := Iff.rfl

/-- the newest version ≤ `v` of `uk` in the key space is alive with value `x` -/
def Sees (db : DB) (v : Nat) (uk x : Bytes) : Prop :=
  ∃ w raw, w ≤ v ∧ w ≤ maxVer ∧ smGet db (mkKey uk w) = some raw ∧
    (∀ w' raw', w' ≤ v → w' ≤ maxVer → smGet db (mkKey uk w') = some raw' → w' ≤ w) ∧
    (parseVal raw).1 ≠ deadTomb ∧ (parseVal raw).2 = x

theorem sees_iff_groups {gs : List G} (hW : WFG gs) (v : Nat) (uk x : Bytes) :
    Sees (flat gs) v uk x ↔ ∃ g ∈ gs, g.uk = uk ∧ g.pick v = some (uk, x) := by
  constructor
  · rintro ⟨w, raw, hwv, hwm, hget, hmax, hal, hx⟩
    obtain ⟨g, hg, hgu, hmem⟩ := (smGet_flat hW uk w hwm raw).mp hget
    refine ⟨g, hg, hgu, (G.pick_iff (hW.wf g hg) v uk x).mpr ⟨hgu.symm, w, raw, hmem, hwv, ?_, hal, hx⟩⟩
    intro q hq hqv
    have hqm := (hW.wf g hg).le_max q hq
    exact hmax q.1 q.2 hqv hqm ((smGet_flat hW uk q.1 hqm q.2).mpr ⟨g, hg, hgu, hq⟩)
  · rintro ⟨g, hg, hgu, hp⟩
    obtain ⟨_, w, raw, hmem, hwv, hmax, hal, hx⟩ := (G.pick_iff (hW.wf g hg) v uk x).mp hp
    have hwm := (hW.wf g hg).le_max _ hmem
    refine ⟨w, raw, hwv, hwm, (smGet_flat hW uk w hwm raw).mpr ⟨g, hg, hgu, hmem⟩, ?_, hal, hx⟩
    intro w' raw' hw'v hw'm hget'
    obtain ⟨g', hg', hgu', hmem'⟩ := (smGet_flat hW uk w' hw'm raw').mp hget'
    have : g' = g := hW.uk_unique hg' hg (by rw [hgu', hgu])
    subst this
    exact hmax _ hmem' hw'v

/-- the queried user key is not a proper prefix or extension of a stored user key -/
def KeyCompat (db : DB) (uk : Bytes) : Prop :=
  ∀ e ∈ db, ∀ u w, e.1 = mkKey u w → (u <+: uk ∨ uk <+: u) → u = uk

/-- no stored user key is a proper prefix of the iteration prefix -/
def PrefixCompat (db : DB) (pfx : Bytes) : Prop :=
  ∀ e ∈ db, ∀ u w, e.1 = mkKey u w → u <+: pfx → u = pfx

theorem VS.get_eq_bind (vs : VS) (uk : Bytes) :
    vs.get uk = (vs.getRaw uk).bind fun tv => if tv.1 = deadTomb then none else some tv.2 := by
  unfold VS.get
  cases vs.getRaw uk with
  | none => rfl
  | some tv => obtain ⟨t, v⟩ := tv; rfl

/-- **`VersionedStore.Get`** returns the newest version ≤ the read version, tombstones hidden -/
theorem VS.get_sees (db : DB) (h : WFL db) (v : Nat) (hvm : v ≤ maxVer) (uk : Bytes) (hc : KeyCompat db uk)
    (x : Bytes) : (VS.mk db v).get uk = some x ↔ Sees db v uk x := by
  obtain ⟨gs, hW, rfl⟩ := exists_groups db h
  have hcg : ∀ g ∈ gs, (g.uk <+: uk ∨ uk <+: g.uk) → g.uk = uk := by
    intro g hg hp
    obtain ⟨q, _, hm⟩ := mem_flat_of_group hW hg
    exact hc _ hm g.uk q.1 rfl hp
  rw [sees_iff_groups hW, VS.get_eq_bind, VS.getRaw_groups gs hW v hvm uk hcg]
  cases hf : gs.find? (fun g => decide (g.uk = uk)) with
  | none =>
    simp only [Option.bind_none]
    constructor
    · intro h; cases h
    · rintro ⟨g, hg, hgu, _⟩
      have := List.find?_eq_none.mp hf g hg
      simp [hgu] at this
  | some g =>
    have hg : g ∈ gs := List.mem_of_find?_eq_some hf
    have hgu : g.uk = uk := by simpa using List.find?_some hf
    subst hgu
    have hone : (∃ g' ∈ gs, g'.uk = g.uk ∧ g'.pick v = some (g.uk, x)) ↔ g.pick v = some (g.uk, x) :=
      ⟨fun ⟨g', hg', hgu', hp⟩ => hW.uk_unique hg' hg hgu' ▸ hp, fun hp => ⟨g, hg, rfl, hp⟩⟩
    simp only
    rw [hone, G.pick]
    cases g.es.find? (fun p => decide (p.1 ≤ v)) with
    | none => simp
    | some p => by_cases hd : (parseVal p.2).1 = deadTomb <;> simp [emit, hd]

theorem cur_mem_of_seekGE {all : List Entry} {t : Bytes} {e : Entry} (h : (PCur.seekGE all t).cur? = some e) :
    e ∈ all := by
  unfold PCur.cur? PCur.seekGE at h
  simp only [Bool.false_eq_true, if_false] at h
  exact (List.dropWhile_sublist _).subset (List.mem_of_mem_head? h)

/-- `VS.get_sees` without `KeyCompat`: on a well-formed key space a point read needs no compatibility
hypothesis — prefix-freeness gives it, or no entry has the key -/
theorem VS.get_sees' (db : DB) (h : WFL db) (v : Nat) (hvm : v ≤ maxVer) (uk x : Bytes) :
    (VS.mk db v).get uk = some x ↔ Sees db v uk x := by
  by_cases hst : ∃ e ∈ db, ∃ w, e.1 = mkKey uk w
  · obtain ⟨e, he, w, hew⟩ := hst
    apply VS.get_sees db h v hvm uk
    intro e' he' u w' hu hp
    rcases hp with hp | hp
    · exact h.pf e' he' e he u w' uk w hu hew hp
    · exact (h.pf e he e' he' uk w u w' hew hu hp).symm
  · constructor
    · intro hg
      exfalso
      rw [VS.get_eq_bind] at hg
      cases hraw : (VS.mk db v).getRaw uk with
      | none => rw [hraw] at hg; cases hg
      | some tv =>
        unfold VS.getRaw at hraw
        simp only at hraw
        cases hc : (PCur.seekGE (bound db uk (prefixEnd uk)) (mkKey uk v)).cur? with
        | none => rw [hc] at hraw; cases hraw
        | some e =>
          rw [hc] at hraw
          have hmem : e ∈ db := (List.mem_filter.mp (cur_mem_of_seekGE hc)).1
          obtain ⟨u, w, hew, hne, _, _⟩ := h.shaped e hmem
          simp only at hraw
          rw [hew, userKeyOf_mkKey _ hne] at hraw
          simp only at hraw
          by_cases hu : u = uk
          · exact hst ⟨e, hmem, w, hu ▸ hew⟩
          · rw [if_pos hu] at hraw; cases hraw
    · rintro ⟨w, raw, _, _, hget, _⟩
      exact absurd ⟨_, (smGet_eq_some_iff h.sorted _ _).mp hget, w, rfl⟩ hst

theorem keysSorted_of_groups {gs : List G} (hW : WFG gs) (v : Nat) :
    KeysSorted false ((gs.filterMap (G.pick v)).map (·.1)) ∧
    KeysSorted true ((gs.reverse.filterMap (G.pick v)).map (·.1)) := by
  have hkey : ∀ g : G, ∀ kx ∈ g.pick v, kx.1 = g.uk := fun g kx hkx => (G.pick_eq_some.mp hkx).1
  constructor
  · unfold KeysSorted
    rw [List.pairwise_map, List.pairwise_filterMap]
    exact hW.order.imp fun {g h} hgh a ha b hb => by
      simp only [Bool.false_eq_true, if_false]
      rw [hkey g a ha, hkey h b hb]; exact hgh.1
  · unfold KeysSorted
    rw [List.pairwise_map, List.pairwise_filterMap, List.pairwise_reverse]
    exact hW.order.imp fun {g h} hgh a ha b hb => by
      simp only [if_true]
      rw [hkey h a ha, hkey g b hb]; exact hgh.1

/-- **every `VersionedIterator` strategy** (seek/linear × forward/reverse) yields exactly the prefix
scan of what point reads show: complete, strictly ordered, duplicate-free -/
theorem VS.iter_sees (db : DB) (h : WFL db) (v : Nat) (hvm : v ≤ maxVer) (pfx : Bytes)
    (hq : PrefixCompat db pfx) (reverse seek : Bool) :
    IsScanR (Sees db v) pfx reverse ((VS.mk db v).iter pfx reverse seek) := by
  obtain ⟨gs, hW, rfl⟩ := exists_groups db h
  have hqg : QueryOK gs pfx := by
    intro g hg hp
    obtain ⟨q, _, hm⟩ := mem_flat_of_group hW hg
    exact hq _ hm g.uk q.1 rfl hp
  have hb := bound_groups gs hW pfx hqg
  have hW' := hW.filter fun g => hasPrefix pfx g.uk
  rw [VS.iter_groups (flat gs) v hvm pfx reverse seek _ hW' hb]
  have hmem : ∀ (l : List G), (∀ g, g ∈ l ↔ g ∈ gs.filter fun g => hasPrefix pfx g.uk) → ∀ k x,
      (k, x) ∈ l.filterMap (G.pick v) ↔ (hasPrefix pfx k = true ∧ Sees (flat gs) v k x) := by
    intro l hl k x
    rw [sees_iff_groups hW, List.mem_filterMap]
    constructor
    · rintro ⟨g, hg, hp⟩
      have hg' := List.mem_filter.mp ((hl g).mp hg)
      have hk := (G.pick_eq_some.mp hp).1
      subst hk
      exact ⟨hg'.2, g, hg'.1, rfl, hp⟩
    · rintro ⟨hpre, g, hg, rfl, hp⟩
      exact ⟨g, (hl g).mpr (List.mem_filter.mpr ⟨hg, hpre⟩), hp⟩
  have hsorted := keysSorted_of_groups hW' v
  cases reverse with
  | false => exact ⟨hsorted.1, hmem _ (fun _ => Iff.rfl)⟩
  | true => exact ⟨hsorted.2, hmem _ (fun _ => List.mem_reverse)⟩

end Canopy.Store
