import Canopy.Proof.StoreRollback
/-! The store state machine (C10). `Inv`: the key space represents a versioned map and every pending
layer, copy and held view is a well-formed handle over a represented snapshot; a read-only view at `v` then
reads the versioned map as of `v` (`Inv.readOnly_get`, `Inv.readOnly_iter`). Every operation preserves `Inv`
and changes the map as `specApply` says (`Inv.apply_spec`); over a run, a version that no operation rolls
back below reads the same before and after (`Inv.run_reads`), hence a read-only view at it returns after
the run what it returned before (`Inv.history`). -/
namespace Canopy.Store

theorem overlayOK_smSet {K : Bytes → Prop} {o : Overlay} (h : SSorted o ∧ ∀ e ∈ o, K e.1) {k : Bytes} (hk : K k)
    (op : TOp) : SSorted (smSet o k op) ∧ ∀ e ∈ smSet o k op, K e.1 :=
  ⟨sorted_smSet h.1 k op, fun e he => (mem_of_mem_smSet he).elim (fun e0 => e0 ▸ hk) (h.2 e)⟩

theorem layersOK_write {K : Bytes → Prop} {hd : Handle} (h : LayersOK K hd.layers) {k : Bytes} (hk : K k) (op : TOp) :
    LayersOK K (hd.write k op).layers := by
  unfold Handle.write
  split
  · exact h
  · next l rest hls =>
    rw [hls] at h
    intro x hx
    rcases List.mem_cons.mp hx with rfl | hx
    · exact overlayOK_smSet (h l List.mem_cons_self) hk op
    · exact h x (List.mem_cons_of_mem _ hx)

theorem layersOK_flush {K : Bytes → Prop} {ls ls' : List Layer} (h : LayersOK K ls) (hf : flushLayers ls = some ls') :
    LayersOK K ls' := by
  unfold flushLayers at hf
  split at hf
  · next top below rest =>
    cases hf
    have hres : SSorted (top.ov.foldl (fun o e => smSet o e.1 e.2) below.ov) ∧
        ∀ e ∈ top.ov.foldl (fun o e => smSet o e.1 e.2) below.ov, K e.1 :=
      List.foldlRecOn (motive := fun o : Overlay => SSorted o ∧ ∀ e ∈ o, K e.1) top.ov _ (h below (by simp))
        fun _ ho a ha => overlayOK_smSet ho ((h top List.mem_cons_self).2 a ha) a.2
    refine LayersOK.cons_empty (fun x hx => ?_) top.seek
    rcases List.mem_cons.mp hx with rfl | hx
    · exact hres
    · exact h.tail.tail x hx
  · cases hf

/-- a copy or held view: its bottom reader shows some versioned map at some version, and its layers are
`LayersOK` -/
def SideOK (K : Bytes → Prop) (h : Handle) : Prop :=
  (∃ m' v', Reads K h (readAt m' v')) ∧ LayersOK K h.layers

theorem sideOK_write {K : Bytes → Prop} {h : Handle} (hs : SideOK K h) {k : Bytes} (hk : K k) (op : TOp) :
    SideOK K (h.write k op) := by
  obtain ⟨⟨m', v', hr⟩, hl⟩ := hs
  exact ⟨⟨m', v', hr.write k op⟩, layersOK_write hl hk op⟩

/-- **the state invariant**: the key space represents the versioned map `m` at the store's version,
every pending layer is a sorted overlay over keys of `K`, and every copy and held view is `SideOK` -/
structure Inv (K : Bytes → Prop) (s : State) (m : VMap) : Prop where
  rep : Rep K s.db m s.version
  main : LayersOK K s.main
  side : ∀ h ∈ s.copies ++ s.held, SideOK K h

theorem Inv.init (K : Bytes → Prop) : Inv K {} [] where
  rep := Rep.init K
  main := layersOK_empty K
  side := by simp

theorem Inv.side_set {K : Bytes → Prop} {s : State} {m : VMap} (hi : Inv K s m) {i : Nat} {h0 : Handle}
    (hc : s.copies[i]? = some h0) {k : Bytes} (hk : K k) (op : TOp) :
    ∀ h ∈ s.copies.set i (h0.write k op) ++ s.held, SideOK K h := by
  intro h hh
  rcases List.mem_append.mp hh with hh | hh
  · rcases List.mem_or_eq_of_mem_set hh with hh | rfl
    · exact hi.side h (List.mem_append_left _ hh)
    · exact sideOK_write (hi.side h0 (List.mem_append_left _ (List.mem_of_getElem? hc))) hk _
  · exact hi.side h (List.mem_append_right _ hh)

theorem Inv.reads_main {K : Bytes → Prop} (hK : WFKeys K) {s : State} {m : VMap} (hi : Inv K s m) :
    Reads K s.handle (readAt m s.version) := hi.rep.reads_lss hK s.main

theorem Inv.reads_readOnly {K : Bytes → Prop} (hK : WFKeys K) {s : State} {m : VMap} (hi : Inv K s m)
    {v : Nat} (hv : v ≤ maxVer) : Reads K (s.readOnly v) (readAt m v) ∧ (s.readOnly v).layers = [{}] := by
  unfold State.readOnly
  by_cases h : s.version = v
  · rw [if_pos h]; exact ⟨h ▸ hi.rep.reads_lss hK [{}], rfl⟩
  · rw [if_neg h]; exact ⟨hi.rep.reads_hss hK hv [{}], rfl⟩

theorem Inv.readOnly_get {K : Bytes → Prop} (hK : WFKeys K) {s : State} {m : VMap} (hi : Inv K s m)
    {v : Nat} (hv : v ≤ maxVer) {k : Bytes} (hk : K k) : (s.readOnly v).get k = some (readAt m v k) := by
  obtain ⟨hr, hl⟩ := hi.reads_readOnly hK hv
  rw [hr.get hK hk, hl, specView_single]

theorem Inv.readOnly_iter {K : Bytes → Prop} (hK : WFKeys K) {s : State} {m : VMap} (hi : Inv K s m)
    {v : Nat} (hv : v ≤ maxVer) {p : Bytes} (hp : PfxOK K p) (hpk : keyOK p = true) (reverse : Bool) :
    ∃ out, (s.readOnly v).iter p reverse = some out ∧ IsScan (readAt m v) p reverse out := by
  obtain ⟨hr, hl⟩ := hi.reads_readOnly hK hv
  have := hr.iter hK (hl ▸ layersOK_empty K) hp hpk reverse
  rwa [hl, specView_single] at this

/-- every key an operation writes belongs to the key universe (and versions are `uint64`) -/
def OpOK (K : Bytes → Prop) : Op → Prop
  | .set k _ => K k
  | .del k => K k
  | .cset _ k _ => K k
  | .cdel _ k => K k
  | .hold v => v ≤ maxVer
  | _ => True

/-- the operation does not roll back below `v` -/
def KeepsHistory (v : Nat) : Op → Prop
  | .rollback t => v ≤ t
  | _ => True

/-- **what an operation does to the versioned map**: a commit (outside nested transactions) adds the pending
operations as the next version, an accepted rollback forgets every version above its target, nothing else
changes it -/
def specApply (s : State) (m : VMap) : Op → VMap
  | .commit => match s.main with
    | [l] => m.commit l.ov (s.version + 1)
    | _ => m
  | .rollback t => match s.main with
    | [_] => if t = 0 ∨ s.version ≤ t then m else m.rollback t
    | _ => m
  | _ => m

/-- the versioned map a sequence of operations builds -/
def specRun (s : State) (m : VMap) : List Op → VMap
  | [] => m
  | op :: ops => specRun (s.apply op) (specApply s m op) ops

/-- the state a sequence of operations leads to -/
def runOps (s : State) (ops : List Op) : State := ops.foldl State.apply s

/-- **every operation preserves the invariant**, with the versioned map changed as `specApply` says, and
raises the version by at most one; a committed version it does not roll back below stays committed and
reads the same -/
theorem Inv.apply_spec {K : Bytes → Prop} (hK : WFKeys K) {s : State} {m : VMap} (hi : Inv K s m) (op : Op)
    (hop : OpOK K op) (hver : s.version + 1 < maxVer) :
    Inv K (s.apply op) (specApply s m op) ∧ (s.apply op).version ≤ s.version + 1 ∧
      ∀ v, v ≤ s.version → KeepsHistory v op →
        (v ≤ (s.apply op).version ∧ ∀ k, readAt (specApply s m op) v k = readAt m v k) := by
  have same : ∀ s' : State, s'.db = s.db → s'.version = s.version → LayersOK K s'.main →
      (∀ h ∈ s'.copies ++ s'.held, SideOK K h) → specApply s m op = m →
      Inv K s' (specApply s m op) ∧ s'.version ≤ s.version + 1 ∧
        ∀ v, v ≤ s.version → KeepsHistory v op →
          (v ≤ s'.version ∧ ∀ k, readAt (specApply s m op) v k = readAt m v k) := by
    intro s' h1 h2 h3 h4 h5
    rw [h5]
    exact ⟨⟨by rw [h1, h2]; exact hi.rep, h3, h4⟩, Nat.le_trans (Nat.le_of_eq h2) (Nat.le_succ _),
      fun v hv _ => ⟨Nat.le_trans hv (Nat.le_of_eq h2.symm), fun _ => rfl⟩⟩
  -- an operation that does not apply leaves the state as it is
  have keep := same s rfl rfl hi.main hi.side
  cases op with
  | set k v | del k => exact same _ rfl rfl (layersOK_write (hd := s.handle) hi.main hop _) hi.side rfl
  | nest => exact same _ rfl rfl (hi.main.cons_empty true) hi.side rfl
  | flush =>
    simp only [State.apply]
    cases hf : flushLayers s.main with
    | none => exact keep rfl
    | some ls => exact same _ rfl rfl (layersOK_flush hi.main hf) hi.side rfl
  | discard =>
    simp only [State.apply]
    split
    · next top below rest hm => exact same _ rfl rfl ((hm ▸ hi.main).tail.cons_empty top.seek) hi.side rfl
    · exact keep rfl
  | pop =>
    simp only [State.apply]
    split
    · next top below rest hm => exact same _ rfl rfl (hm ▸ hi.main).tail hi.side rfl
    · exact keep rfl
  | commit =>
    simp only [State.apply, State.commit]
    match hm : s.main with
    | [] | _ :: _ :: _ => exact keep (by simp only [specApply, hm])
    | [l] =>
      have hl := hi.main l (by rw [hm]; exact List.mem_cons_self)
      have hsp : specApply s m .commit = m.commit l.ov (s.version + 1) := by simp [specApply, hm]
      rw [hsp]
      refine ⟨⟨hi.rep.commit l.ov hl.1 hl.2 hver, layersOK_empty K, hi.side⟩,
        Nat.le_refl _, fun v hv _ => ⟨Nat.le_succ_of_le hv, fun k => readAt_commit_old hi.rep.uniq hi.rep.vb hl.1 hv k⟩⟩
  | rollback t =>
    simp only [State.apply]
    match hm : s.main with
    | [] | _ :: _ :: _ => exact keep (by simp only [specApply, hm])
    | [l] =>
      simp only
      unfold State.rollback
      by_cases hrej : t = 0 ∨ s.version ≤ t
      · -- rejected, or a rollback to the current version: nothing changes
        have hsp : specApply s m (.rollback t) = m := by simp only [specApply, hm, if_pos hrej]
        by_cases h0 : t = 0
        · rw [if_pos h0]; exact keep hsp
        by_cases h1 : t > s.version
        · rw [if_neg h0, if_pos h1]; exact keep hsp
        · rw [if_neg h0, if_neg h1, if_pos (Nat.le_antisymm (Nat.le_of_not_gt h1) (hrej.resolve_left h0))]
          exact keep hsp
      · have htv : t < s.version := Nat.lt_of_not_le (not_or.mp hrej).2
        rw [if_neg (not_or.mp hrej).1, if_neg (Nat.lt_asymm htv), if_neg (Nat.ne_of_lt htv)]
        simp only [Option.getD_some]
        have hsp : specApply s m (.rollback t) = m.rollback t := by simp only [specApply, hm, if_neg hrej]
        rw [hsp]
        refine ⟨⟨hi.rep.rollback hK htv, layersOK_empty K, hi.side⟩, Nat.le_succ_of_le (Nat.le_of_lt htv),
          fun v hv hk => ⟨hk, fun k => readAt_rollback hi.rep.uniq hk k⟩⟩
  | copy =>
    refine same _ rfl rfl hi.main ?_ rfl
    intro h hh
    simp only [State.apply, List.append_assoc, List.mem_append, List.mem_singleton] at hh
    rcases hh with hh | rfl | hh
    · exact hi.side h (List.mem_append_left _ hh)
    · refine ⟨⟨m, s.version, hi.rep.reads_lss hK _⟩, ?_⟩
      intro l hl
      simp only [State.copy, List.mem_singleton] at hl
      subst hl
      cases hlast : s.main.getLast? with
      | none => exact ⟨List.Pairwise.nil, by simp⟩
      | some b => exact hi.main b (List.mem_of_getLast? hlast)
    · exact hi.side h (List.mem_append_right _ hh)
  | cset i k v | cdel i k =>
    simp only [State.apply]
    cases hc : s.copies[i]? with
    | none => exact keep rfl
    | some h0 => exact same _ rfl rfl hi.main (hi.side_set hc hop _) rfl
  | hold v =>
    refine same _ rfl rfl hi.main ?_ rfl
    intro h hh
    simp only [State.apply, ← List.append_assoc, List.mem_append, List.mem_singleton] at hh
    rcases hh with hh | rfl
    · exact hi.side h (List.mem_append.mpr hh)
    · have := hi.reads_readOnly hK (v := v) hop
      exact ⟨⟨m, v, this.1⟩, this.2 ▸ layersOK_empty K⟩

/-- **a run represents exactly the versioned map `specRun` computes**, and a version that every
operation keeps reads the same before and after -/
theorem Inv.run_reads {K : Bytes → Prop} (hK : WFKeys K) : ∀ (ops : List Op) {s : State} {m : VMap}, Inv K s m →
    (∀ op ∈ ops, OpOK K op) → s.version + ops.length + 1 < maxVer →
    Inv K (runOps s ops) (specRun s m ops) ∧ (runOps s ops).version ≤ s.version + ops.length ∧
      ∀ v, v ≤ s.version → (∀ op ∈ ops, KeepsHistory v op) →
        v ≤ (runOps s ops).version ∧ ∀ k, readAt (specRun s m ops) v k = readAt m v k := by
  intro ops
  induction ops with
  | nil => intro s m hi _ _; exact ⟨hi, Nat.le_refl _, fun v hv _ => ⟨hv, fun _ => rfl⟩⟩
  | cons op ops ih =>
    intro s m hi hops hver
    rw [List.length_cons, Nat.add_comm ops.length 1, ← Nat.add_assoc] at hver ⊢
    obtain ⟨hi1, hv1, hk1⟩ := hi.apply_spec hK op (hops op List.mem_cons_self)
      (Nat.lt_of_le_of_lt (Nat.le_add_right _ _) (Nat.lt_of_succ_lt hver))
    obtain ⟨hi2, hle2, hk2⟩ := ih hi1 (fun o ho => hops o (List.mem_cons_of_mem _ ho))
      (Nat.lt_of_le_of_lt (Nat.succ_le_succ (Nat.add_le_add_right hv1 _)) hver)
    refine ⟨hi2, Nat.le_trans hle2 (Nat.add_le_add_right hv1 _), fun v hv hkeep => ?_⟩
    obtain ⟨hvv, hread⟩ := hk1 v hv (hkeep op List.mem_cons_self)
    obtain ⟨hv2, hread2⟩ := hk2 v hvv fun o ho => hkeep o (List.mem_cons_of_mem _ ho)
    exact ⟨hv2, fun k => (hread2 k).trans (hread k)⟩

/-- **`history_immutable`** on the implementation model: once `v` is committed, what a read-only view
at `v` returns — point reads and forward/reverse prefix iteration — is the same after any later
sequence of writes, deletes, nested transactions, copies, commits, and rollbacks to heights ≥ `v` -/
theorem Inv.history {K : Bytes → Prop} (hK : WFKeys K) {s : State} {m : VMap} (hi : Inv K s m) (ops : List Op)
    (hops : ∀ op ∈ ops, OpOK K op) (hver : s.version + ops.length + 1 < maxVer) (v : Nat) (hv : v ≤ s.version)
    (hkeep : ∀ op ∈ ops, KeepsHistory v op) :
    (∀ k, K k → ((runOps s ops).readOnly v).get k = (s.readOnly v).get k) ∧
    (∀ p reverse, PfxOK K p → keyOK p = true →
      ((runOps s ops).readOnly v).iter p reverse = (s.readOnly v).iter p reverse) := by
  obtain ⟨hi', _, hk⟩ := hi.run_reads hK ops hops hver
  have hread := (hk v hv hkeep).2
  have hvm : v ≤ maxVer := Nat.le_of_lt (Nat.lt_of_le_of_lt hv hi.rep.ver_lt)
  have hf : readAt (specRun s m ops) v = readAt m v := funext hread
  constructor
  · intro k hk
    rw [hi'.readOnly_get hK hvm hk, hi.readOnly_get hK hvm hk, hread]
  · intro p reverse hp hpk
    obtain ⟨o1, h1, s1⟩ := hi'.readOnly_iter hK hvm hp hpk reverse
    obtain ⟨o2, h2, s2⟩ := hi.readOnly_iter hK hvm hp hpk reverse
    have : o1 = o2 := isScan_unique (f := readAt m v) (by rw [← hf]; exact s1) s2
    rw [h1, h2, this]

end Canopy.Store
