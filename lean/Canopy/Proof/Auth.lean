import Canopy.Model.Auth
import Canopy.Proof.Guards
/-! Lemmas for C05 (core Lean only): inversion of the `Except` pipeline of `Auth.applyTx`, stage by
stage, what `debit` / `poolSub` add to a change log, and `Covered`, what the authorization of a message
covers: every change a handler makes is covered (`handle_covered`, by cases on the kind), hence every
change of an accepted transaction (`effects_covered`). -/
namespace Canopy.Auth

theorem enabled_replicate_false (ks : List Bytes) (n : Nat) : enabled ks (List.replicate n false) = [] := by
  unfold enabled
  rw [List.map_eq_nil_iff, List.filter_eq_nil_iff]
  intro p hp
  simp only [List.eq_of_mem_replicate (List.of_mem_zip hp).2, Bool.false_eq_true, not_false_eq_true]

theorem enabled_sublist (ks : List Bytes) (bits : List Bool) (h : bits.length = ks.length) :
    (enabled ks bits).Sublist ks := by
  have hs : (enabled ks bits).Sublist ((ks.zip bits).map (·.1)) := List.filter_sublist.map _
  rwa [List.map_fst_zip (Nat.le_of_eq h.symm)] at hs

@[simp] theorem debited_nil : debited [] = [] := rfl
@[simp] theorem debited_cons (c : Change) (l : List Change) : debited (c :: l) = (c.debitedAddr).toList ++ debited l := by
  cases c <;> rfl
@[simp] theorem debited_append (a b : List Change) : debited (a ++ b) = debited a ++ debited b :=
  List.filterMap_append

@[simp] theorem credited_nil : credited [] = [] := rfl
@[simp] theorem credited_cons (c : Change) (l : List Change) : credited (c :: l) = (c.creditedAddr).toList ++ credited l := by
  cases c <;> rfl
@[simp] theorem credited_append (a b : List Change) : credited (a ++ b) = credited a ++ credited b :=
  List.filterMap_append

@[simp] theorem validatorsChanged_nil : validatorsChanged [] = [] := rfl
@[simp] theorem validatorsChanged_cons (c : Change) (l : List Change) : validatorsChanged (c :: l) = (c.changedValidator).toList ++ validatorsChanged l := by
  cases c <;> rfl
@[simp] theorem validatorsChanged_append (a b : List Change) : validatorsChanged (a ++ b) = validatorsChanged a ++ validatorsChanged b :=
  List.filterMap_append

@[simp] theorem outputsRedirected_nil : outputsRedirected [] = [] := rfl
@[simp] theorem outputsRedirected_cons (c : Change) (l : List Change) : outputsRedirected (c :: l) = (c.redirectedValidator).toList ++ outputsRedirected l := by
  cases c <;> rfl
@[simp] theorem outputsRedirected_append (a b : List Change) : outputsRedirected (a ++ b) = outputsRedirected a ++ outputsRedirected b :=
  List.filterMap_append

@[simp] theorem validatorsCreated_nil : validatorsCreated [] = [] := rfl
@[simp] theorem validatorsCreated_cons (c : Change) (l : List Change) : validatorsCreated (c :: l) = (c.createdValidator).toList ++ validatorsCreated l := by
  cases c <;> rfl
@[simp] theorem validatorsCreated_append (a b : List Change) : validatorsCreated (a ++ b) = validatorsCreated a ++ validatorsCreated b :=
  List.filterMap_append

@[simp] theorem ordersTouched_nil : ordersTouched [] = [] := rfl
@[simp] theorem ordersTouched_cons (c : Change) (l : List Change) : ordersTouched (c :: l) = (c.touchedOrder).toList ++ ordersTouched l := by
  cases c <;> rfl
@[simp] theorem ordersTouched_append (a b : List Change) : ordersTouched (a ++ b) = ordersTouched a ++ ordersTouched b :=
  List.filterMap_append

@[simp] theorem ordersCreated_nil : ordersCreated [] = [] := rfl
@[simp] theorem ordersCreated_cons (c : Change) (l : List Change) : ordersCreated (c :: l) = (c.createdOrderSeller).toList ++ ordersCreated l := by
  cases c <;> rfl
@[simp] theorem ordersCreated_append (a b : List Change) : ordersCreated (a ++ b) = ordersCreated a ++ ordersCreated b :=
  List.filterMap_append

theorem validatorSigners_mem {st : State} {a s : Addr} {auth : List Addr}
    (h : validatorSigners st a = .ok auth) (hs : s ∈ auth) :
    ∃ v, st.val a = some v ∧ (s = v.address ∨ s = v.output) := by
  unfold validatorSigners at h
  split at h
  · cases h
  · rename_i v hv
    refine ⟨v, hv, ?_⟩
    split at h <;> cases h
    · exact .inl (List.mem_singleton.mp hs)
    · simpa only [List.mem_cons, List.not_mem_nil, or_false] using hs

theorem pubKeyAddr_ok {e : Env} {pk : Option PubKey} {a : Addr} (h : pubKeyAddr e pk = .ok a) :
    ∃ k, pk = some k ∧ k.wf = true ∧ e.addrOf k = some a := by
  unfold pubKeyAddr at h
  split at h
  · cases h
  · rename_i k
    split at h
    · rename_i hwf
      split at h <;> cases h
      exact ⟨k, rfl, hwf, ‹_›⟩
    · cases h

theorem evalAll_single (e : Env) (st : State) (m : Msg) (x : SignerExpr) :
    evalAll e st m [x] = x.eval e st m := by
  unfold evalAll
  cases x.eval e st m <;> simp only [evalAll, List.append_nil]

/-- the table form of `GetAuthorizedSignersFor` (`authSpec`, which `Props/C05.lean` ties to the source) computes
the per-kind form that the proofs split on -/
theorem authorized_eq_direct (e : Env) (st : State) (m : Msg) : authorized e st m = authorizedDirect e st m := by
  unfold authorized authorizedDirect
  cases hk : m.kind <;> simp only [authSpec, evalAll_single, SignerExpr.eval]
  case stake => simp only [evalAll, SignerExpr.eval, Except.map]; cases pubKeyAddr e m.pk <;> rfl
  case certificateResults => cases pubKeyAddr e m.pk <;> rfl
  -- the kinds signed for by an address field of the message
  all_goals rfl

theorem precheck_ok {cfg : Cfg} {tx : Tx} {m : Msg} (h : precheck cfg tx = .ok m) :
    tx.content.msg = some m ∧ ∀ p ∈ checks cfg tx m, p.1 = false := by
  unfold precheck at h
  split at h
  · cases h
  · rename_i m' hm
    split at h <;> cases h
    rename_i hnone
    exact ⟨hm, fun p hp => by simpa using List.find?_eq_none.mp hnone p hp⟩

theorem precheck_noWireSigner {cfg : Cfg} {tx : Tx} {m : Msg} (h : precheck cfg tx = .ok m) : m.wireSigner = false :=
  (precheck_ok h).2 (m.wireSigner, eNotEmpty) (by simp only [checks, List.mem_cons, true_or, or_true])

theorem verifyRLP_ok {e : Env} {tx : Tx} {pk : PubKey} (h : verifyRLP e tx pk = .ok ()) :
    ∃ r ∈ e.rlp, r.raw = tx.sig ∧ r.content = tx.content ∧ r.pk = pk := by
  unfold verifyRLP at h
  dsimp only at h
  split at h
  · cases h
  · split at h
    · cases h
    · rename_i r hr
      split at h
      · rename_i heq
        have hp := List.find?_some hr
        simp only [Bool.and_eq_true, beq_iff_eq] at hp
        exact ⟨r, List.mem_of_find?_eq_some hr, hp.2, heq⟩
      · cases h

/-- the two ways a transaction is authenticated: the key verifies the signature over the content, or
(Ethereum keys, RLP memo) the raw transaction in the signature field converts to this very transaction -/
theorem authenticates_ok {e : Env} {tx : Tx} {pk : PubKey} (h : authenticates e tx pk = .ok ()) :
    e.verifies pk tx.content tx.sig = true ∨
    pk.isEth = true ∧ (tx.content.memo = rlpV2Memo ∨ tx.content.memo = rlpMemo) ∧
      ∃ r ∈ e.rlp, r.raw = tx.sig ∧ r.content = tx.content ∧ r.pk = pk := by
  unfold authenticates at h
  split at h
  · rename_i hpath
    obtain ⟨heth, h⟩ := ite_error_eq_ok.mp h
    simp only [Bool.or_eq_true, Bool.and_eq_true, decide_eq_true_eq] at hpath
    exact .inr ⟨by simpa using heth, hpath.imp_right And.left, verifyRLP_ok h⟩
  · split at h
    · exact .inl ‹_›
    · cases h

theorem checkSignature_ok {g : Bool} {e : Env} {tx : Tx} {auth : List Addr} {a : Addr}
    (h : checkSignature g e tx auth = .ok a) :
    ∃ pk, tx.pk = some pk ∧ pk.wf = true ∧ authenticates e tx pk = .ok () ∧ e.addrOf pk = some a ∧ a ∈ auth ∧
      (g = true → pk.noSigner = false) := by
  unfold checkSignature at h
  replace h := ok_of_ite_error h
  split at h
  · cases h
  · rename_i pk hpk
    simp only [ite_error_eq_ok] at h
    obtain ⟨hwf, hg, h⟩ := h
    split at h
    · cases h
    · rename_i hau
      split at h
      · cases h
      · rename_i a' ha
        split at h <;> cases h
        exact ⟨pk, hpk, by simpa using hwf, hau, ha, ‹_›, fun hgt => by simpa [hgt] using hg⟩

theorem debit_ok {st : State} {log l : List Change} {a : Addr} {n : Nat} (h : debit st log a n = .ok l) :
    l = log ∨ l = log ++ [.debit a n] := by
  unfold debit at h
  replace h := ok_of_ite_error h
  split at h <;> cases h
  · exact .inl rfl
  · exact .inr rfl

theorem poolSub_ok {st : State} {log l : List Change} {id n : Nat} (h : poolSub st log id n = .ok l) :
    l = log ++ [.pool id (-(n : Int))] := by
  unfold poolSub at h
  cases ok_of_ite_error h
  rfl

theorem mem_editStakeTail {m : Msg} {v : Validator} {c : Change} (h : c ∈ editStakeTail m v) :
    c = .valOut m.a m.out ∧ v.output ≠ m.out ∨ c = .valStake m.a (amountToAdd m v) ∨ c = .sys "supply" ∨
      c = .sys (if v.delegate then "delegate" else "committee") := by
  unfold editStakeTail at h
  rcases List.mem_append.mp h with h | h <;> split at h
  · exact .inl ⟨List.mem_singleton.mp h, ‹_›⟩
  · cases h
  · exact .inr (by simpa only [List.mem_cons, List.not_mem_nil, or_false] using h)
  · cases h

theorem mem_recvChange {m : Msg} {o : Order} {c : Change} (h : c ∈ recvChange m o) : c = .ordRecv m.ch m.oid m.to := by
  unfold recvChange at h
  split at h
  · exact List.mem_singleton.mp h
  · cases h

theorem mem_mintChanges {m : Msg} {c : Change} (h : c ∈ mintChanges m) : c = .pool daoPool m.amt ∨ c = .sys "supply" := by
  unfold mintChanges at h
  split at h
  · simpa only [List.mem_cons, List.not_mem_nil, or_false] using h
  · cases h

theorem effects_ok {e : Env} {cfg : Cfg} {st : State} {c : Content} {m : Msg} {s : Addr} {nid : Bytes} {log : List Change}
    (h : effects e cfg st c m s nid = .ok log) :
    ∃ l0 l, debit st [] s c.fee = .ok l0 ∧
      handle e cfg st m s nid (l0 ++ (if c.fee > 0 then [.pool cfg.chain c.fee] else [])) = .ok l ∧
      (log = l ∨ log = l ++ [.nonce s]) := by
  unfold effects at h
  replace h := ok_of_ite_error h
  split at h
  · cases h
  · rename_i l0 hl0
    split at h <;> cases h
    rename_i l hl
    refine ⟨l0, l, hl0, hl, ?_⟩
    split
    · exact .inr rfl
    · exact .inl rfl

theorem applyTx_ok {e : Env} {cfg : Cfg} {st : State} {tx : Tx} {nid : Bytes} {s : Addr} {log : List Change}
    (h : applyTx e cfg st tx nid = .ok (s, log)) :
    ∃ m auth, precheck cfg tx = .ok m ∧ authorized e st m = .ok auth ∧ checkSignature cfg.requireSigner e tx auth = .ok s ∧
      effects e cfg st tx.content m s nid = .ok log := by
  unfold applyTx at h
  split at h
  · cases h
  · rename_i m hm
    split at h
    · cases h
    · rename_i auth hauth
      split at h
      · cases h
      · rename_i s' hs
        replace h := ok_of_ite_error h
        split at h <;> cases h
        exact ⟨m, auth, hm, hauth, hs, ‹_›⟩

/-- What the authorization of message `m` by the verified signer `s`, one of the authorized signers
`auth`, covers: a debit is of an authorized account (for stake / edit-stake of the signer's own), a
credit goes to an address the message names, a validator record changes only under its operator or
output address, a payout address is redirected only by the current one, a new validator or order
belongs to the signer, an order changes only under its seller. Pool, nonce and bookkeeping entries
are nobody's property. -/
def Covered (st : State) (m : Msg) (s : Addr) (auth : List Addr) : Change → Prop
  | .debit a _ => a ∈ auth ∧ (m.kind = .stake ∨ m.kind = .editStake → a = s)
  | .credit a _ => a = m.to ∨ a = m.a ∨ ∃ o, st.order m.ch m.oid = some o ∧ a = o.seller
  | .valNew a out _ => s = a ∨ s = out
  | .valOut a _ => ∃ v, st.val a = some v ∧ s = v.output
  | .valStake a _ | .valUnstaking a | .valPaused a | .valUnpaused a =>
    ∃ v, st.val a = some v ∧ (s = v.address ∨ s = v.output)
  | .ordNew _ _ seller _ _ => seller = s
  | .ordDel ch id | .ordAmt ch id _ | .ordRecv ch id _ => ∃ o, st.order ch id = some o ∧ s = o.seller
  | .nonce _ | .pool _ _ | .sys _ => True

/-- The membership form of "`l` is `log` followed by changes that satisfy `P`": weaker, but it composes
(`trans`, `append`) and is all that is needed, since the log of a transaction starts from `[]`. -/
def Extends (P : Change → Prop) (log l : List Change) : Prop := ∀ c ∈ l, c ∈ log ∨ P c

section
variable {P : Change → Prop} {st : State} {log l l' t : List Change} {c : Change}

theorem Extends.refl : Extends P log log := fun _ h => .inl h

theorem Extends.nil : Extends P log [] := fun _ h => nomatch h

theorem Extends.cons (hc : P c) (h : Extends P log t) : Extends P log (c :: t) :=
  fun _ hd => (List.mem_cons.mp hd).elim (· ▸ .inr hc) (h _)

theorem Extends.trans (h : Extends P log l) (h' : Extends P l l') : Extends P log l' :=
  fun c hc => (h' c hc).elim (h c) .inr

theorem Extends.append (h : Extends P log l) (ht : Extends P l t) : Extends P log (l ++ t) :=
  fun c hc => (List.mem_append.mp hc).elim (h c) (h.trans ht c)

/-- a step of a handler that appends `t` to the log an earlier step `x` returned -/
theorem Extends.append_ok {x : Except String (List Change)}
    (h : (match x with | .error err => .error err | .ok l => .ok (l ++ t)) = Except.ok (ε := String) l')
    (hx : ∀ {l}, x = .ok l → Extends P log l) (ht : ∀ {l}, Extends P l t) : Extends P log l' := by
  cases x with
  | error _ => cases h
  | ok l => exact Except.ok.inj h ▸ (hx rfl).append ht

end

section
variable {st : State} {m : Msg} {s : Addr} {auth : List Addr} {log l l' : List Change}

/-- every handler debits the verified signer -/
theorem Extends.debit {n : Nat} (h : Extends (Covered st m s auth) log l) (hs : s ∈ auth)
    (hd : debit st l s n = .ok l') : Extends (Covered st m s auth) log l' := by
  rcases debit_ok hd with rfl | rfl
  · exact h
  · exact h.append (.cons ⟨hs, fun _ => rfl⟩ .nil)

theorem Extends.poolSub {id n : Nat} (h : Extends (Covered st m s auth) log l)
    (hd : poolSub st l id n = .ok l') : Extends (Covered st m s auth) log l' :=
  poolSub_ok hd ▸ h.append (.cons trivial .nil)

end

/-- every change a handler appends is covered by the authorization of the message -/
theorem handle_covered {e : Env} {cfg : Cfg} {st : State} {m : Msg} {s : Addr} {nid : Bytes} {log l : List Change}
    {auth : List Addr} (hauth : authorized e st m = .ok auth) (hs : s ∈ auth)
    (h : handle e cfg st m s nid log = .ok l) : Extends (Covered st m s auth) log l := by
  rw [authorized_eq_direct] at hauth
  unfold handle at h
  unfold authorizedDirect at hauth
  cases hk : m.kind <;> simp only [hk] at h hauth
  -- send … dexLiquidityDeposit: the owner address is the one authorized signer, and the account debited
  case send =>
    cases hauth
    cases List.mem_singleton.mp hs
    exact .append_ok h (Extends.refl.debit hs) (.cons (Or.inl rfl) .nil)
  case subsidy =>
    cases hauth
    cases List.mem_singleton.mp hs
    exact .append_ok h (Extends.refl.debit hs) (.cons trivial .nil)
  case createOrder =>
    cases hauth
    cases List.mem_singleton.mp hs
    exact .append_ok (ok_of_ite_error h) (Extends.refl.debit hs) (.cons trivial (.cons rfl .nil))
  case dexLimitOrder | dexLiquidityDeposit =>
    cases hauth
    cases List.mem_singleton.mp hs
    exact .append_ok (ok_of_ite_error h) (Extends.refl.debit hs)
      (.cons trivial (.cons trivial .nil))
  case stake =>
    -- authorized are the address of the staked key and the output address; the signer is debited
    split at hauth
    · cases hauth
    · rename_i a ha
      cases hauth
      obtain ⟨k, hpk, -, hka⟩ := pubKeyAddr_ok ha
      simp only [hpk, hka, ite_error_eq_ok] at h
      obtain ⟨-, -, -, -, h⟩ := h
      exact .append_ok h (Extends.refl.debit hs)
        (.cons trivial (.cons trivial (.cons ((List.mem_cons.mp hs).imp_right List.mem_singleton.mp) .nil)))
  case editStake =>
    obtain ⟨v, hv, hsv⟩ := validatorSigners_mem hauth hs
    simp only [hv, ite_error_eq_ok] at h
    obtain ⟨-, hout, h⟩ := h
    refine .append_ok h (Extends.refl.debit hs) fun c hc => .inr ?_
    rcases mem_editStakeTail hc with ⟨rfl, hne⟩ | rfl | rfl | rfl
    · -- the guard on a changed output address: only the current one may redirect the payout
      exact ⟨v, hv, .symm (by simpa [hne] using hout)⟩
    · exact ⟨v, hv, hsv⟩
    · trivial
    · trivial
  case unstake | pause | unpause =>
    have hv := validatorSigners_mem hauth hs
    split at h
    · cases h
    · repeat replace h := ok_of_ite_error h
      cases h
      exact Extends.refl.append (.cons hv (.cons trivial .nil))
  case changeParameter | dexLiquidityWithdraw =>
    repeat replace h := ok_of_ite_error h
    cases h
    exact Extends.refl.append (.cons trivial .nil)
  case certificateResults =>
    replace h := ok_of_ite_error h
    split at h
    · cases h
    · split at h <;> cases h
      exact Extends.refl.append (.cons trivial .nil)
  case daoTransfer =>
    have hmint : Extends (Covered st m s auth) log (mintChanges m) := fun c hc =>
      .inr (by rcases mem_mintChanges hc with rfl | rfl <;> trivial)
    exact .append_ok (ok_of_ite_error h) (Extends.refl.append hmint).poolSub
      (.cons (Or.inr (.inl rfl)) .nil)
  case editOrder =>
    -- the seller of the referenced order is the one authorized signer
    cases ho : st.order m.ch m.oid <;> simp only [ho] at h hauth <;> cases hauth
    rename_i o
    cases List.mem_singleton.mp hs
    have hord : ∃ o', st.order m.ch m.oid = some o' ∧ o.seller = o'.seller := ⟨o, ho, rfl⟩
    have hrecv {l} : Extends (Covered st m o.seller [o.seller]) l (recvChange m o) := fun c hc =>
      .inr (mem_recvChange hc ▸ hord)
    repeat replace h := ok_of_ite_error h
    split at h
    · split at h <;> cases h
      exact .append (.append (Extends.refl.debit hs ‹_›) (.cons trivial (.cons hord .nil))) hrecv
    · split at h
      · split at h <;> cases h
        exact .append (.append (Extends.refl.poolSub ‹_›) (.cons (.inr (.inr hord)) (.cons hord .nil))) hrecv
      · cases h
        exact Extends.refl.append hrecv
  case deleteOrder =>
    cases ho : st.order m.ch m.oid <;> simp only [ho] at h hauth <;> cases hauth
    rename_i o
    cases List.mem_singleton.mp hs
    exact .append_ok (ok_of_ite_error h) Extends.refl.poolSub
      (.cons (Or.inr (.inr ⟨o, ho, rfl⟩)) (.cons ⟨o, ho, rfl⟩ .nil))

/-- every change of an accepted transaction — fee, handler, nonce — is covered -/
theorem effects_covered {e : Env} {cfg : Cfg} {st : State} {c : Content} {m : Msg} {s : Addr} {nid : Bytes}
    {log : List Change} {auth : List Addr} (hauth : authorized e st m = .ok auth) (hs : s ∈ auth)
    (h : effects e cfg st c m s nid = .ok log) : ∀ d ∈ log, Covered st m s auth d := by
  obtain ⟨l0, l, hl0, hl, hlog⟩ := effects_ok h
  have hfee : Extends (Covered st m s auth) [] (l0 ++ if c.fee > 0 then [.pool cfg.chain c.fee] else []) := by
    refine (Extends.refl.debit hs hl0).append ?_
    split
    · exact .cons trivial .nil
    · exact .nil
  have hl := hfee.trans (handle_covered hauth hs hl)
  have hlog : Extends (Covered st m s auth) [] log := by
    rcases hlog with rfl | rfl
    · exact hl
    · exact hl.append (.cons trivial .nil)
  exact fun d hd => (hlog d hd).resolve_left List.not_mem_nil

/-- An accepted transaction passed `precheck`, carries a well-formed key — with the signer guard, one
that names a signer — which authenticated it and whose address is the returned signer, authorized for
the message; and every change it makes is covered by that authorization. -/
theorem applyTx_covered {e : Env} {cfg : Cfg} {st : State} {tx : Tx} {nid : Bytes} {s : Addr} {log : List Change}
    (h : applyTx e cfg st tx nid = .ok (s, log)) :
    ∃ m auth pk, precheck cfg tx = .ok m ∧ tx.content.msg = some m ∧ authorized e st m = .ok auth ∧
      tx.pk = some pk ∧ pk.wf = true ∧ (cfg.requireSigner = true → pk.noSigner = false) ∧
      authenticates e tx pk = .ok () ∧ e.addrOf pk = some s ∧ s ∈ auth ∧ ∀ d ∈ log, Covered st m s auth d := by
  obtain ⟨m, auth, hpre, hauth, hsig, heff⟩ := applyTx_ok h
  obtain ⟨pk, hpk, hwf, hauthn, haddr, hmem, hg⟩ := checkSignature_ok hsig
  exact ⟨m, auth, pk, hpre, (precheck_ok hpre).1, hauth, hpk, hwf, hg, hauthn, haddr, hmem,
    effects_covered hauth hmem heff⟩

end Canopy.Auth
