/-! One level of a lexicographic comparison over a strict total order on the heads: how the code tests it (`lexStep`), and the
order properties of the whole comparison from those of the next level. -/
namespace Canopy.Lex

/-- what the order properties of a lexicographic comparison need of `<` on the heads -/
structure StrictTotal (α) [LT α] : Prop where
  irrefl : ∀ x : α, ¬ x < x
  trans : ∀ {x y z : α}, x < y → y < z → x < z
  tri : ∀ {x y : α}, ¬ x < y → ¬ y < x → x = y

theorem u8 : StrictTotal UInt8 :=
  ⟨UInt8.lt_irrefl, UInt8.lt_trans, fun h1 h2 => UInt8.le_antisymm (UInt8.not_lt.mp h2) (UInt8.not_lt.mp h1)⟩

theorem nat : StrictTotal Nat :=
  ⟨Nat.lt_irrefl, Nat.lt_trans, fun h1 h2 => Nat.le_antisymm (Nat.not_lt.mp h2) (Nat.not_lt.mp h1)⟩

theorem u64 : StrictTotal UInt64 :=
  ⟨UInt64.lt_irrefl, UInt64.lt_trans, fun h1 h2 => UInt64.le_antisymm (UInt64.not_lt.mp h2) (UInt64.not_lt.mp h1)⟩

namespace StrictTotal
variable {α} [LT α] (so : StrictTotal α) {x y z : α}
include so

/-- one step of a lexicographic comparison: the heads decide unless they are equal. `P` reads the answer:
`· = true` for the model's Boolean comparators, `· ≤ 0` for Go's three-way ones -/
theorem lexStep [DecidableLT α] {β} (P : β → Prop) {a b r : β} (ha : P a) (hb : ¬ P b) :
    P (if x < y then a else if y < x then b else r) ↔ x < y ∨ x = y ∧ P r := by
  by_cases h1 : x < y
  · rw [if_pos h1]; exact ⟨fun _ => .inl h1, fun _ => ha⟩
  by_cases h2 : y < x
  · rw [if_neg h1, if_pos h2]
    exact ⟨fun h => absurd h hb, fun h => h.elim (absurd · h1) fun ⟨e, _⟩ => absurd (e ▸ h2) (so.irrefl _)⟩
  · rw [if_neg h1, if_neg h2]
    exact ⟨fun h => .inr ⟨so.tri h1 h2, h⟩, fun h => h.elim (absurd · h1) (·.2)⟩

theorem lex_total [DecidableLT α] {r r' : Prop} (h : r ∨ r') : (x < y ∨ x = y ∧ r) ∨ (y < x ∨ y = x ∧ r') := by
  by_cases h1 : x < y
  · exact .inl (.inl h1)
  by_cases h2 : y < x
  · exact .inr (.inl h2)
  have e : x = y := so.tri h1 h2
  exact h.imp (fun h => .inr ⟨e, h⟩) (fun h => .inr ⟨e.symm, h⟩)

theorem lex_tri [DecidableLT α] {r r' e : Prop} (h : r ∨ r' ∨ e) :
    (x < y ∨ x = y ∧ r) ∨ (y < x ∨ y = x ∧ r') ∨ x = y ∧ e :=
  (so.lex_total (r := r) (r' := r' ∨ e) h).imp_right fun
    | .inl h => .inl (.inl h)
    | .inr ⟨he, .inl h⟩ => .inl (.inr ⟨he, h⟩)
    | .inr ⟨he, .inr h⟩ => .inr ⟨he.symm, h⟩

theorem lex_trans {r1 r2 r3 : Prop} (h : r1 → r2 → r3) (h1 : x < y ∨ x = y ∧ r1) (h2 : y < z ∨ y = z ∧ r2) :
    x < z ∨ x = z ∧ r3 := by
  rcases h1 with h1 | ⟨rfl, h1⟩
  · rcases h2 with h2 | ⟨rfl, -⟩
    · exact .inl (so.trans h1 h2)
    · exact .inl h1
  · rcases h2 with h2 | ⟨rfl, h2⟩
    · exact .inl h2
    · exact .inr ⟨rfl, h h1 h2⟩

theorem lex_antisymm {r1 r2 : Prop} (h1 : x < y ∨ x = y ∧ r1) (h2 : y < x ∨ y = x ∧ r2) : x = y ∧ r1 ∧ r2 := by
  rcases h1 with h1 | ⟨rfl, h1⟩
  · rcases h2 with h2 | ⟨rfl, -⟩
    · exact absurd (so.trans h1 h2) (so.irrefl _)
    · exact absurd h1 (so.irrefl _)
  · rcases h2 with h2 | ⟨-, h2⟩
    · exact absurd h2 (so.irrefl _)
    · exact ⟨rfl, h1, h2⟩

end StrictTotal

end Canopy.Lex
