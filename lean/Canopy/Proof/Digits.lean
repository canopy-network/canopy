/-! Base-`b` digits of natural numbers: a number below `b ^ n` is determined by its `n` digits. The big-endian
encoders of the DEX (`be64`) and of the key codec (`formatUint64`) are injective by this. Core Lean only. -/
namespace Canopy

theorem mod_pow_eq_of_digits {b i j : Nat} : ∀ n, (∀ k < n, i / b ^ k % b = j / b ^ k % b) → i % b ^ n = j % b ^ n
  | 0, _ => by rw [Nat.pow_zero, Nat.mod_one, Nat.mod_one]
  | n + 1, h => by
    rw [Nat.mod_pow_succ, Nat.mod_pow_succ, h n (Nat.lt_succ_self n),
      mod_pow_eq_of_digits n fun k hk => h k (Nat.lt_succ_of_lt hk)]

theorem eq_of_digits {b n i j : Nat} (hi : i < b ^ n) (hj : j < b ^ n) (h : ∀ k < n, i / b ^ k % b = j / b ^ k % b) : i = j := by
  have := mod_pow_eq_of_digits n h
  rwa [Nat.mod_eq_of_lt hi, Nat.mod_eq_of_lt hj] at this

end Canopy
