import Canopy.Proof.SmtPath
import Canopy.Proof.SmtHistory
/-! Completeness of the repaired verifier: the honest proof for a key verifies for the true statement about that key.
Core only. -/
namespace Canopy.Smt
open Trie

theorem descend_step {k p : Key} {l r : Trie} (b : Bool) (h : p ++ [b] <+: k) (acc : List (Trie × Bool)) :
    descend k (node p l r) acc = descend k (pick b l r) ((pick (!b) l r, !b) :: acc) := by
  cases b
  · simp only [descend, if_pos h]; rfl
  · simp only [descend, if_neg (not_snoc_false_of_snoc_true h), if_pos h]; rfl

/-- the traversal stops at a leaf, or at an inner node whose prefix the target does not extend -/
def Stops (k : Key) : Trie → Prop
  | .leaf _ _ => True
  | .node p _ _ => ∀ b, ¬ p ++ [b] <+: k

theorem eq_leaf_of_stops {n : Nat} {k : Key} {v : Bytes} {c : Trie} (hw : WF n c) (hs : Stops k c)
    (hm : (k, v) ∈ c.toList) : c = .leaf k v := by
  cases c with
  | leaf k' v' =>
    obtain ⟨rfl, rfl⟩ := mem_toList_leaf.mp hm
    rfl
  | node p l r =>
    exact ((node_key_prefix hw (mem_keys_of_mem hm)).elim (hs false) (hs true)).elim

/-- where the traversal stops without finding `k`, it has left `k`'s path: the node's key is not a prefix of `k` -/
theorem not_prefix_of_stops {n : Nat} {k : Key} {c : Trie} (hw : WF n c) (hs : Stops k c) (hk : k.length = n)
    (hm : k ∉ c.keys) : ¬ c.key <+: k := by
  intro hpre
  cases c with
  | leaf k' v' =>
    exact hm (mem_keys_leaf.mpr (hpre.eq_of_length (hk ▸ hw)).symm)
  | node p l r =>
    obtain ⟨b, hb⟩ := snoc_prefix_of_prefix_lt hpre (hk ▸ node_prefix_lt hw)
    exact hs b hb

/-- the traversal towards `k`, begun on a walk whose `br` is a prefix of `k`, ends on such a walk, where it stops -/
theorem descend_path {t : Trie} {k : Key} (c : Trie) {br : Key} {acc : List (Trie × Bool)} (h : Path t br c acc)
    (hk : br <+: k) :
    ∃ br', Path t br' (descend k c acc).1 (descend k c acc).2 ∧ br' <+: k ∧ Stops k (descend k c acc).1 ∧
      (acc ≠ [] → (descend k c acc).2 ≠ []) := by
  induction c generalizing br acc with
  | leaf _ _ => exact ⟨br, h, hk, trivial, id⟩
  | node p l r ihl ihr =>
    rcases side_cases p k with ⟨b, hb⟩ | hno
    · rw [descend_step b hb]
      cases b
      · exact (ihl (h.down false) hb).imp fun _ ⟨hp, hk', hs, hne⟩ => ⟨hp, hk', hs, fun _ => hne (List.cons_ne_nil _ _)⟩
      · exact (ihr (h.down true) hb).imp fun _ ⟨hp, hk', hs, hne⟩ => ⟨hp, hk', hs, fun _ => hne (List.cons_ne_nil _ _)⟩
    · simp only [descend, if_neg (hno false), if_neg (hno true)]
      exact ⟨br, h, hk, hno, id⟩

/-- from the root the first step is an ordinary step of the traversal -/
theorem descendTop_eq {k : Key} (hk : k ≠ []) (l r : Trie) : descendTop k l r = descend k (node [] l r) [] := by
  obtain ⟨b, bs, rfl⟩ := List.exists_cons_of_ne_nil hk
  rw [descend_step b (List.prefix_append [b] bs)]
  cases b <;> rfl

/-- the honest proof from the root: a walk towards `k` that has left the top and stands where the traversal stops -/
theorem descendTop_path {k : Key} (hk : k ≠ []) (l r : Trie) :
    ∃ br, Path (node [] l r) br (descendTop k l r).1 (descendTop k l r).2 ∧ br <+: k ∧
      Stops k (descendTop k l r).1 ∧ (descendTop k l r).2 ≠ [] := by
  obtain ⟨b, bs, rfl⟩ := List.exists_cons_of_ne_nil hk
  have hb : [] ++ [b] <+: b :: bs := List.prefix_append [b] bs
  rw [descendTop_eq hk, descend_step b hb]
  obtain ⟨br, hp, hbr, hs, hne⟩ := descend_path _ (Path.top.down b) hb
  exact ⟨br, hp, hbr, hs, hne (List.cons_ne_nil _ _)⟩

/-- the sizes the strict verifier expects: node hashes of 32 bytes, leaf values of 32 bytes except the two reserved
leaves (20 bytes) -/
def WellSized (H4 : Bytes → Bytes → Bytes → Bytes → Bytes) (n : Nat) (S : KMap) : Prop :=
  (∀ a b c d, (H4 a b c d).length = 32) ∧
  ∀ k v, S k = some v → v.length = 32 ∨ (v.length = 20 ∧ (k = minKey n ∨ k = maxKey n))

/-- a node of the tree, encoded as a proof element, passes the verifier's checks on keys and value lengths -/
theorem nodeOk_of_sub {H4 : Bytes → Bytes → Bytes → Bytes → Bytes} {n : Nat} {t : Trie} {S : KMap} (strict : Bool)
    (h : t.Rep n S) (hz : strict = true → WellSized H4 n S) {s : Trie} (hsub : Sub t s) (hne : s.key ≠ []) (bm : Nat) :
    nodeOk strict n { key := encodeKey s.key, value := s.value H4, bitmask := bm } = true := by
  refine nodeOk_iff.mpr ⟨validNodeKey_encodeKey hne (key_length_le (hsub.wf h.1)), fun hst => valueLenOk_iff.mpr ?_⟩
  cases s with
  | node p a b => exact Or.inl ((hz hst).1 _ _ _ _)
  | leaf k v =>
    have hS : S k = some v := (h.2 k v).mp (hsub.mem List.mem_cons_self)
    exact ((hz hst).2 k v hS).imp id fun ⟨h20, hk⟩ => ⟨h20, hk.imp (congrArg encodeKey) (congrArg encodeKey)⟩

/-- **Completeness of the repaired verifier.** For every key length, every canonical tree holding the sentinels and every
non-reserved key: the proof `GetMerkleProof` produces for the key verifies against the tree's root — as a membership
proof with the stored value if the key is present, as a non-membership proof if it is absent. -/
theorem verifyFixed_complete (strict : Bool) (H : Bytes → Bytes) (H4 : Bytes → Bytes → Bytes → Bytes → Bytes) {n : Nat}
    (hn : 0 < n) {t : Trie} {S : KMap} (h : t.Rep n S) (hs : S.HasSentinels n) (hz : strict = true → WellSized H4 n S)
    (userKey value : Bytes) {k : Key} (hkd : keyOfBytes n (H userKey) = k)
    (hres : k ≠ rootKey n ∧ k ≠ minKey n ∧ k ≠ maxKey n) :
    (S k = some (H value) → verifyFixed strict H H4 n userKey value true (t.value H4) (prove H4 t k) = .accept) ∧
    (S k = none → verifyFixed strict H H4 n userKey value false (t.value H4) (prove H4 t k) = .accept) := by
  have hk : k.length = n := hkd ▸ keyOfBytes_length n _
  have hkne : k ≠ [] := List.ne_nil_of_length_pos (hk ▸ hn)
  have hnode := rep_isNode h hs hn
  have htop := top_key_nil h hs hn
  cases t with
  | leaf _ _ => cases hnode
  | node p l r =>
    obtain rfl : p = [] := htop
    -- the node `c` where the traversal stops, and the siblings `acc` it has passed
    obtain ⟨br, hp, hbr, hstop, hne⟩ := descendTop_path hkne l r
    have hprove : prove H4 (node [] l r) k = ⟨encodeKey (descendTop k l r).1.key, (descendTop k l r).1.value H4, 0⟩ ::
        (descendTop k l r).2.map (toPNode H4) := rfl
    generalize descendTop k l r = ca at hp hstop hne hprove
    obtain ⟨c, acc⟩ := ca
    obtain ⟨s0, rest, rfl⟩ := List.exists_cons_of_ne_nil hne
    have hwc := hp.wf h.1
    have hcne : c.key ≠ [] := mt (hp.top_iff h.1 rfl).mp hne
    have hok : ∀ p ∈ (⟨encodeKey c.key, c.value H4, 0⟩ :: (s0 :: rest).map (toPNode H4) : List PNode),
        nodeOk strict n p = true := by
      intro p hp'
      rcases List.mem_cons.mp hp' with rfl | hp'
      · exact nodeOk_of_sub strict h hz hp.sub hcne 0
      · obtain ⟨s, hs', rfl⟩ := List.mem_map.mp hp'
        obtain ⟨hsub, hne⟩ := hp.sibs h.1 s hs'
        exact nodeOk_of_sub strict h hz hsub hne _
    have hbranch : branchBits c.key ((s0 :: rest).map (toPNode H4)) ≤ (gcp k c.key).length := by
      rw [hp.branchBits_eq H4 h.1 hne]
      exact (prefix_iff_le_gcp (hp.br_prefix h.1)).mp hbr
    -- the verifier's conditions hold but for the statement, which depends on whether `k` is present
    have haccept : ∀ m, (if m then encodeKey k = encodeKey c.key ∧ c.value H4 = H value
          else encodeKey k ≠ encodeKey c.key ∧ (gcp k c.key).length ≠ c.key.length) →
        verifyFixed strict H H4 n userKey value m ((node [] l r).value H4) (prove H4 (node [] l r) k) = .accept := by
      intro m hm
      rw [hprove]
      refine (verifyFixed_accept_iff hkd).mpr ⟨hok, hres, ?_⟩
      simp only [decodeKey_encodeKey c.key hcne]
      exact ⟨hp.fold H4 h.1 rfl, hbranch, hm⟩
    constructor
    · intro hS
      obtain rfl := eq_leaf_of_stops hwc hstop ((hp.mem_iff h.1 _).mpr ⟨(h.2 k (H value)).mpr hS, hbr⟩)
      exact haccept true ⟨rfl, rfl⟩
    · intro hS
      have hknot : k ∉ c.keys := by
        intro hin
        obtain ⟨v, hv⟩ := exists_mem_of_mem_keys hin
        have := (h.2 k v).mp ((hp.mem_iff h.1 _).mp hv).1
        rw [hS] at this; cases this
      have hnp := not_prefix_of_stops hwc hstop hk hknot
      refine haccept false ⟨fun e => hnp ?_, fun e => hnp ((gcp_length_eq_iff _ _).mp e)⟩
      rw [encodeKey_injective hkne hcne e]
      exact List.prefix_refl _

end Canopy.Smt
