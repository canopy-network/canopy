import Canopy.Model.Gate
import Canopy.Proof.Guards
/-!
What each check of `Model/Gate.lean` establishes when it passes. `Props/C02.lean` assembles these into
the soundness of the whole gate; the evidence checks of C14 reuse the facts about bitmaps and aggregates.
-/
namespace Canopy.Gate

theorem selected_cons (b : Bool) (bs : List Bool) (m : Member) (ms : List Member) :
    selected (b :: bs) (m :: ms) = if b then m :: selected bs ms else selected bs ms := by
  cases b <;> rfl

theorem selected_sublist (bm : List Bool) (ms : List Member) : (selected bm ms).Sublist ms := by
  induction ms generalizing bm with
  | nil => cases bm <;> exact .slnil
  | cons m ms ih =>
    rcases bm with _ | ⟨b, bm⟩
    · exact List.nil_sublist _
    rw [selected_cons]
    cases b
    · exact (ih bm).cons m
    · exact (ih bm).cons_cons m

/-- every selected key's individual signature over exactly this payload is inside the aggregate
(so, by M-sig, each of them signed exactly these bytes) -/
theorem agg_parts {sig : AggSig} {group keys : List KeyId} {p : Payload}
    (h : aggVerifies sig group keys p = true) : ∀ k ∈ keys, (k, p) ∈ sig.parts := by
  intro k hk
  -- the third conjunct of `aggVerifies`: as many copies of `k`'s signature in the aggregate as of `k` among the keys
  have hc := List.all_eq_true.mp ((Bool.and_eq_true _ _).mp h).2 k hk
  exact List.count_pos_iff.mp (eq_of_beq hc ▸ List.count_pos_iff.mpr hk)

/-- `CheckBasic` passing with results attached: the certificate's results hash is the hash of those results -/
theorem checkBasic_resultsHash {q : QC} {g : Nat} {res : ResultsInfo}
    (h : checkBasic q g = none) (hres : q.results = some res) : q.resultsHash = some res.hash := by
  unfold checkBasic at h
  rcases hbody : checkBasicBody q g with _ | c
  case some => rw [hbody] at h; cases h
  unfold checkBasicBody at hbody
  replace hbody := (ite_some_eq_none.mp hbody).2
  rcases hhd : q.header with _ | hd
  · rw [hhd] at hbody; cases hbody
  rcases hrh : q.resultsHash with _ | rh
  · -- election-style certificate: results must be absent
    simp only [hhd, hrh, hres, ite_some_eq_none, Option.isSome_some, not_true_eq_false, false_and, and_false] at hbody
  simp only [hhd, hrh, hres, ite_some_eq_none] at hbody
  obtain ⟨-, -, hb⟩ := hbody
  -- `hb`: the results check, then the block check, did not reject
  split at hb
  · cases hb
  · rename_i heq
    simp only [ite_some_eq_none, bne_iff_ne, ne_eq, Decidable.not_not] at heq
    rw [heq.2.1]

/-- `isPartial` as `AggregateSignature.Check` computes it -/
abbrev isPartial (sig : AggSig) (ms : List Member) : Bool :=
  decide (signedPower sig.bitmap ms < Gen.Committee.minPowerFor23Maj (totalPower ms))

/-- `AggregateSignature.Check` answering: the aggregate is exactly the selected members' signatures over the
certificate's payload, and the answer says whether the signers fall short of +2/3 -/
theorem sigCheck_ok {q : QC} {h : View} {ms : List Member} {p : Bool} (hq : sigCheck q h ms = .ok p) :
    ∃ sig, q.signature = some sig ∧
      aggVerifies sig (ms.map (·.key)) ((selected sig.bitmap ms).map (·.key)) (payloadOf q h) = true ∧
      p = isPartial sig ms := by
  unfold sigCheck at hq
  rcases hsig : q.signature with _ | sig
  · rw [hsig] at hq; cases hq
  rw [hsig] at hq
  simp only [ite_error_eq_ok, Bool.not_eq_true', Bool.not_eq_false, Except.ok.injEq] at hq
  exact ⟨sig, rfl, hq.2.2.2.1, hq.2.2.2.2.symm⟩

/-- `QuorumCertificate.Check` passing: this network and chain, and the verdict is that of the signature check -/
theorem qcCheck_ok {n : Node} {q : QC} {ms : List Member} {b : Bool} {hd : View}
    (hhd : q.header = some hd) (hq : qcCheck n q ms = .ok b) :
    hd.networkId = n.networkId ∧ hd.chainId = n.chainId ∧ sigCheck q hd ms = .ok b := by
  unfold qcCheck at hq
  rcases hcb : checkBasic q n.globalMaxBlockSize with _ | c
  case some => rw [hcb] at hq; cases hq
  rw [hcb, hhd] at hq
  simp only [ite_error_eq_ok, bne_iff_ne, ne_eq, Decidable.not_not] at hq
  obtain ⟨hnet, hchain, hq⟩ := hq
  refine ⟨hnet.symm, hchain.symm, ?_⟩
  rcases hb : q.block with _ | blk
  · rw [hb] at hq; exact hq
  · rw [hb] at hq; exact ok_of_ite_error (ok_of_ite_error hq)

/-- `CheckProposalBasic` passing: the carried block is the one the certificate names, at the node's height -/
theorem proposalBasic_none {n : Node} {q : QC} {hd : View} (h : proposalBasic n q hd = none) :
    ∃ blk, q.block = some blk ∧ hd.height = n.height ∧ blk.height = n.height ∧
      q.blockHash.getD [] = blk.hashFromHeader ∧ q.results.isSome := by
  unfold proposalBasic at h
  rcases hblk : q.block with _ | blk
  · rw [hblk] at h; cases h
  rw [hblk] at h
  simp only [ite_some_eq_none, bne_iff_ne, ne_eq, Decidable.not_not, gt_iff_lt, UInt64.not_lt,
    Bool.not_eq_true, Option.isNone_eq_false_iff] at h
  obtain ⟨-, -, -, -, -, h5, h6, h7, h8, h9, -⟩ := h
  have e6 : blk.height = n.height := UInt64.le_antisymm h7 h6
  exact ⟨blk, rfl, h5.trans e6, e6, h8, h9⟩

end Canopy.Gate
