import Canopy.Proof.StoreState
import Canopy.Proof.Key
import Canopy.Model.Indexer
/-! The indexer partition (C10, "blocks"). Its entries are `i/ ++ key ++ ^version` (`IRep`); what a view at
version `v` reads from it depends only on the entries of version ≤ `v` (`iview_agree`), and a commit or a rollback to
a height ≥ `v` leaves those in place (`IRep.commit`, `IRep.rollback`): `IInv` carries this along a run of the
process. Iteration through the store's own indexer `Txn`, built with `sort = true`, is the scan of the committed
index with the pending operations applied (`sorted_txn_iter_scan`). All of it is stated for a key predicate `IK`;
`IdxKey`, the keys `IndexBlock` and `IndexQC` write, instantiates it (`idxKey_wf`). -/
namespace Canopy.Store
open Canopy

theorem sees_of_agree {v : Nat} {a b : DB} (h : AgreeUpTo v a b) {uk x : Bytes} : Sees a v uk x → Sees b v uk x := by
  rintro ⟨w, raw, hwv, hwm, hget, hmax, hal⟩
  exact ⟨w, raw, hwv, hwm, by rw [← h uk w hwv]; exact hget,
    fun w' raw' hw' hm' hg' => hmax w' raw' hw' hm' (by rw [h uk w' hw']; exact hg'), hal⟩

theorem sees_agree {v : Nat} {a b : DB} (h : AgreeUpTo v a b) (uk x : Bytes) : Sees a v uk x ↔ Sees b v uk x :=
  ⟨sees_of_agree h, sees_of_agree h.symm⟩

theorem get_agree {v : Nat} {a b : DB} (ha : WFL a) (hb : WFL b) (hvm : v ≤ maxVer) (h : AgreeUpTo v a b) (uk : Bytes) :
    (VS.mk a v).get uk = (VS.mk b v).get uk := by
  apply Option.ext
  intro x
  rw [VS.get_sees' a ha v hvm, VS.get_sees' b hb v hvm, sees_agree h]

theorem iter_agree {v : Nat} {a b : DB} (ha : WFL a) (hb : WFL b) (hvm : v ≤ maxVer) (h : AgreeUpTo v a b)
    (pfx : Bytes) (hpa : PrefixCompat a pfx) (hpb : PrefixCompat b pfx) (reverse seek : Bool) :
    (VS.mk a v).iter pfx reverse seek = (VS.mk b v).iter pfx reverse seek := by
  have sa := VS.iter_sees a ha v hvm pfx hpa reverse seek
  have sb := VS.iter_sees b hb v hvm pfx hpb reverse seek
  exact sorted_mem_unique reverse _ _ sa.1 sb.1 fun e => by
    obtain ⟨k, x⟩ := e; rw [sa.2, sb.2, sees_agree h]

theorem idxPrefix_eq : idxPrefix = [2, 105, 47] := rfl
theorem idxPrefix_length : idxPrefix.length = 3 := rfl

/-- every entry of the indexer partition is `i/ ++ key ++ ^version` with a key of `IK`, committed at a
version in `[1, ver]` -/
structure IRep (IK : Bytes → Prop) (idb : DB) (ver : Nat) : Prop where
  sorted : SSorted idb
  keys : ∀ e ∈ idb, ∃ k w, IK k ∧ 1 ≤ w ∧ w ≤ ver ∧ e.1 = mkKey (idxPrefix ++ k) w

theorem IRep.init (IK : Bytes → Prop) : IRep IK [] 0 := ⟨List.Pairwise.nil, by simp⟩

theorem IRep.version_le {IK : Bytes → Prop} {idb : DB} {ver : Nat} (h : IRep IK idb ver) (hver : ver ≤ maxVer) {u : Bytes}
    {w : Nat} (hw : w ≤ maxVer) {raw : Bytes} (hg : smGet idb (mkKey u w) = some raw) : w ≤ ver := by
  obtain ⟨_, w', _, _, hw', hek⟩ := h.keys _ ((smGet_eq_some_iff h.sorted _ _).mp hg)
  rw [(mkKey_inj hw (Nat.le_trans hw' hver) hek).2]
  exact hw'

theorem IRep.key_of_mem {IK : Bytes → Prop} {idb : DB} {ver : Nat} (h : IRep IK idb ver) {e : Entry} (he : e ∈ idb) {u : Bytes}
    {w : Nat} (hu : e.1 = mkKey u w) : ∃ k, IK k ∧ u = idxPrefix ++ k := by
  obtain ⟨k, _, hk, _, _, hek⟩ := h.keys e he
  exact ⟨k, hk, mkKey_uk_inj (hu.symm.trans hek)⟩

theorem IRep.wfl {IK : Bytes → Prop} (hK : WFKeys IK) {idb : DB} {ver : Nat} (h : IRep IK idb ver) (hv : ver ≤ maxVer) :
    WFL idb := by
  refine ⟨h.sorted, ?_, ?_⟩
  · intro e he
    obtain ⟨k, w, hk, _, hw, hek⟩ := h.keys e he
    have hl := (hK.ok k hk).2.1
    exact ⟨idxPrefix ++ k, w, hek, by rw [idxPrefix_eq]; simp, by simp [idxPrefix_length]; omega, by omega⟩
  · intro e1 he1 e2 he2 u1 w1 u2 w2 h1 h2 hp
    obtain ⟨k1, hk1, rfl⟩ := h.key_of_mem he1 h1
    obtain ⟨k2, hk2, rfl⟩ := h.key_of_mem he2 h2
    rw [hK.pf k1 k2 hk1 hk2 ((List.prefix_append_right_inj _).mp hp)]

theorem IRep.compatP {IK : Bytes → Prop} {idb : DB} {ver : Nat} (h : IRep IK idb ver) {p : Bytes} (hp : PfxOK IK p) :
    PrefixCompat idb (idxPrefix ++ p) := by
  intro e he u w hu hpre
  obtain ⟨k, hk, rfl⟩ := h.key_of_mem he hu
  rw [hp k hk ((List.prefix_append_right_inj _).mp hpre)]

/-- what a view reads from the indexer's database part depends only on the entries of version ≤ its
version: point reads, prefix iteration, and everything composed of them -/
theorem iview_agree {IK : Bytes → Prop} (hIK : WFKeys IK) {a b : DB} {va vb v : Nat} (ha : IRep IK a va) (hb : IRep IK b vb)
    (hva : va ≤ maxVer) (hvb : vb ≤ maxVer) (hv : v ≤ maxVer) (hag : AgreeUpTo v a b)
    (hpfx : ∀ h, PfxOK IK (txHeightKey h)) :
    let x : IView := { idb := a, version := v }
    let y : IView := { idb := b, version := v }
    (∀ k, x.getB k = y.getB k) ∧ (∀ h, x.txsByHeight h = y.txsByHeight h) ∧
    (∀ hk t, x.getBlock hk t = y.getBlock hk t) ∧
    (∀ h, x.dbBlockByHeight h = y.dbBlockByHeight h) ∧ (∀ h, x.dbQCByHeight h = y.dbQCByHeight h) ∧
    (∀ hash, x.getBlockByHash hash = y.getBlockByHash hash) ∧ (∀ hash, x.getTxByHash hash = y.getTxByHash hash) := by
  intro x y
  have wa := ha.wfl hIK hva
  have wb := hb.wfl hIK hvb
  have hget : ∀ k, x.getB k = y.getB k := by
    intro k
    simp only [IView.getB, smGet, x, y]
    rw [get_agree wa wb hv hag]
  have hiter : ∀ h, x.iter (txHeightKey h) = y.iter (txHeightKey h) := by
    intro h
    simp only [IView.iter, IView.dbIter, x, y]
    rw [iter_agree wa wb hv hag _ (ha.compatP (hpfx h)) (hb.compatP (hpfx h))]
  have htxs : ∀ h, x.txsByHeight h = y.txsByHeight h := by
    intro h
    simp only [IView.txsByHeight, hiter h, hget]
  have hblk : ∀ hk t, x.getBlock hk t = y.getBlock hk t := by
    intro hk t
    simp only [IView.getBlock, hget hk, htxs]
  refine ⟨hget, htxs, hblk, ?_, ?_, ?_, ?_⟩
  · intro h; simp only [IView.dbBlockByHeight, hget, hblk]
  · intro h; simp only [IView.dbQCByHeight, hget]
  · intro hash; simp only [IView.getBlockByHash, hblk]
  · intro hash; simp only [IView.getTxByHash, hget]

/-- the indexer's part of a commit: the old entries of every version ≤ `ver` are untouched -/
theorem IRep.commit {IK : Bytes → Prop} {idb : DB} {ver : Nat} (h : IRep IK idb ver) (ov : Overlay)
    (hk : ∀ e ∈ ov, IK e.1) (hver : ver + 1 ≤ maxVer) :
    IRep IK (applyBatch idb (idxBatch ov (ver + 1))) (ver + 1) ∧
    AgreeUpTo ver (applyBatch idb (idxBatch ov (ver + 1))) idb := by
  constructor
  · refine ⟨sorted_applyBatch h.sorted _, ?_⟩
    intro e he
    rcases mem_applyBatch _ he with he | he
    · obtain ⟨k, w, a, b, c, d⟩ := h.keys e he
      exact ⟨k, w, a, b, Nat.le_succ_of_le c, d⟩
    · obtain ⟨a, ha, heq⟩ := List.mem_map.mp he
      injection heq with h1 _
      exact ⟨a.1, ver + 1, hk a ha, Nat.le_add_left 1 ver, Nat.le_refl _, h1.symm⟩
  · refine Above.agree h.sorted (Nat.le_of_succ_le hver) fun op hop => ?_
    obtain ⟨a, _, rfl⟩ := List.mem_map.mp hop
    exact lt_versionOf_mkKey _ (Nat.lt_succ_self ver) hver

theorem smGet_prune {idb : DB} (hs : SSorted idb) (lo hi : Nat) (u : Bytes) {w : Nat} (hw : w ≤ maxVer) (raw : Bytes) :
    smGet (idxPrune idb lo hi) (mkKey u w) = some raw ↔ ¬ (lo ≤ w ∧ w ≤ hi) ∧ smGet idb (mkKey u w) = some raw := by
  unfold idxPrune
  rw [smGet_filter hs, Option.filter_eq_some_iff, versionOf_mkKey _ hw]
  simp only [Bool.not_eq_true', Bool.and_eq_false_iff, decide_eq_false_iff_not, Decidable.not_and_iff_not_or_not, and_comm]

/-- the indexer's part of a rollback to `t`: the entries of every version ≤ `t` are untouched -/
theorem IRep.rollback {IK : Bytes → Prop} {idb : DB} {ver : Nat} (h : IRep IK idb ver) {t : Nat} (ht : t < ver)
    (hver : ver ≤ maxVer) :
    IRep IK (idxPrune idb (t + 1) ver) t ∧ AgreeUpTo t (idxPrune idb (t + 1) ver) idb := by
  constructor
  · refine ⟨h.sorted.sublist List.filter_sublist, ?_⟩
    intro e he
    obtain ⟨hm, hp⟩ := List.mem_filter.mp he
    obtain ⟨k, w, a, b, c, d⟩ := h.keys e hm
    refine ⟨k, w, a, b, ?_, d⟩
    rw [d, versionOf_mkKey _ (by omega)] at hp
    simp at hp
    omega
  · intro u w hw
    apply Option.ext
    intro raw
    rw [smGet_prune h.sorted _ _ u (by omega)]
    exact ⟨And.right, fun hg => ⟨by omega, hg⟩⟩

theorem mem_foldl_smSet {es : List (Bytes × TOp)} {acc : Overlay} {e : Bytes × TOp}
    (h : e ∈ es.foldl (fun o e => smSet o e.1 e.2) acc) : e ∈ es ∨ e ∈ acc :=
  (mem_of_mem_foldl_smSet Prod.fst Prod.snd h).imp_left fun ⟨_, hx, he⟩ => he ▸ hx

/-- the records of one block, in the order `IndexBlock` writes them -/
def blockRecs (c : Nat) (H : Bytes) (txs : List Bytes) : List (Bytes × TOp) :=
  [(blockHashKey H, .set (encHdr c H)), (blockHeightKey c, .set (blockHashKey H))] ++
  txs.zipIdx.flatMap fun p => [(txHashKey p.1, .set (encTx c p.2 p.1)), (txHeightIndexKey c p.2, .set (txHashKey p.1))]

theorem indexBlock_ov (mode : CacheKeying) (s : IState) (c : Nat) (H : Bytes) (txs : List Bytes) :
    (s.indexBlock mode c H txs).idxOv = (blockRecs c H txs).foldl (fun o e => smSet o e.1 e.2) s.idxOv := by
  unfold IState.indexBlock blockRecs
  simp only [List.foldl_append, List.foldl_flatMap, List.foldl_cons, List.foldl_nil]

theorem mem_blockRecs {c : Nat} {H : Bytes} {txs : List Bytes} {k : Bytes} {op : TOp} :
    (k, op) ∈ blockRecs c H txs ↔
      (k = blockHashKey H ∧ op = .set (encHdr c H)) ∨ (k = blockHeightKey c ∧ op = .set (blockHashKey H)) ∨
      ∃ i th, txs[i]? = some th ∧
        ((k = txHashKey th ∧ op = .set (encTx c i th)) ∨ (k = txHeightIndexKey c i ∧ op = .set (txHashKey th))) := by
  unfold blockRecs
  -- a member of `txs.zipIdx` is a pair (hash, index)
  simp only [List.mem_append, List.mem_cons, Prod.mk.injEq, List.not_mem_nil, or_false, List.mem_flatMap, Prod.exists,
    List.mem_zipIdx_iff_getElem?, or_assoc]
  rw [exists_comm]

theorem blockRecs_keys {IK : Bytes → Prop} {c : Nat} {H : Bytes} {txs : List Bytes} (h1 : IK (blockHashKey H))
    (h2 : IK (blockHeightKey c)) (h3 : ∀ i th, txs[i]? = some th → IK (txHashKey th) ∧ IK (txHeightIndexKey c i)) :
    ∀ e ∈ blockRecs c H txs, IK e.1 := by
  intro e he
  rcases mem_blockRecs.mp he with ⟨e1, _⟩ | ⟨e1, _⟩ | ⟨i, th, hi, ⟨e1, _⟩ | ⟨e1, _⟩⟩ <;> rw [e1]
  · exact h1
  · exact h2
  · exact (h3 i th hi).1
  · exact (h3 i th hi).2

def IOpOK (K IK : Bytes → Prop) : IOp → Prop
  | .store op => OpOK K op
  | .indexBlock h hash txs =>
    IK (blockHashKey hash) ∧ IK (blockHeightKey h) ∧
      ∀ p ∈ txs.zipIdx, IK (txHashKey p.1) ∧ IK (txHeightIndexKey h p.2)
  | .indexQC h _ => IK (qcHeightKey h)
  | _ => True

def IKeeps (v : Nat) : IOp → Prop
  | .store op => KeepsHistory v op
  | _ => True

theorem keepsHistory_zero (op : Op) : KeepsHistory 0 op := by
  cases op with
  | rollback t => exact Nat.zero_le t
  | _ => trivial

theorem iKeeps_zero (op : IOp) : IKeeps 0 op := by
  cases op with
  | store o => exact keepsHistory_zero o
  | _ => trivial

structure IInv (K IK : Bytes → Prop) (s : IState) (m : VMap) : Prop where
  st : Inv K s.st m
  idx : IRep IK s.idb s.st.version
  pend : ∀ e ∈ s.idxOv, IK e.1

theorem IInv.init (K IK : Bytes → Prop) : IInv K IK {} [] :=
  ⟨Inv.init K, IRep.init IK, by intro e he; cases he⟩

theorem Op.commit_rollback_or (op : Op) :
    op = .commit ∨ (∃ t, op = .rollback t) ∨ (op ≠ .commit ∧ ∀ t, op ≠ .rollback t) := by
  cases op with
  | commit => exact .inl rfl
  | rollback t => exact .inr (.inl ⟨t, rfl⟩)
  | _ => exact .inr (.inr ⟨nofun, fun _ => nofun⟩)

theorem apply_same_db (s : State) (op : Op) (h1 : op ≠ .commit) (h2 : ∀ t, op ≠ .rollback t) :
    (s.apply op).version = s.version ∧ (s.apply op).db = s.db := by
  cases op with
  | commit => exact absurd rfl h1
  | rollback t => exact absurd rfl (h2 t)
  | flush | discard | pop | cset | cdel =>
    -- a `match` on the pending layers or on the copies: either branch keeps version and database
    simp only [State.apply]
    split <;> exact ⟨rfl, rfl⟩
  | _ => exact ⟨rfl, rfl⟩

/-! `commit`, `rollback` and `reset` act only on a store without nested transactions; otherwise, and when the
rollback fails or targets the current version, the process state is unchanged -/

theorem IState.apply_commit (mode : CacheKeying) (s : IState) :
    s.apply mode (.store .commit) = s ∨ (∃ l, s.st.main = [l]) ∧ s.apply mode (.store .commit) =
      { s with st := s.st.commit, idb := applyBatch s.idb (idxBatch s.idxOv (s.st.version + 1)), idxOv := [] } := by
  show s.commit = s ∨ _ ∧ s.commit = _
  unfold IState.commit
  split
  · next l h => exact Or.inr ⟨⟨l, h⟩, rfl⟩
  · exact Or.inl rfl

theorem IState.apply_rollback (mode : CacheKeying) (s : IState) (t : Nat) :
    s.apply mode (.store (.rollback t)) = s ∨ ∃ l st', s.st.main = [l] ∧ s.st.rollback t = some st' ∧ t ≠ s.st.version ∧
      s.apply mode (.store (.rollback t)) =
        { s with st := st', idb := idxPrune s.idb (t + 1) s.st.version, idxOv := [], cache := [] } := by
  simp only [IState.apply]
  split
  · next l hm =>
    unfold IState.rollback
    cases hrb : s.st.rollback t with
    | none => exact Or.inl rfl
    | some st' =>
      by_cases htv : t = s.st.version
      · simp only [if_pos htv, Option.getD_some, true_or]
      · exact Or.inr ⟨l, st', hm, rfl, htv, by simp only [if_neg htv, Option.getD_some]⟩
  · exact Or.inl rfl

theorem IState.apply_reset (mode : CacheKeying) (s : IState) :
    s.apply mode .reset = s ∨ s.apply mode .reset = s.reset := by
  simp only [IState.apply]
  split
  · exact Or.inr rfl
  · exact Or.inl rfl

theorem IState.apply_store (mode : CacheKeying) (s : IState) {op : Op} (h1 : op ≠ .commit) (h2 : ∀ t, op ≠ .rollback t) :
    s.apply mode (.store op) = { s with st := s.st.apply op } := by
  cases op <;> first | rfl | exact absurd rfl h1 | exact absurd rfl (h2 _)

theorem IInv.apply {K IK : Bytes → Prop} (hK : WFKeys K) (mode : CacheKeying) {s : IState} {m : VMap} (hi : IInv K IK s m) (op : IOp)
    (hop : IOpOK K IK op) (hver : s.st.version + 1 < maxVer) :
    ∃ m', IInv K IK (s.apply mode op) m' ∧ (s.apply mode op).st.version ≤ s.st.version + 1 ∧
      ∀ v, v ≤ s.st.version → IKeeps v op →
        (v ≤ (s.apply mode op).st.version ∧ (∀ k, readAt m' v k = readAt m v k) ∧ AgreeUpTo v (s.apply mode op).idb s.idb) := by
  -- an operation that only touches the cache or the pending index operations
  have same : ∀ (c : Cache) (ov : Overlay), (∀ e ∈ ov, IK e.1) →
      ∃ m', IInv K IK { s with cache := c, idxOv := ov } m' ∧ s.st.version ≤ s.st.version + 1 ∧
        ∀ v, v ≤ s.st.version → IKeeps v op →
          (v ≤ s.st.version ∧ (∀ k, readAt m' v k = readAt m v k) ∧ AgreeUpTo v s.idb s.idb) :=
    fun c ov h3 => ⟨m, ⟨hi.st, hi.idx, h3⟩, Nat.le_succ _, fun v hv _ => ⟨hv, fun _ => rfl, AgreeUpTo.refl _ _⟩⟩
  cases op with
  | purgeCache | getBlock | getQC | getBlocks => exact same _ _ hi.pend
  | indexQC h bh =>
    refine same _ _ ?_
    intro e he
    rcases mem_of_mem_smSet he with rfl | he
    · exact hop
    · exact hi.pend e he
  | indexBlock h hash txs =>
    refine same _ (s.indexBlock mode h hash txs).idxOv ?_
    intro e he
    rcases mem_foldl_smSet (indexBlock_ov mode s h hash txs ▸ he) with he | he
    · exact blockRecs_keys hop.1 hop.2.1 (fun i th hi => hop.2.2 (th, i) (List.mem_zipIdx_iff_getElem?.mpr hi)) e he
    · exact hi.pend e he
  | reset =>
    rcases s.apply_reset mode with h | h <;> rw [h]
    · exact same _ _ hi.pend
    · exact ⟨m, ⟨⟨hi.st.rep, layersOK_empty K, hi.st.side⟩, hi.idx, by intro e he; cases he⟩, Nat.le_succ s.st.version,
        fun v hv _ => ⟨hv, fun _ => rfl, AgreeUpTo.refl _ _⟩⟩
  | store sop =>
    obtain ⟨hi', hle, hk⟩ := hi.st.apply_spec hK sop hop hver
    rcases sop.commit_rollback_or with rfl | ⟨t, rfl⟩ | ⟨hc, hr⟩
    · rcases s.apply_commit mode with h | ⟨⟨l, hm⟩, h⟩ <;> rw [h]
      · exact same _ _ hi.pend
      · have hv' : s.st.commit.version = s.st.version + 1 := by simp [State.commit, hm]
        have hc := hi.idx.commit s.idxOv hi.pend (Nat.le_of_lt hver)
        exact ⟨_, ⟨hi', by show IRep IK _ s.st.commit.version; rw [hv']; exact hc.1, by intro e he; cases he⟩, hle,
          fun v hv hkeep => ⟨(hk v hv hkeep).1, (hk v hv hkeep).2, hc.2.mono hv⟩⟩
    · rcases s.apply_rollback mode t with h | ⟨l, st', hm, hrb, htv, h⟩ <;> rw [h]
      · exact same _ _ hi.pend
      · have happ : s.st.apply (.rollback t) = st' := by simp [State.apply, hm, hrb]
        rw [happ] at hi' hle hk
        -- a real rollback: t < version and the new version is t
        have hfacts : t < s.st.version ∧ st'.version = t := by
          simp only [State.rollback, Option.ite_none_left_eq_some, if_neg htv, Option.some.injEq] at hrb
          obtain ⟨_, h1, rfl⟩ := hrb
          exact ⟨by omega, rfl⟩
        have hrbk := hi.idx.rollback hfacts.1 (by omega)
        exact ⟨_, ⟨hi', by rw [hfacts.2]; exact hrbk.1, by intro e he; cases he⟩, hle,
          fun v hv hkeep => ⟨(hk v hv hkeep).1, (hk v hv hkeep).2, hrbk.2.mono hkeep⟩⟩
    · rw [s.apply_store mode hc hr]
      exact ⟨_, ⟨hi', by show IRep IK s.idb _; rw [(apply_same_db s.st sop hc hr).1]; exact hi.idx, hi.pend⟩, hle,
        fun v hv hkeep => ⟨(hk v hv hkeep).1, (hk v hv hkeep).2, AgreeUpTo.refl _ _⟩⟩

def runIOps (mode : CacheKeying) (s : IState) (ops : List IOp) : IState := ops.foldl (IState.apply mode) s

theorem IInv.run {K IK : Bytes → Prop} (hK : WFKeys K) (mode : CacheKeying) : ∀ (ops : List IOp) {s : IState} {m : VMap}, IInv K IK s m →
    (∀ op ∈ ops, IOpOK K IK op) → s.st.version + ops.length + 1 < maxVer → ∀ v, v ≤ s.st.version →
    (∀ op ∈ ops, IKeeps v op) →
    ∃ m', IInv K IK (runIOps mode s ops) m' ∧ v ≤ (runIOps mode s ops).st.version ∧
      (runIOps mode s ops).st.version ≤ s.st.version + ops.length ∧
      (∀ k, readAt m' v k = readAt m v k) ∧ AgreeUpTo v (runIOps mode s ops).idb s.idb := by
  intro ops
  induction ops with
  | nil => intro s m hi _ _ v hv _; exact ⟨m, hi, hv, Nat.le_refl _, fun _ => rfl, AgreeUpTo.refl _ _⟩
  | cons op ops ih =>
    intro s m hi hops hver v hv hkeep
    simp only [List.length_cons] at hver
    obtain ⟨hop, hops⟩ := List.forall_mem_cons.mp hops
    obtain ⟨hkp, hkeep⟩ := List.forall_mem_cons.mp hkeep
    obtain ⟨m1, hi1, hv1, hk1⟩ := hi.apply hK mode op hop (by omega)
    obtain ⟨hvv, hread, hag⟩ := hk1 v hv hkp
    obtain ⟨m2, hi2, hv2, hle2, hread2, hag2⟩ := ih hi1 hops (by omega) v hvv hkeep
    refine ⟨m2, hi2, hv2, ?_, fun k => (hread2 k).trans (hread k), hag2.trans hag⟩
    show (runIOps mode (s.apply mode op) ops).st.version ≤ _
    simp only [List.length_cons]; omega

theorem IState.apply_idxOv (mode : CacheKeying) (s : IState) (op : IOp) (h : SSorted s.idxOv) :
    SSorted (s.apply mode op).idxOv ∧ (s.apply mode op).idxSort = s.idxSort := by
  -- commit, rollback and reset either do nothing or drop the pending operations
  cases op with
  | store o =>
    rcases o.commit_rollback_or with rfl | ⟨t, rfl⟩ | ⟨hc, hr⟩
    · rcases s.apply_commit mode with e | ⟨_, e⟩ <;> rw [e]
      · exact ⟨h, rfl⟩
      · exact ⟨List.Pairwise.nil, rfl⟩
    · rcases s.apply_rollback mode t with e | ⟨_, _, _, _, _, e⟩ <;> rw [e]
      · exact ⟨h, rfl⟩
      · exact ⟨List.Pairwise.nil, rfl⟩
    · rw [s.apply_store mode hc hr]
      exact ⟨h, rfl⟩
  | indexBlock hh hash txs => exact ⟨indexBlock_ov mode s hh hash txs ▸ h.foldl_smSet Prod.fst Prod.snd _, rfl⟩
  | indexQC hh bh => exact ⟨sorted_smSet h _ _, rfl⟩
  | reset =>
    rcases s.apply_reset mode with e | e <;> rw [e]
    · exact ⟨h, rfl⟩
    · exact ⟨List.Pairwise.nil, rfl⟩
  | _ => exact ⟨h, rfl⟩

theorem runIOps_idxOv (mode : CacheKeying) (ops : List IOp) : ∀ (s : IState), SSorted s.idxOv →
    SSorted (runIOps mode s ops).idxOv ∧ (runIOps mode s ops).idxSort = s.idxSort := by
  induction ops with
  | nil => intro s h; exact ⟨h, rfl⟩
  | cons op ops ih =>
    intro s h
    have h1 := s.apply_idxOv mode op h
    have h2 := ih _ h1.1
    exact ⟨h2.1, h2.2.trans h1.2⟩

/-- **iteration through an indexer `Txn` built with `sort = true`** (its sorted tree holds every pending
operation) over a represented index: the merged iterator yields *the* scan — strictly ordered, complete,
duplicate-free — of the committed index as of the view's version with the pending operations applied:
pending puts are there, pending deletes hide committed entries. -/
theorem sorted_txn_iter_scan {IK : Bytes → Prop} (hIK : WFKeys IK) {idb : DB} {ver : Nat} (hr : IRep IK idb ver)
    (hver : ver ≤ maxVer) (v : Nat) (hv : v ≤ maxVer) (ov : Overlay) (hs : SSorted ov) (hk : ∀ e ∈ ov, IK e.1)
    (p : Bytes) (hp : PfxOK IK p) :
    IsScanR (applyOvR ov fun k x => Sees idb v (idxPrefix ++ k) x) p false
      (IView.iter { idb := idb, version := v, pend := ov, ipend := ov } p) := by
  have hw := hr.wfl hIK hver
  let hd : Handle := { snap := idb, rver := v, pfx := idxPrefix, layers := [] }
  have hbase := base_scan hd hw hv p false false (hr.compatP hp)
  have hok : OvKeysOK ov := by
    intro e he
    have := hIK.ok e.1 (hk e he)
    exact ⟨this.1, by have := this.2.1; omega⟩
  have hm := layer_scan ov hs hok hd.baseView p false _ hbase
  cases ov with
  | nil =>
    simp only [IView.iter, IView.dbIter]
    refine IsScanR.congr ?_ hbase
    intro k x
    simp [applyOvR, smGet, Handle.baseView, hd]
  | cons e rest => exact hm

abbrev B64 : Nat := 18446744073709551616

/-- the keys `IndexBlock` / `IndexQC` write: block, QC and tx records (32-byte hashes, IndexByAccount off) -/
inductive IdxKey : Bytes → Prop
  | blockHash (hash : Bytes) (h : hash.length = 32) : IdxKey (blockHashKey hash)
  | blockHeight (h : Nat) (hh : h < 18446744073709551616) : IdxKey (blockHeightKey h)
  | qcHeight (h : Nat) (hh : h < 18446744073709551616) : IdxKey (qcHeightKey h)
  | txHash (hash : Bytes) (h : hash.length = 32) : IdxKey (txHashKey hash)
  | txHeightIndex (h i : Nat) (hh : h < 18446744073709551616) (hi : i < 18446744073709551616) :
      IdxKey (txHeightIndexKey h i)

theorem segsOK_be8 (t : UInt8) (ns : List Nat) : SegsOK ([t] :: ns.map be8) := by
  intro s hs
  rcases List.mem_cons.mp hs with rfl | hs
  · simp
  · obtain ⟨n, _, rfl⟩ := List.mem_map.mp hs
    rw [be8_length]; decide

theorem segsOK_hash (t : UInt8) {hash : Bytes} (h : hash.length = 32) : SegsOK [[t], hash] :=
  segsOK_cons.mpr ⟨by simp, segsOK_cons.mpr ⟨by omega, segsOK_nil⟩⟩

theorem IdxKey.segs {k : Bytes} (h : IdxKey k) : ∃ segs, SegsOK segs ∧ k = joinLenPrefix segs ∧
    ((∃ hash, hash.length = 32 ∧ segs = [[5], hash]) ∨ (∃ n, n < B64 ∧ segs = [[6], be8 n]) ∨
     (∃ n, n < B64 ∧ segs = [[7], be8 n]) ∨
     (∃ hash, hash.length = 32 ∧ segs = [[1], hash]) ∨
     (∃ n i, n < B64 ∧ i < B64 ∧ segs = [[2], be8 n, be8 i])) ∧
    ∃ t rest, segs = [t] :: rest ∧ rest.length + 1 = if t = 2 then 3 else 2 := by
  cases h with
  | blockHash hash hl => exact ⟨_, segsOK_hash 5 hl, rfl, Or.inl ⟨hash, hl, rfl⟩, _, _, rfl, rfl⟩
  | blockHeight n hn => exact ⟨_, segsOK_be8 6 [n], rfl, Or.inr (Or.inl ⟨n, hn, rfl⟩), _, _, rfl, rfl⟩
  | qcHeight n hn => exact ⟨_, segsOK_be8 7 [n], rfl, Or.inr (Or.inr (Or.inl ⟨n, hn, rfl⟩)), _, _, rfl, rfl⟩
  | txHash hash hl => exact ⟨_, segsOK_hash 1 hl, rfl, Or.inr (Or.inr (Or.inr (Or.inl ⟨hash, hl, rfl⟩))), _, _, rfl, rfl⟩
  | txHeightIndex n i hn hi' =>
    exact ⟨_, segsOK_be8 2 [n, i], rfl, Or.inr (Or.inr (Or.inr (Or.inr ⟨n, i, hn, hi', rfl⟩))), _, _, rfl, rfl⟩

theorem idxKey_wf : WFKeys IdxKey where
  ok := by
    intro k hk
    obtain ⟨segs, hok, rfl, hshape, _⟩ := hk.segs
    have hlen : 0 < (joinLenPrefix segs).length ∧ (joinLenPrefix segs).length ≤ 245 := by
      rcases hshape with ⟨_, hl, rfl⟩ | ⟨_, _, rfl⟩ | ⟨_, _, rfl⟩ | ⟨_, hl, rfl⟩ | ⟨_, _, _, _, rfl⟩ <;>
        simp [joinLenPrefix, be8_length, *]
    exact ⟨List.ne_nil_of_length_pos hlen.1, hlen.2, by unfold keyOK; rw [decode_join segs hok]; rfl⟩
  pf := by
    intro a b ha hb hp
    -- the tag segment fixes the number of segments
    obtain ⟨sa, oka, rfl, _, ta, ra, rfl, la⟩ := ha.segs
    obtain ⟨sb, okb, rfl, _, tb, rb, rfl, lb⟩ := hb.segs
    obtain ⟨e, hr⟩ := List.cons_prefix_cons.mp (join_prefix _ _ oka okb hp)
    obtain rfl : ta = tb := by simpa using e
    rw [hr.eq_of_length (by omega)]

/-- no index key is a proper prefix of the per-height tx prefix the block reads iterate -/
theorem idxKey_pfx (h : Nat) : PfxOK IdxKey (txHeightKey h) := by
  intro k hk hp
  exfalso
  obtain ⟨sa, oka, rfl, shA, _⟩ := hk.segs
  have hs := join_prefix sa [[2], be8 h] oka (segsOK_be8 2 [h]) hp
  rcases shA with ⟨_, _, rfl⟩ | ⟨_, _, rfl⟩ | ⟨_, _, rfl⟩ | ⟨_, _, rfl⟩ | ⟨_, _, _, _, rfl⟩ <;>
    simp [List.cons_prefix_cons] at hs

end Canopy.Store
