import Canopy.Proof.LedgerTally
/-! C04: every modelled operation preserves `InvSupply` and changes the recorded total only by what it
mints or burns. `Step m b L L'` = "minted `m`, burned `b`"; `Moves L L'` = `Step 0 0 L L'` = "only moved tokens". -/
namespace Canopy.Ledger
open AMap

/-- `L'` is `L` after minting `m` and burning `b`: the recorded total and the real sum moved together -/
def Step (m b : Nat) (L L' : Ledger) : Prop :=
  L'.supply.total + b = L.supply.total + m ∧ bal L' + b = bal L + m

abbrev Moves := Step 0 0

theorem Step.inv {m b : Nat} {L L' : Ledger} (hs : Step m b L L') (hi : InvSupply L) (hlt : L'.supply.total < U64) : InvSupply L' := by
  obtain ⟨h1, h2⟩ := hs; obtain ⟨i1, i2⟩ := hi
  exact ⟨by omega, hlt⟩

theorem Step.inv_of_le {m b : Nat} {L L' : Ledger} (hs : Step m b L L') (hi : InvSupply L) (hm : m ≤ b) : InvSupply L' := by
  obtain ⟨h1, h2⟩ := hs; obtain ⟨i1, i2⟩ := hi
  exact ⟨by omega, by omega⟩

theorem Step.trans {m1 b1 m2 b2 : Nat} {A B C : Ledger} (h1 : Step m1 b1 A B) (h2 : Step m2 b2 B C) : Step (m1 + m2) (b1 + b2) A C := by
  obtain ⟨a1, a2⟩ := h1; obtain ⟨c1, c2⟩ := h2
  exact ⟨by omega, by omega⟩

theorem Moves.refl (L : Ledger) : Moves L L := ⟨rfl, rfl⟩
theorem Moves.trans {A B C : Ledger} (h1 : Moves A B) (h2 : Moves B C) : Moves A C := Step.trans h1 h2
theorem Moves.inv {L L' : Ledger} (h : Moves L L') (hi : InvSupply L) : InvSupply L' := h.inv_of_le hi (Nat.le_refl 0)

theorem moves_of_sameCore {L L' : Ledger} (h : SameCore L L') : Moves L L' :=
  ⟨by rw [h.total], by rw [bal_of_sameCore h]⟩

theorem moves_of_money {L L' : Ledger} (hm : SameMoney L L') (hs : stakeSum L' = stakeSum L) : Moves L L' := by
  obtain ⟨h1, h2, h3⟩ := hm
  simp only [Moves, Step, bal, accSum, poolSum, h1, h2, h3, hs, and_self]

theorem accountSub_bal {L L' : Ledger} {a : Addr} {x : Nat} (h : accountSub L a x = .ok L') :
    L'.supply.total = L.supply.total ∧ bal L' + x = bal L := by
  obtain ⟨acc, vs, rfl, e⟩ := accountSub_ok h
  exact ⟨rfl, by show accSum _ + poolSum L + stakeSum L + x = accSum L + poolSum L + stakeSum L; omega⟩

theorem accountAdd_bal {L L' : Ledger} {a : Addr} {x : Nat} (h : accountAdd L a x = .ok L') :
    L'.supply.total = L.supply.total ∧ bal L' = bal L + x := by
  obtain ⟨acc, vs, rfl, e⟩ := accountAdd_ok h
  exact ⟨rfl, by show accSum _ + poolSum L + stakeSum L = accSum L + poolSum L + stakeSum L + x; omega⟩

theorem poolSub_bal {L L' : Ledger} {id x : Nat} (h : poolSub L id x = .ok L') :
    L'.supply.total = L.supply.total ∧ bal L' + x = bal L := by
  obtain ⟨p, rfl, e⟩ := poolSub_ok h
  exact ⟨rfl, by show accSum L + poolSum _ + stakeSum L + x = accSum L + poolSum L + stakeSum L; omega⟩

/-- no pool can overflow while the real sum stays below 2^64 -/
theorem poolAdd_bal (L : Ledger) (id x : Nat) (h : bal L + x < U64) :
    (poolAdd L id x).supply.total = L.supply.total ∧ bal (poolAdd L id x) = bal L + x := by
  have hb := poolGet_le L id
  obtain ⟨p, e2, e3⟩ := poolAdd_noWrap L id x (by unfold bal at h; omega)
  have e : bal (poolAdd L id x) = accSum L + poolSum (poolAdd L id x) + stakeSum L := by rw [e2]; rfl
  exact ⟨by rw [e2], by rw [e, e3]; unfold bal; omega⟩

theorem deductFees_moves {L L' : Ledger} {a : Addr} {fee : Nat} (hi : InvSupply L) (h : deductFees L a fee = .ok L') : Moves L L' := by
  unfold deductFees at h
  obtain ⟨L1, h1, h2⟩ := bind_ok h
  obtain ⟨t1, b1⟩ := accountSub_bal h1
  cases h2
  obtain ⟨t2, b2⟩ := poolAdd_bal L1 L1.cfg.chainId fee (by have := hi.1; have := hi.2; omega)
  exact ⟨by omega, by omega⟩

theorem handleSend_moves {L L' : Ledger} {s d : Addr} {x : Nat} (h : handleSend L s d x = .ok L') : Moves L L' := by
  unfold handleSend at h
  obtain ⟨L1, h1, h2⟩ := bind_ok h
  obtain ⟨t1, b1⟩ := accountSub_bal h1
  obtain ⟨t2, b2⟩ := accountAdd_bal h2
  exact ⟨by omega, by omega⟩

theorem accountAddWithVesting_ok {L L' : Ledger} {dst : Addr} {x st cl en : Nat}
    (h : accountAddWithVesting L dst x st cl en = .ok L') :
    ∃ acc vs, L' = { L with accounts := acc, vesting := vs } ∧ accSum L' = accSum L + x := by
  unfold accountAddWithVesting at h
  -- whichever tranche is recorded, the balance written is the old one plus `x`
  have key : ∀ t, (.ok (setAccount L dst (accGet L dst + x) t) : M Ledger) = .ok L' →
      ∃ acc vs, L' = { L with accounts := acc, vesting := vs } ∧ accSum L' = accSum L + x := by
    intro t e
    cases e
    exact ⟨_, _, rfl, by have := accSum_setAccount L dst (accGet L dst + x) t; omega⟩
  obtain ⟨_, h⟩ := ite_error_eq_ok.1 h
  split at h
  · cases h
  · rcases ite_eq_iff.1 h with ⟨_, h⟩ | ⟨_, h⟩
    · exact key _ h
    · exact key _ h

/-- a vesting send only moves tokens: the sender is debited (spendable part only), the recipient credited, and
the tranche bookkeeping does not touch any balance -/
theorem handleSendVesting_moves {L L' : Ledger} {s d : Addr} {x st cl en : Nat} (h : handleSendVesting L s d x st cl en = .ok L') :
    Moves L L' := by
  unfold handleSendVesting at h
  obtain ⟨_, _, h⟩ := bind_ok h
  obtain ⟨L1, h1, h2⟩ := bind_ok h
  obtain ⟨t1, b1⟩ := accountSub_bal h1
  obtain ⟨acc2, vs2, rfl, e2⟩ := accountAddWithVesting_ok h2
  exact ⟨by rw [← t1], by
    show accSum _ + poolSum L1 + stakeSum L1 + 0 = bal L + 0
    unfold bal at b1 ⊢; omega⟩

theorem handleSubsidy_moves {L L' : Ledger} {a : Addr} {c x : Nat} (hi : InvSupply L) (h : handleSubsidy L a c x = .ok L') : Moves L L' := by
  unfold handleSubsidy at h
  split at h
  · cases h
  obtain ⟨L1, h1, h2⟩ := bind_ok h
  obtain ⟨t1, b1⟩ := accountSub_bal h1
  cases h2
  obtain ⟨t2, b2⟩ := poolAdd_bal L1 c x (by have := hi.1; have := hi.2; omega)
  exact ⟨by omega, by omega⟩

/-- `MintToPool` mints exactly `x` provided the recorded total does not overflow (F5: the code has no guard) -/
theorem mintToPool_mints {L : Ledger} {id x : Nat} (hi : InvSupply L) (hx : L.supply.total + x < U64) :
    Step x 0 L (mintToPool L id x) := by
  unfold mintToPool
  rw [addToTotal_noWrap L x hx]
  obtain ⟨t, b⟩ := poolAdd_bal { L with supply := { L.supply with total := L.supply.total + x } } id x (by
    show bal L + x < U64; have := hi.1; omega)
  exact ⟨by rw [t]; rfl, by rw [b]; rfl⟩

/-- companion of `mintToPool_mints` at the excluded point: the recorded total wraps while the pool does not
lose anything, so the identity breaks by exactly 2^64 -/
theorem mintToPool_wraps {L : Ledger} {id x : Nat} (hi : InvSupply L) (hx : U64 ≤ L.supply.total + x) (hxlt : x < U64)
    (hp : poolGet L id + x < U64) :
    (mintToPool L id x).supply.total + U64 = bal (mintToPool L id x) := by
  unfold mintToPool
  have ht := addToTotal_wraps L x hx hxlt hi.2
  obtain ⟨p, e2, e3⟩ := poolAdd_noWrap (addToTotal L x) id x (by simpa [poolGet, addToTotal] using hp)
  have e : bal (poolAdd (addToTotal L x) id x) = accSum L + poolSum (poolAdd (addToTotal L x) id x) + stakeSum L := by
    rw [e2]; rfl
  have et : (poolAdd (addToTotal L x) id x).supply.total = (addToTotal L x).supply.total := by rw [e2]
  have ep : poolSum (addToTotal L x) = poolSum L := rfl
  have hb : L.supply.total = accSum L + poolSum L + stakeSum L := hi.1
  rw [e, et, e3]; omega

theorem mintToAccount_mints {L L' : Ledger} {a : Addr} {x : Nat} (hx : L.supply.total + x < U64)
    (h : mintToAccount L a x = .ok L') : Step x 0 L L' := by
  unfold mintToAccount at h
  split at h
  · next h0 => cases h; subst h0; exact Moves.refl L
  · rw [addToTotal_noWrap L x hx] at h
    obtain ⟨t, b⟩ := accountAdd_bal h
    exact ⟨by rw [t]; rfl, by rw [b]; rfl⟩

/-- `HandleMessageDAOTransfer`: mints `amount` when `mint` is set (hypothesis: no overflow), otherwise only moves -/
theorem handleDaoTransfer_step {L L' : Ledger} {a : Addr} {x s e : Nat} {mint : Bool} (hi : InvSupply L)
    (hx : mint = true → L.supply.total + x < U64)
    (h : handleDaoTransfer L a x mint s e = .ok L') : Step (if mint then x else 0) 0 L L' := by
  unfold handleDaoTransfer at h
  obtain ⟨_, _, h⟩ := bind_ok h
  obtain ⟨L2, h2, h3⟩ := bind_ok h
  have s1 : Step (if mint then x else 0) 0 L (if mint then mintToPool L Canopy.Gen.LedgerFacts.daoPoolId x else L) := by
    split
    · next hm => exact mintToPool_mints hi (hx hm)
    · exact Moves.refl L
  obtain ⟨t2, b2⟩ := poolSub_bal h2
  obtain ⟨t3, b3⟩ := accountAdd_bal h3
  exact ⟨by have := s1.1; omega, by have := s1.2; omega⟩

/-- `maybeFaucetTopUpForSendTx`: mints the shortfall when the sender is the configured faucet -/
def faucetMint (L : Ledger) (sender : Addr) (required : Nat) : Nat :=
  match L.cfg.faucet with
  | none => 0
  | some f => if sender ≠ f then 0 else if accSpendable L sender ≥ required then 0 else required - accSpendable L sender

/-- `maybeFaucetTopUpForSendTx` is a mint of exactly the shortfall -/
theorem faucetTopUp_eq (L : Ledger) (a : Addr) (r : Nat) : faucetTopUp L a r = mintToAccount L a (faucetMint L a r) := by
  unfold faucetTopUp faucetMint
  cases L.cfg.faucet with
  | none => rfl
  | some f =>
    dsimp only
    by_cases hne : a ≠ f
    · rw [if_pos hne, if_pos hne]; rfl
    · rw [if_neg hne, if_neg hne]
      by_cases hge : accSpendable L a ≥ r
      · rw [if_pos hge, if_pos hge]; rfl
      · rw [if_neg hge, if_neg hge]

/-- a `throw` returns nothing, whatever follows it: the branch of a guard that fired -/
theorem throw_ne_ok {α β} {e : Err} {f : α → M β} {b : β} : ((throw e : M α) >>= f) = .ok b → False := by
  intro h; cases h

/-- discharge a statement-level guard `if c then throw e` in a `do` block: the main goal continues in the
branch where the guard did not fire, with the negated condition available -/
macro "guard_at" h:ident : tactic =>
  `(tactic| (
    try dsimp only at $h:ident
    split at $h:ident
    · exact (throw_ne_ok $h:ident).elim))

/-- what a successful `HandleMessageUnstake` did -/
theorem handleUnstake_ok {L L' : Ledger} {a : Addr} (h : handleUnstake L a = .ok L') :
    ∃ val, valGet? L a = some val ∧ val.unstakingHeight = 0 ∧ L' = setValidatorUnstaking L a val
      ((L.height + (if val.delegate then L.params.delegateUnstakingBlocks else L.params.unstakingBlocks)) % U64) := by
  unfold handleUnstake at h
  obtain ⟨val, hv, h⟩ := bind_ok h
  simp only [throw_bind, ite_error_eq_ok, pure_eq_ok, ne_eq, Decidable.not_not] at h
  exact ⟨val, getValidator_ok hv, h.1, h.2.symm⟩

/-- what a successful `HandleMessagePause` did -/
theorem handlePause_ok {L L' : Ledger} {a : Addr} (h : handlePause L a = .ok L') :
    ∃ val, valGet? L a = some val ∧ val.maxPausedHeight = 0 ∧ val.unstakingHeight = 0 ∧ val.delegate = false ∧
      L' = setValidatorPaused L a val ((L.height + L.params.maxPauseBlocks) % U64) := by
  unfold handlePause at h
  obtain ⟨val, hv, h⟩ := bind_ok h
  simp only [throw_bind, ite_error_eq_ok, pure_eq_ok, ne_eq, Decidable.not_not, Bool.not_eq_true] at h
  obtain ⟨h1, h2, h3, rfl⟩ := h
  exact ⟨val, getValidator_ok hv, h1, h2, h3, rfl⟩

/-- what a successful `HandleMessageUnpause` did -/
theorem handleUnpause_ok {L L' : Ledger} {a : Addr} (h : handleUnpause L a = .ok L') :
    ∃ val, valGet? L a = some val ∧ val.maxPausedHeight ≠ 0 ∧ val.unstakingHeight = 0 ∧ val.delegate = false ∧
      L' = setValidatorUnpaused L a val := by
  unfold handleUnpause at h
  obtain ⟨val, hv, h⟩ := bind_ok h
  simp only [throw_bind, ite_error_eq_ok, pure_eq_ok, ne_eq, Decidable.not_not, Bool.not_eq_true] at h
  obtain ⟨h1, h2, h3, rfl⟩ := h
  exact ⟨val, getValidator_ok hv, h1, h2, h3, rfl⟩

theorem handleUnstake_moves {L L' : Ledger} {a : Addr} (h : handleUnstake L a = .ok L') : Moves L L' := by
  obtain ⟨val, hv, _, rfl⟩ := handleUnstake_ok h
  exact moves_of_money (setValidatorUnstaking_money ..) (stakeSum_setValidatorUnstaking _ hv rfl)

theorem handlePause_moves {L L' : Ledger} {a : Addr} (h : handlePause L a = .ok L') : Moves L L' := by
  obtain ⟨val, hv, _, _, _, rfl⟩ := handlePause_ok h
  exact moves_of_money (setValidatorPaused_money ..) (stakeSum_setValidatorPaused _ hv rfl)

theorem handleUnpause_moves {L L' : Ledger} {a : Addr} (h : handleUnpause L a = .ok L') : Moves L L' := by
  obtain ⟨val, hv, _, _, _, rfl⟩ := handleUnpause_ok h
  exact moves_of_money (setValidatorUnpaused_money ..) (stakeSum_setValidatorUnpaused hv rfl)

/-- same recorded total, accounts, pools and validator records -/
structure SameBal (L L' : Ledger) : Prop where
  total : L'.supply.total = L.supply.total
  accounts : L'.accounts = L.accounts
  pools : L'.pools = L.pools
  validators : L'.validators = L.validators

theorem SameBal.refl (L : Ledger) : SameBal L L := ⟨rfl, rfl, rfl, rfl⟩
theorem SameBal.trans {A B C : Ledger} (h1 : SameBal A B) (h2 : SameBal B C) : SameBal A C :=
  ⟨h2.total.trans h1.total, h2.accounts.trans h1.accounts, h2.pools.trans h1.pools, h2.validators.trans h1.validators⟩
theorem SameBal.bal_eq {L L' : Ledger} (h : SameBal L L') : Ledger.bal L' = Ledger.bal L := by
  simp [Ledger.bal, accSum, poolSum, stakeSum, h.accounts, h.pools, h.validators]
theorem SameBal.moves {L L' : Ledger} (h : SameBal L L') : Moves L L' := ⟨by rw [h.total], by rw [h.bal_eq]⟩
theorem SameBal.valGet {L L' : Ledger} (h : SameBal L L') (a : Addr) : valGet? L' a = valGet? L a := by
  simp [valGet?, h.validators]

/-- writing a validator record changes the real sum by the difference of the stakes -/
theorem bal_valPut (L : Ledger) (a : Addr) (v : Validator) :
    (valPut L a v).supply.total = L.supply.total ∧ bal (valPut L a v) + ow (·.stake) (valGet? L a) = bal L + v.stake := by
  have := stakeSum_valPut L a v
  refine ⟨rfl, ?_⟩
  have e1 : accSum (valPut L a v) = accSum L := rfl
  have e2 : poolSum (valPut L a v) = poolSum L := rfl
  unfold bal; rw [e1, e2]; omega

theorem bal_valDel (L : Ledger) (a : Addr) :
    (valDel L a).supply.total = L.supply.total ∧ bal (valDel L a) + ow (·.stake) (valGet? L a) = bal L := by
  have := stakeSum_valDel L a
  refine ⟨rfl, ?_⟩
  have e1 : accSum (valDel L a) = accSum L := rfl
  have e2 : poolSum (valDel L a) = poolSum L := rfl
  unfold bal; rw [e1, e2]; omega

theorem Reweigh.sameBal {old nv : Option Validator} {L L2 : Ledger} (r : Reweigh old nv L L2) : SameBal L L2 :=
  ⟨r.env.total, r.env.accounts, r.env.pools, r.validators⟩

/-- the supply view of a re-weighing followed by a write `X` at `a` (`valPut`, `valDel`, `slashFinish`): the identity sees
only the stake of the record -/
theorem SameBal.write {L L2 X : Ledger} {a : Addr} {o : Option Validator} {s : Nat} (r : SameBal L L2)
    (hg : ow (·.stake) (valGet? L a) = ow (·.stake) o)
    (hx : X.supply.total = L2.supply.total ∧ bal X + ow (·.stake) (valGet? L2 a) = bal L2 + s) :
    X.supply.total = L.supply.total ∧ bal X + ow (·.stake) o = bal L + s := by
  rw [r.valGet, hg, r.bal_eq] at hx
  exact ⟨hx.1.trans r.total, hx.2⟩

/-- `UpdateValidatorStake` adds `amt` to the stake of an existing validator (no wrap: stake + amt < 2^64) -/
theorem updateValidatorStake_bal {L L' : Ledger} {a : Addr} {old val : Validator} {cs : List Nat} {amt : Nat}
    (hg : valGet? L a = some old) (hs : val.stake = old.stake) (hw : val.stake + amt < U64)
    (h : updateValidatorStake L a val cs amt = .ok L') :
    L'.supply.total = L.supply.total ∧ L'.pools = L.pools ∧ bal L' = bal L + amt := by
  obtain ⟨L2, _, env, hv, rfl⟩ := updateValidatorStake_reweigh h
  obtain ⟨t, b⟩ := SameBal.write (o := some val) ⟨env.total, env.accounts, env.pools, hv⟩ (by rw [hg, ow_some, ow_some, hs])
    (bal_valPut L2 a { val with committees := cs, stake := (val.stake + amt) % U64 })
  simp only [ow_some, Nat.mod_eq_of_lt hw] at b ⊢
  exact ⟨t, env.pools, by omega⟩

/-- `DeleteValidator` removes the stake of an existing validator from the real sum -/
theorem deleteValidator_bal {L L' : Ledger} {a : Addr} {val : Validator} (hg : valGet? L a = some val)
    (h : deleteValidator L a val = .ok L') :
    L'.supply.total = L.supply.total ∧ bal L' + val.stake = bal L := by
  obtain ⟨L2, r, rfl⟩ := deleteValidator_reweigh h
  exact r.sameBal.write (o := some val) (s := 0) (congrArg _ hg) (bal_valDel L2 a)

/-- what a successful `HandleMessageStake` did -/
theorem handleStake_ok {L L' : Ledger} {s a o : Addr} {x : Nat} {cs : List Nat} {d c : Bool}
    (h : handleStake L s a x cs d c o = .ok L') :
    valGet? L a = none ∧
    (if d then L.params.minStakeDelegates ≤ x else L.params.minStakeValidators ≤ x) ∧
    ∃ L1 L2 L3, accountSub L s x = .ok L1 ∧ addToStaked L1 x = .ok L2 ∧
      (if d then ∃ L2', addToDelegated L2 x = .ok L2' ∧ setDelegations L2' a x cs = .ok L3 else setCommittees L2 a x cs = .ok L3) ∧
      L' = valPut L3 a { stake := x, committees := cs, delegate := d, compound := c, output := o } := by
  unfold handleStake at h
  cases d <;>
    simp only [throw_bind, ite_error_eq_ok, bind_eq_ok, pure_eq_ok, Bool.false_eq_true, if_false, if_true, Nat.not_lt,
      Option.isSome_iff_ne_none, ne_eq, Decidable.not_not] at h ⊢
  · obtain ⟨h0, hmin, L1, h1, L2, h2, L3, h3, rfl⟩ := h
    exact ⟨h0, hmin, L1, L2, L3, h1, h2, h3, rfl⟩
  · obtain ⟨h0, hmin, L1, h1, L2, h2, L2', h3, L3, h4, rfl⟩ := h
    exact ⟨h0, hmin, L1, L2, L3, h1, h2, ⟨L2', h3, h4⟩, rfl⟩

/-- `HandleMessageStake`, once: the stake leaves the signer's account, the tallies take on the weights of the new record, and
the record of the so far unknown address is written -/
theorem handleStake_reweigh {L L' : Ledger} {s a o : Addr} {x : Nat} {cs : List Nat} {d c : Bool}
    (h : handleStake L s a x cs d c o = .ok L') :
    valGet? L a = none ∧ ∃ L1 L3, accountSub L s x = .ok L1 ∧
      Reweigh none (some { stake := x, committees := cs, delegate := d, compound := c, output := o }) L1 L3 ∧
      L' = valPut L3 a { stake := x, committees := cs, delegate := d, compound := c, output := o } := by
  obtain ⟨hnone, _, L1, L2, L3, h1, h2, h3, rfl⟩ := handleStake_ok h
  obtain ⟨_, rfl⟩ := addToStaked_ok.1 h2
  refine ⟨hnone, L1, L3, h1, enroll_reweigh (a := a) ?_, rfl⟩
  cases d with
  | true =>
    simp only [if_true] at h3 ⊢
    obtain ⟨L2', h4, h5⟩ := h3
    obtain ⟨_, rfl⟩ := addToDelegated_ok.1 h4
    exact h5
  | false =>
    simp only [Bool.false_eq_true, if_false] at h3 ⊢
    exact h3

theorem handleStake_moves {L L' : Ledger} {s a o : Addr} {x : Nat} {cs : List Nat} {d c : Bool}
    (h : handleStake L s a x cs d c o = .ok L') : Moves L L' := by
  obtain ⟨hnone, L1, L3, h1, r, rfl⟩ := handleStake_reweigh h
  obtain ⟨t1, b1⟩ := accountSub_bal h1
  obtain ⟨acc, vs, e1, _⟩ := accountSub_ok h1
  obtain ⟨t, b⟩ := r.sameBal.write (a := a) (o := none) (by rw [e1]; exact congrArg _ hnone)
    (bal_valPut L3 a { stake := x, committees := cs, delegate := d, compound := c, output := o })
  simp only [ow_none] at b
  exact ⟨by omega, by omega⟩

/-- what a successful `HandleMessageEditStake` did -/
theorem handleEditStake_ok {L L' : Ledger} {s a o : Addr} {x : Nat} {cs : List Nat} {c : Bool}
    (h : handleEditStake L s a x cs c o = .ok L') :
    ∃ val L1, valGet? L a = some val ∧ val.unstakingHeight = 0 ∧
      accountSub L s (if x ≤ val.stake then 0 else x - val.stake) = .ok L1 ∧
      updateValidatorStake L1 a { val with output := o, compound := c } cs (if x ≤ val.stake then 0 else x - val.stake) = .ok L' := by
  unfold handleEditStake at h
  simp only [throw_bind, ite_error_eq_ok, bind_eq_ok, ne_eq, Decidable.not_not] at h
  obtain ⟨val, hv, hu, _, L1, h1, h⟩ := h
  exact ⟨val, L1, getValidator_ok hv, hu, h1, h⟩

/-- an amount that came out of an account can be added to a stake without wrapping: accounts and stakes together are
below 2^64 -/
theorem stake_add_lt_of_accountSub {L L1 : Ledger} {s a : Addr} {val : Validator} {x : Nat} (hi : InvSupply L)
    (hv : valGet? L a = some val) (h1 : accountSub L s x = .ok L1) : val.stake + x < U64 := by
  obtain ⟨acc, vs, _, e1⟩ := accountSub_ok h1
  have hst := stake_le L a val hv
  obtain ⟨i1, i2⟩ := hi
  unfold bal at i1
  omega

theorem handleEditStake_moves {L L' : Ledger} {s a o : Addr} {x : Nat} {cs : List Nat} {c : Bool} (hi : InvSupply L)
    (h : handleEditStake L s a x cs c o = .ok L') : Moves L L' := by
  obtain ⟨val, L1, hv, _, h1, h2⟩ := handleEditStake_ok h
  have hw := stake_add_lt_of_accountSub hi hv h1
  obtain ⟨t1, b1⟩ := accountSub_bal h1
  obtain ⟨acc, vs, rfl, _⟩ := accountSub_ok h1
  have hv1 : valGet? { L with accounts := acc, vesting := vs } a = some val := hv
  obtain ⟨t, _, b⟩ := updateValidatorStake_bal (val := { val with output := o, compound := c }) hv1 rfl hw h2
  exact ⟨by omega, by omega⟩

theorem safeMulDiv_le (a b : Nat) (hb : b ≤ 100) : safeMulDiv a b 100 ≤ a := by
  unfold safeMulDiv
  simp only [show (100 : Nat) ≠ 0 by decide, if_false]
  refine Nat.le_trans (Nat.mod_le _ _) ?_
  apply Nat.div_le_of_le_mul
  calc a * b ≤ a * 100 := Nat.mul_le_mul_left a hb
    _ = 100 * a := Nat.mul_comm _ _

theorem stakeAfterSlash_le (stake p : Nat) : stakeAfterSlash stake p ≤ stake := by
  unfold stakeAfterSlash
  split
  · omega
  · split
    · omega
    · exact safeMulDiv_le _ _ (by omega)

/-- the prelude of `SlashValidator` writes at most the per-block slash tracker; the committee list it hands on is the
validator's, possibly without the slashed committee -/
theorem slashScope_ok {L L0 : Ledger} {a : Addr} {val : Validator} {ch p p' : Nat} {cs' : List Nat}
    (h : slashScope L a val ch p = some (p', cs', L0)) :
    (∃ t, L0 = { L with slashTracker := t }) ∧ (cs' = val.committees ∨ cs' = val.committees.erase ch) := by
  unfold slashScope at h
  cases hv : v2 L <;> rw [hv] at h
  · simp only [Bool.false_eq_true, if_false, Option.some.injEq, Prod.mk.injEq] at h
    exact ⟨⟨L.slashTracker, h.2.2.symm⟩, Or.inl h.2.1.symm⟩
  · simp only [if_true, ite_none_eq_some, Option.some.injEq, Prod.mk.injEq] at h
    obtain ⟨_, _, _, rfl, rfl⟩ := h
    refine ⟨⟨_, rfl⟩, ?_⟩
    split
    · exact Or.inr rfl
    · exact Or.inl rfl

theorem slashCleanMarkers_eq (mc : Bool) (L : Ledger) (a : Addr) (val : Validator) :
    slashCleanMarkers mc L a val = { L with
      unstaking := if mc && val.unstakingHeight ≠ 0 then KSet.del L.unstaking (val.unstakingHeight, a) else L.unstaking,
      paused := if mc && val.maxPausedHeight ≠ 0 then KSet.del L.paused (val.maxPausedHeight, a) else L.paused } := by
  unfold slashCleanMarkers
  split <;> split <;> rfl

/-- the finish height of a forced unstake -/
def unstakeHeight (L : Ledger) (f : Nat) : Prop :=
  f = (L.height + L.params.unstakingBlocks) % U64 ∨ f = (L.height + L.params.delegateUnstakingBlocks) % U64

theorem setUnstakingIfBelowMinimum_cases (L : Ledger) (a : Addr) (val : Validator) :
    setUnstakingIfBelowMinimum L a val = (false, L) ∨
    ∃ f, unstakeHeight L f ∧ val.unstakingHeight = 0 ∧ setUnstakingIfBelowMinimum L a val = (true, setValidatorUnstaking L a val f) := by
  unfold setUnstakingIfBelowMinimum
  by_cases hu : val.unstakingHeight = 0
  · rw [if_neg (fun h => h hu)]
    by_cases hd : val.delegate = true
    · rw [if_pos hd]
      by_cases hm : val.stake < L.params.minStakeDelegates
      · rw [if_pos hm]; exact Or.inr ⟨_, Or.inr rfl, hu, rfl⟩
      · rw [if_neg hm]; exact Or.inl rfl
    · rw [if_neg hd]
      by_cases hm : val.stake < L.params.minStakeValidators
      · rw [if_pos hm]; exact Or.inr ⟨_, Or.inl rfl, hu, rfl⟩
      · rw [if_neg hm]; exact Or.inl rfl
  · rw [if_pos hu]; exact Or.inl rfl

theorem slashFinish_cases (L : Ledger) (a : Addr) (v : Validator) :
    slashFinish L a v = valPut L a v ∨
    ∃ f, unstakeHeight L f ∧ v.unstakingHeight = 0 ∧ slashFinish L a v = setValidatorUnstaking L a v f := by
  unfold slashFinish
  rcases setUnstakingIfBelowMinimum_cases L a v with e | ⟨f, hf, hu0, e⟩
  · rw [e]; exact Or.inl rfl
  · rw [e]; exact Or.inr ⟨f, hf, hu0, rfl⟩

theorem setValidatorUnstaking_ctx (L : Ledger) (a : Addr) (val : Validator) (f : Nat) : SameCtx L (setValidatorUnstaking L a val f) := by
  rw [setValidatorUnstaking_eq]; exact ⟨rfl, rfl, rfl, rfl⟩

theorem slashFinish_ctx (L : Ledger) (a : Addr) (v : Validator) : SameCtx L (slashFinish L a v) := by
  rcases slashFinish_cases L a v with e | ⟨f, _, _, e⟩
  · rw [e]; exact ⟨rfl, rfl, rfl, rfl⟩
  · rw [e]; exact setValidatorUnstaking_ctx L a v f

theorem bal_setValidatorUnstaking (L : Ledger) (a : Addr) (val : Validator) (f : Nat) :
    (setValidatorUnstaking L a val f).supply.total = L.supply.total ∧
    bal (setValidatorUnstaking L a val f) + ow (·.stake) (valGet? L a) = bal L + val.stake := by
  have hm := setValidatorUnstaking_money L a val f
  have hb := bal_valPut L a { val with maxPausedHeight := 0, unstakingHeight := f }
  refine ⟨by rw [hm.supply], ?_⟩
  have e : bal (setValidatorUnstaking L a val f) = bal (valPut L a { val with maxPausedHeight := 0, unstakingHeight := f }) := by
    unfold bal accSum poolSum stakeSum
    rw [hm.accounts, hm.pools, setValidatorUnstaking_validators]; rfl
  rw [e]; exact hb.2

/-- the end of the non-zero slash branch writes a record with the reduced stake -/
theorem slashFinish_bal (L : Ledger) (a : Addr) (val' : Validator) :
    (slashFinish L a val').supply.total = L.supply.total ∧
    bal (slashFinish L a val') + ow (·.stake) (valGet? L a) = bal L + val'.stake := by
  rcases slashFinish_cases L a val' with e | ⟨f, _, _, e⟩
  · rw [e]; exact bal_valPut L a val'
  · rw [e]; exact bal_setValidatorUnstaking L a val' f

/-- what a successful `SlashValidator` did -/
theorem slashValidatorWith_ok {mc : Bool} {L L' : Ledger} {a : Addr} {val : Validator} {ch p : Nat}
    (h : slashValidatorWith mc L a val ch p = .ok L') :
    (slashScope L a val ch p = none ∧ L' = L) ∨
    ∃ p' cs' L0 L1, slashScope L a val ch p = some (p', cs', L0) ∧
      subFromTotal L0 (val.stake - stakeAfterSlash val.stake p') = .ok L1 ∧
      if stakeAfterSlash val.stake p' = 0 then deleteValidator (slashCleanMarkers mc L1 a val) a val = .ok L'
      else ∃ L2 L3, subFromStaked L1 (val.stake - stakeAfterSlash val.stake p') = .ok L2 ∧
        slashMembership L2 a val (stakeAfterSlash val.stake p') cs' (val.stake - stakeAfterSlash val.stake p') = .ok L3 ∧
        L' = slashFinish L3 a { val with committees := cs', stake := stakeAfterSlash val.stake p' } := by
  unfold slashValidatorWith at h
  split at h
  · next hsc => exact Or.inl ⟨hsc, (Except.ok.inj h).symm⟩
  · next p' cs' L0 hsc =>
    refine Or.inr ⟨p', cs', L0, ?_⟩
    dsimp only at h
    split at h
    · cases h
    · next L1 h1 =>
      refine ⟨L1, hsc, h1, ?_⟩
      split at h
      · next hz => rw [if_pos hz]; exact h
      · next hz =>
        rw [if_neg hz]
        split at h
        · cases h
        · next L2 h2 =>
          split at h
          · cases h
          · next L3 h3 => exact ⟨L2, L3, h2, h3, (Except.ok.inj h).symm⟩

/-- `SlashValidator`, once: nothing; or the slashed amount leaves the recorded total (and the slash tracker is written), and
the record is re-weighed and removed (nothing left, markers cleaned first) or re-weighed and written with what is left -/
theorem slashValidatorWith_step {mc : Bool} {L L' : Ledger} {a : Addr} {val : Validator} {ch p : Nat}
    (h : slashValidatorWith mc L a val ch p = .ok L') :
    L' = L ∨ ∃ t after cs', after ≤ val.stake ∧ val.stake - after ≤ L.supply.total ∧
      (cs' = val.committees ∨ cs' = val.committees.erase ch) ∧
      if after = 0 then ∃ L2, Reweigh (some val) none (slashCleanMarkers mc
          { L with slashTracker := t, supply := { L.supply with total := L.supply.total - (val.stake - after) } } a val) L2 ∧
        L' = valDel L2 a
      else ∃ L3, Reweigh (some val) (some { val with committees := cs', stake := after })
          { L with slashTracker := t, supply := { L.supply with total := L.supply.total - (val.stake - after) } } L3 ∧
        L' = slashFinish L3 a { val with committees := cs', stake := after } := by
  rcases slashValidatorWith_ok h with ⟨_, rfl⟩ | ⟨p', cs', L0, L1, hsc, h1, h⟩
  · exact Or.inl rfl
  obtain ⟨⟨t, rfl⟩, hcs⟩ := slashScope_ok hsc
  obtain ⟨hx, rfl⟩ := subFromTotal_ok.1 h1
  refine Or.inr ⟨t, stakeAfterSlash val.stake p', cs', stakeAfterSlash_le _ _, hx, hcs, ?_⟩
  split at h
  · next hz => rw [if_pos hz]; exact deleteValidator_reweigh h
  · next hz =>
    rw [if_neg hz]
    obtain ⟨L2, L3, h2, h3, rfl⟩ := h
    exact ⟨L3, slashRestake_reweigh (stakeAfterSlash_le _ _) h2 h3, rfl⟩

/-- "`L'` is `L` after burning something": the closure the slashing paths live in -/
def Burns (L L' : Ledger) : Prop := ∃ b, Step 0 b L L'

theorem Burns.refl (L : Ledger) : Burns L L := ⟨0, Moves.refl L⟩
theorem Burns.trans {A B C : Ledger} (h1 : Burns A B) (h2 : Burns B C) : Burns A C := by
  obtain ⟨b1, s1⟩ := h1; obtain ⟨b2, s2⟩ := h2
  exact ⟨b1 + b2, by simpa using s1.trans s2⟩
theorem Moves.burns {L L' : Ledger} (h : Moves L L') : Burns L L' := ⟨0, h⟩
theorem Burns.inv {L L' : Ledger} (h : Burns L L') (hi : InvSupply L) : InvSupply L' := by
  obtain ⟨b, s⟩ := h; exact s.inv_of_le hi (Nat.zero_le _)
theorem Burns.total_le {L L' : Ledger} (h : Burns L L') : L'.supply.total ≤ L.supply.total := by
  obtain ⟨b, s⟩ := h; have := s.1; omega

/-- `SlashValidator` only burns: the recorded total and the real sum go down by the slashed amount -/
theorem slashValidator_burns {mc : Bool} {L L' : Ledger} {a : Addr} {val : Validator} {ch p : Nat}
    (hg : valGet? L a = some val) (h : slashValidatorWith mc L a val ch p = .ok L') : Burns L L' := by
  rcases slashValidatorWith_step h with rfl | ⟨t, after, cs', hle, hx, _, h⟩
  · exact Burns.refl _
  refine ⟨val.stake - after, ?_⟩
  -- with the total lowered, both branches leave it alone and put what is left of the stake in the place of the stake
  have key : L'.supply.total = L.supply.total - (val.stake - after) ∧ bal L' + val.stake = bal L + after := by
    split at h
    · next hz =>
      subst hz
      obtain ⟨L2, r, rfl⟩ := h
      have w := r.sameBal.write (a := a) (o := some val) (s := 0) (by rw [slashCleanMarkers_eq]; exact congrArg _ hg)
        (bal_valDel L2 a)
      rw [slashCleanMarkers_eq] at w
      exact w
    · obtain ⟨L3, r, rfl⟩ := h
      exact r.sameBal.write (a := a) (o := some val) (congrArg (ow (·.stake)) hg)
        (slashFinish_bal L3 a { val with committees := cs', stake := after })
  exact ⟨by omega, by omega⟩

/-- what every `SlashValidator` of a listed validator that exists keeps, `SlashValidators` keeps -/
theorem slashValidatorsWith_keeps {mc : Bool} {ch p : Nat} (P : Ledger → Prop)
    (hstep : ∀ s a val s', P s → valGet? s a = some val → slashValidatorWith mc s a val ch p = .ok s' → P s') :
    ∀ {as : List Addr} {L L' : Ledger}, P L → slashValidatorsWith mc L ch p as = .ok L' → P L'
  | [], L, L', hp, h => by obtain rfl := Except.ok.inj h; exact hp
  | a :: as, L, L', hp, h => by
    unfold slashValidatorsWith at h
    split at h
    · exact slashValidatorsWith_keeps P hstep hp h
    · next val hv =>
      obtain ⟨L1, h1, h2⟩ := bind_ok h
      exact slashValidatorsWith_keeps P hstep (hstep L a val L1 hp hv h1) h2

theorem slashValidators_burns {mc : Bool} {ch p : Nat} {as : List Addr} {L L' : Ledger}
    (h : slashValidatorsWith mc L ch p as = .ok L') : Burns L L' :=
  slashValidatorsWith_keeps (Burns L) (fun _ _ _ _ b hv h1 => b.trans (slashValidator_burns hv h1)) (Burns.refl L) h

end Canopy.Ledger
