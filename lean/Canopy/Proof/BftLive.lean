import Canopy.Proof.BftSafety
import Canopy.Model.BftLive
/-! Lemmas for C15: a good round extends a valid history and commits, the leader's choice passes every correct replica's
SafeNode, bounds on the pacemaker's target. -/
namespace Canopy.Bft
namespace Cfg
variable {c : Cfg}

theorem lock_proposeRound (H : List Nat) (v : View) (b : Nat) (hq : Option View) (tr : List Ev) (r : Nat) :
    lock (H.map (Ev.propose · v b hq) ++ tr) r = lock tr r := by
  induction H with
  | nil => rfl
  | cons a H ih => exact ih

theorem mem_proposeRound {H : List Nat} {v : View} {b : Nat} {hq : Option View} {e : Ev} :
    e ∈ proposeRound H v b hq ↔ ∃ r ∈ H, e = Ev.propose r v b hq := by
  simp [proposeRound, eq_comm]

theorem mem_precommitRound {H : List Nat} {v : View} {b : Nat} {e : Ev} :
    e ∈ precommitRound H v b ↔ ∃ r ∈ H, e = Ev.precommit r v b v true := by
  simp [precommitRound, eq_comm]

/-- what "the round is new for the correct replicas" means: all their earlier votes were cast in lower views -/
def NewView (tr : List Ev) (H : List Nat) (v : View) : Prop :=
  ∀ r ∈ H, ∀ e ∈ tr, e.rep = r → ∀ w, e.voteView = some w → w < v

/-- one entry `f r` for each of the distinct replicas `H`, each signed by a correct replica, extends a valid history
    when `f r` passes its guard whichever of the other entries are already there -/
theorem Valid.append_round {tr : List Ev} (hv : c.Valid tr) (f : Nat → Ev) (H : List Nat) (hnd : H.Nodup)
    (hh : ∀ r ∈ H, c.byz (f r).rep = false)
    (hg : ∀ r ∈ H, ∀ (H' : List Nat), r ∉ H' → c.guard (H'.map f ++ tr) (f r)) : c.Valid (H.map f ++ tr) := by
  induction H with
  | nil => exact hv
  | cons r H ih =>
    obtain ⟨hr, hnd'⟩ := List.nodup_cons.mp hnd
    exact Valid.honest _ _ (ih hnd' (fun x hx => hh x (.tail _ hx)) fun x hx => hg x (.tail _ hx))
      (hh r (.head _)) (hg r (.head _) H hr)

theorem proposeRound_valid {tr : List Ev} (hv : c.Valid tr) {v : View} {b : Nat} {hq : Option View}
    {H : List Nat} (hnd : H.Nodup) (hh : ∀ r ∈ H, c.byz r = false) (hnew : NewView tr H v)
    (hsafe : ∀ r ∈ H, c.safeCond tr b hq (lock tr r)) : c.Valid (proposeRound H v b hq ++ tr) := by
  refine hv.append_round (Ev.propose · v b hq) H hnd hh fun r hrH H' hr => ?_
  -- every vote of `r` in the history so far is older than the round, hence below `v`
  have hlow : ∀ e ∈ proposeRound H' v b hq ++ tr, e.rep = r → ∀ w, e.voteView = some w → w < v := by
    intro e he hre w hw
    rcases List.mem_append.mp he with he | he
    · obtain ⟨x, hx, rfl⟩ := mem_proposeRound.mp he
      exact absurd (hre ▸ hx) hr
    · exact hnew r hrH e he hre w hw
  refine ⟨fun e he hre w hw => View.le_of_lt (hlow e he hre w hw), fun e he => ?_, ?_⟩
  · refine Bool.eq_false_iff.mpr fun h => ?_
    obtain ⟨hre, hw⟩ := Ev.isProposeAt_eq_true h
    exact View.lt_irrefl v (hlow e he hre v hw)
  · rw [lock_proposeRound]
    exact c.safeCond_mono _ (hsafe r hrH)

theorem precommitRound_valid {tr : List Ev} {v : View} {b : Nat} {hq : Option View} {H : List Nat}
    (hnd : H.Nodup) (hh : ∀ r ∈ H, c.byz r = false) (hnew : NewView tr H v) (hcb : c.certBound v true v = true)
    (hqc : c.proposeQC (proposeRound H v b hq ++ tr) v b) (hv1 : c.Valid (proposeRound H v b hq ++ tr)) :
    c.Valid (precommitRound H v b ++ (proposeRound H v b hq ++ tr)) := by
  refine hv1.append_round (Ev.precommit · v b v true) H hnd hh fun r hrH H' hr => ?_
  -- a vote of `r` in the history so far is a PROPOSE_VOTE of the round or older than the round
  have hold : ∀ e ∈ precommitRound H' v b ++ (proposeRound H v b hq ++ tr), e.rep = r → ∀ w, e.voteView = some w →
      (∃ x, e = Ev.propose x v b hq) ∨ w < v := by
    intro e he hre w hw
    rcases List.mem_append.mp he with he | he
    · obtain ⟨x, hx, rfl⟩ := mem_precommitRound.mp he
      exact absurd (hre ▸ hx) hr
    · rcases List.mem_append.mp he with he | he
      · obtain ⟨x, _, rfl⟩ := mem_proposeRound.mp he
        exact Or.inl ⟨x, rfl⟩
      · exact Or.inr (hnew r hrH e he hre w hw)
  refine ⟨fun e he hre w hw => ?_, fun e he => ?_, hcb, c.proposeQC_mono _ hqc⟩
  · rcases hold e he hre w hw with ⟨x, rfl⟩ | hlt
    · cases hw; exact View.le_refl _
    · exact View.le_of_lt hlt
  · refine Bool.eq_false_iff.mpr fun h => ?_
    obtain ⟨hre, hw⟩ := Ev.isPrecommitAt_eq_true h
    rcases hold e he hre v hw with ⟨x, rfl⟩ | hlt
    · cases h
    · exact View.lt_irrefl v hlt

/-- **A good round.** If the correct replicas `H` hold at least `maj`, the round's view is new for them, and the
    leader's proposal `(b, hq)` passes every correct replica's SafeNode, then after the round the history is still
    valid (every vote was allowed) and contains a commit certificate for `b`. -/
theorem goodRound_commits {tr : List Ev} (hv : c.Valid tr) {H : List Nat} (hnd : H.Nodup)
    (hh : ∀ r ∈ H, c.byz r = false) (hpow : c.maj ≤ c.powerOf (fun r => H.contains r))
    {v : View} (hnew : NewView tr H v) (hcb : c.certBound v true v = true)
    {b : Nat} {hq : Option View} (hsafe : ∀ r ∈ H, c.safeCond tr b hq (lock tr r)) :
    c.Valid (goodRound tr H v b hq) ∧ c.precommitQC (goodRound tr H v b hq) v b := by
  have hv1 := proposeRound_valid hv hnd hh hnew hsafe
  have hqc : c.proposeQC (proposeRound H v b hq ++ tr) v b :=
    Nat.le_trans hpow (c.powerOf_mono fun r hr => votedPropose_iff.mpr
      ⟨hq, List.mem_append_left _ (mem_proposeRound.mpr ⟨r, List.contains_iff_mem.mp hr, rfl⟩)⟩)
  refine ⟨precommitRound_valid hnd hh hnew hcb hqc hv1, ?_⟩
  exact Nat.le_trans hpow (c.powerOf_mono fun r hr => votedPrecommit_iff.mpr
    ⟨v, true, List.mem_append_left _ (mem_precommitRound.mpr ⟨r, List.contains_iff_mem.mp hr, rfl⟩)⟩)

theorem foldl_pickHigher_spec (hadopt : ∀ w y, c.adoptOk w y = true ↔ w < y) (L : List (View × Nat)) (x : View × Nat) :
    ∃ m, L.foldl (pickHigher c) (some x) = some m ∧ m ∈ x :: L ∧ ∀ z ∈ x :: L, z.1 ≤ m.1 := by
  induction L generalizing x with
  | nil => exact ⟨x, rfl, List.mem_cons_self, fun z hz => List.mem_singleton.mp hz ▸ View.le_refl _⟩
  | cons x1 L ih =>
    -- one step keeps `x` or replaces it by `x1`, whichever is higher
    obtain ⟨x', hstep, hx', hx, hx1⟩ : ∃ x', pickHigher c (some x) x1 = some x' ∧ x' ∈ [x, x1] ∧ x.1 ≤ x'.1 ∧ x1.1 ≤ x'.1 := by
      by_cases h : c.adoptOk x.1 x1.1 = true
      · exact ⟨x1, if_pos h, .tail _ (.head _), View.le_of_lt ((hadopt _ _).mp h), View.le_refl _⟩
      · exact ⟨x, if_neg h, .head _, View.le_refl _, (View.lt_or_ge x.1 x1.1).resolve_left (h ∘ (hadopt _ _).mpr)⟩
    obtain ⟨m, he, hm, hall⟩ := ih x'
    have hx'm := hall x' List.mem_cons_self
    refine ⟨m, by rw [List.foldl_cons, hstep, he], ?_, ?_⟩
    · rcases List.mem_cons.mp hm with rfl | hm
      · exact List.mem_append_left L hx'
      · exact .tail _ (.tail _ hm)
    · simp only [List.forall_mem_cons] at hall ⊢
      exact ⟨View.le_trans hx hx'm, View.le_trans hx1 hx'm, hall.2⟩

theorem highestLock_spec (hadopt : ∀ w y, c.adoptOk w y = true ↔ w < y) :
    ∀ {L : List (View × Nat)}, L ≠ [] → ∃ m, highestLock c L = some m ∧ m ∈ L ∧ ∀ x ∈ L, x.1 ≤ m.1
  | [], h => absurd rfl h
  | x :: L, _ => foldl_pickHigher_spec hadopt L x

/-- what a correct leader proposes passes the SafeNode of every correct replica whose lock it heard of: a lock below the
    chosen certificate is unlocked by it (LIVENESS), a lock at the same view is on the same block (SAFETY) -/
theorem leaderProposal_safe (hb : 3 * c.powerOf c.byz < c.total)
    (hunc : ∀ w y, w < y → c.unlock w y = true) (hadopt : ∀ w y, c.adoptOk w y = true ↔ w < y)
    {tr : List Ev} (hv : c.Valid tr) (hf : c.Fresh tr) {reported : List (View × Nat)}
    (hcert : ∀ x ∈ reported, c.proposeQC tr x.1 x.2) (fresh : Nat)
    {r : Nat} (hr : c.byz r = false) (hall : ∀ lk, lock tr r = some lk → lk ∈ reported) :
    c.safeCond tr (leaderProposal c reported fresh).1 (leaderProposal c reported fresh).2 (lock tr r) := by
  cases hl : lock tr r with
  | none => exact True.intro
  | some lk =>
    obtain ⟨w, bw⟩ := lk
    have hrep := hall _ hl
    obtain ⟨⟨y, b⟩, hsome, hmem, hdom⟩ := highestLock_spec hadopt (List.ne_nil_of_mem hrep)
    simp only [leaderProposal, hsome, safeCond]
    rcases hdom (w, bw) hrep with hlt | heq
    · exact Or.inr ⟨hunc _ _ hlt, hcert (y, b) hmem⟩
    · cases heq
      exact Or.inl (proposeQC_unique hb hv (lock_cert hv hf hr hl) (hcert (w, b) hmem))

/-- **A good leader's round commits**, parametric in the code's decisions: the unlock comparison accepts every higher
    view, the replacement comparison is exactly the view order, and the PRECOMMIT check accepts exactly the PROPOSE_VOTE
    certificate of the view. -/
theorem good_leader_commits_param (c : Cfg) (hb : 3 * c.powerOf c.byz < c.total)
    (hunc : ∀ w y, w < y → c.unlock w y = true) (hadopt : ∀ w y, c.adoptOk w y = true ↔ w < y)
    (hbound : ∀ q qp v, c.certBound q qp v = true ↔ q = v ∧ qp = true)
    (tr : List Ev) (hv : c.Valid tr) (H : List Nat) (hnd : H.Nodup) (hh : ∀ r ∈ H, c.byz r = false)
    (hpow : c.maj ≤ c.powerOf (fun r => H.contains r)) (v : View) (hnew : NewView tr H v)
    (reported : List (View × Nat)) (hcert : ∀ x ∈ reported, c.proposeQC tr x.1 x.2)
    (hall : ∀ r ∈ H, ∀ lk, lock tr r = some lk → lk ∈ reported) (fresh : Nat) :
    let p := leaderProposal c reported fresh
    c.Valid (goodRound tr H v p.1 p.2) ∧ c.precommitQC (goodRound tr H v p.1 p.2) v p.1 :=
  goodRound_commits hv hnd hh hpow hnew ((hbound v true v).mpr ⟨rfl, rfl⟩) fun r hr =>
    leaderProposal_safe hb hunc hadopt hv (fresh_of_bound (fun q qp v => (hbound q qp v).mp) hv) hcert fresh (hh r hr) (hall r hr)

end Cfg

theorem foldl_max_le_iff {l : List Nat} {a M : Nat} : l.foldl Nat.max a ≤ M ↔ a ≤ M ∧ ∀ x ∈ l, x ≤ M := by
  induction l generalizing a with
  | nil => simp
  | cons y l ih =>
    rw [List.foldl_cons, ih, List.forall_mem_cons, ← and_assoc]
    exact and_congr_left' Nat.max_le

/-- claims of rounds above `M` come from validators in `B` only ⇒ the pacemaker does not go above `M`
    when no power up to that of `B`'s claims passes the threshold test -/
theorem pacemakerTarget_le_of_unreached {pw : Nat → Nat} {reached : Nat → Bool} {claims : List (Nat × Nat)}
    {inB : Nat → Bool} {M : Nat} (hcorrect : ∀ c ∈ claims, inB c.1 = false → c.2 ≤ M)
    (hB : ∀ p, p ≤ ((claims.filter fun c => inB c.1).map fun c => pw c.1).sum → reached p = false) :
    pacemakerTarget pw reached claims ≤ M := by
  refine foldl_max_le_iff.mpr ⟨Nat.zero_le _, fun R hR => ?_⟩
  obtain ⟨_, hreach⟩ := List.mem_filter.mp hR
  by_cases hRM : R ≤ M
  · exact hRM
  · -- everybody who claims a round `≥ R > M` is in `B`
    have hle : claimPower pw claims R ≤ ((claims.filter fun c => inB c.1).map fun c => pw c.1).sum := by
      apply sum_filter_mono
      intro c hc hdec
      cases hb : inB c.1
      · exact absurd (Nat.le_trans (of_decide_eq_true hdec) (hcorrect c hc hb)) hRM
      · rfl
    rw [hB _ hle] at hreach; cases hreach

/-- the same for a monotone threshold test that the power of `B`'s claims does not pass -/
theorem pacemakerTarget_le (pw : Nat → Nat) (reached : Nat → Bool) (claims : List (Nat × Nat)) (inB : Nat → Bool) (M : Nat)
    (hmono : ∀ a b, a ≤ b → reached a = true → reached b = true)
    (hcorrect : ∀ c ∈ claims, inB c.1 = false → c.2 ≤ M)
    (hB : reached (((claims.filter fun c => inB c.1).map fun c => pw c.1).sum) = false) :
    pacemakerTarget pw reached claims ≤ M :=
  pacemakerTarget_le_of_unreached hcorrect fun _ hp =>
    Bool.eq_false_iff.mpr fun h => Bool.noConfusion (hB.symm.trans (hmono _ _ hp h))

theorem pacemakerTarget_ge {pw : Nat → Nat} {reached : Nat → Bool} {claims : List (Nat × Nat)} {R : Nat}
    (hR : R ∈ claims.map (·.2)) (h : reached (claimPower pw claims R) = true) :
    R ≤ pacemakerTarget pw reached claims := by
  unfold pacemakerTarget
  exact (foldl_max_le_iff.mp (Nat.le_refl _)).2 R (List.mem_filter.mpr ⟨hR, h⟩)

theorem pacemakerStep_ge (pw : Nat → Nat) (reached : Nat → Bool) (claims : List (Nat × Nat)) (round : Nat) :
    round + 1 ≤ pacemakerStep pw reached claims round ∧ pacemakerTarget pw reached claims ≤ pacemakerStep pw reached claims round := by
  unfold pacemakerStep
  simp only
  split
  next h => exact ⟨Nat.le_of_lt h, Nat.le_refl _⟩
  next h => exact ⟨Nat.le_refl _, Nat.not_lt.mp h⟩

end Canopy.Bft
