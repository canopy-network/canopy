import Canopy.Proof.LedgerStaking
/-! C12: effect of the committee / delegation bookkeeping loops on the per-committee supply pools, and what the operations
built from them do to the staking part of the supply record: `Reweigh old nv`, "the tallies carry the weights of record `nv`
where they carried those of `old`", with `UpdateValidatorStake`, `DeleteValidator`, the non-zero slash branch and the
enrolment of a new record as instances. The counter of doubly listed committees (`dupCommittees`) stands at the end. -/
namespace Canopy.Ledger
open AMap

/-- per-committee state of the two supply pool lists, as far as the invariants look at it -/
structure Pools (L : Ledger) : Prop where
  committee : NodupKeys L.supply.committee
  delegated : NodupKeys L.supply.delegated

theorem Pools.of_sameCore_supply {L L' : Ledger} (hp : Pools L) (h : L'.supply.committee = L.supply.committee)
    (h2 : L'.supply.delegated = L.supply.delegated) : Pools L' := ⟨by rw [h]; exact hp.committee, by rw [h2]; exact hp.delegated⟩

/-- the tallies only look at the validator records and the staking part of the supply record -/
theorem Tallies.of_same {L L' : Ledger} (ht : Tallies L) (hv : L'.validators = L.validators)
    (h1 : L'.supply.staked = L.supply.staked) (h2 : L'.supply.delegatedOnly = L.supply.delegatedOnly)
    (h3 : L'.supply.committee = L.supply.committee) (h4 : L'.supply.delegated = L.supply.delegated) : Tallies L' :=
  ⟨by unfold stakeSum; rw [h1, hv]; exact ht.staked, by unfold dstakeSum; rw [h2, hv]; exact ht.delegated,
   fun c => by unfold comGet comSum; rw [h3, hv]; exact ht.committee c,
   fun c => by unfold delGet dcomSum; rw [h4, hv]; exact ht.committeeDelegated c⟩

theorem Tallies.record_le {L : Ledger} {a : Addr} {val : Validator} (ht : Tallies L) (hg : valGet? L a = some val) :
    val.stake ≤ L.supply.staked ∧ (val.delegate = true → val.stake ≤ L.supply.delegatedOnly) ∧
    (∀ c, val.stake * val.committees.count c ≤ comGet L c) ∧
    (val.delegate = true → ∀ c, val.stake * val.committees.count c ≤ delGet L c) := by
  have w : ∀ f : Validator → Nat, f val ≤ sumBy f L.validators := fun f => by
    have := ow_le_sumBy f L.validators a
    rw [show find? L.validators a = some val from hg] at this
    exact this
  refine ⟨?_, fun hd => ?_, fun c => ?_, fun hd c => ?_⟩
  · rw [ht.staked]; exact w (·.stake)
  · have := w (fun v => if v.delegate then v.stake else 0)
    rw [if_pos hd] at this
    rw [ht.delegated]; exact this
  · rw [ht.committee c]; exact w (fun v => v.stake * v.committees.count c)
  · have := w (fun v => if v.delegate then v.stake * v.committees.count c else 0)
    rw [if_pos hd] at this
    rw [ht.committeeDelegated c]; exact this

/-- the record of one address is replaced (`nv = some v`), added (`old = none`) or removed (`nv = none`): the tallies stay
right when the four tallies of the supply record move by the difference of the weights of the two records -/
theorem Tallies.replace {L L' : Ledger} {old nv : Option Validator} (t : Tallies L)
    (hsum : ∀ f : Validator → Nat, sumBy f L'.validators + ow f old = sumBy f L.validators + ow f nv)
    (s1 : L'.supply.staked + ow (·.stake) old = L.supply.staked + ow (·.stake) nv)
    (s2 : L'.supply.delegatedOnly + ow (fun v => if v.delegate then v.stake else 0) old =
      L.supply.delegatedOnly + ow (fun v => if v.delegate then v.stake else 0) nv)
    (s3 : ∀ c, comGet L' c + ow (fun v => v.stake * v.committees.count c) old =
      comGet L c + ow (fun v => v.stake * v.committees.count c) nv)
    (s4 : ∀ c, delGet L' c + ow (fun v => if v.delegate then v.stake * v.committees.count c else 0) old =
      delGet L c + ow (fun v => if v.delegate then v.stake * v.committees.count c else 0) nv) : Tallies L' := by
  -- each tally `T` is the sum of a weight `f` over the records, and moves by `f nv - f old`
  have key : ∀ (f : Validator → Nat) {T T' : Nat}, T = sumBy f L.validators → T' + ow f old = T + ow f nv →
      T' = sumBy f L'.validators := by
    intro f T T' ht hs
    have := hsum f
    omega
  exact ⟨key (·.stake) t.staked s1, key (fun v => if v.delegate then v.stake else 0) t.delegated s2,
    fun c => key (fun v => v.stake * v.committees.count c) (t.committee c) (s3 c),
    fun c => key (fun v => if v.delegate then v.stake * v.committees.count c else 0) (t.committeeDelegated c) (s4 c)⟩

/-- `DeleteValidator` succeeds on a ledger whose tallies are right -/
theorem deleteValidator_ok_of {L : Ledger} {a : Addr} {val : Validator} (ht : Tallies L) (hp : Pools L)
    (hg : valGet? L a = some val) : ∃ L', deleteValidator L a val = .ok L' := by
  obtain ⟨hs, hdl, w3, w4⟩ := ht.record_le hg
  unfold deleteValidator
  have e1 := subFromStaked_ok.2 ⟨hs, rfl⟩
  obtain ⟨mc, hC⟩ := (NMap.subAll_spec val.stake val.committees _ hp.committee).1 w3
  cases hd : val.delegate with
  | false =>
    obtain ⟨k, h2⟩ := deleteCommittees_ok_of (a := a) val.committees
      { L with supply := { L.supply with staked := L.supply.staked - val.stake } } mc hC
    exact ⟨_, bind_eq_ok.2 ⟨_, e1, bind_eq_ok.2 ⟨_, h2, rfl⟩⟩⟩
  | true =>
    have e2 := (subFromDelegated_ok (L := { L with supply := { L.supply with staked := L.supply.staked - val.stake } })).2
      ⟨hdl hd, rfl⟩
    obtain ⟨md, hD⟩ := (NMap.subAll_spec val.stake val.committees _ hp.delegated).1 (w4 hd)
    obtain ⟨k, h2⟩ := deleteDelegations_ok_of (a := a) val.committees
      { L with supply := { L.supply with staked := L.supply.staked - val.stake, delegatedOnly := L.supply.delegatedOnly - val.stake } }
      md mc hD hC
    exact ⟨_, bind_eq_ok.2 ⟨_, e1, bind_eq_ok.2 ⟨_, e2, bind_eq_ok.2 ⟨_, h2, rfl⟩⟩⟩⟩

/-- what the record-level operations leave alone besides the staking state: block context, accounts, pools, recorded
total, markers and committee data -/
structure SameEnv (L L' : Ledger) : Prop where
  cfg : L'.cfg = L.cfg
  params : L'.params = L.params
  height : L'.height = L.height
  accounts : L'.accounts = L.accounts
  pools : L'.pools = L.pools
  total : L'.supply.total = L.supply.total
  unstaking : L'.unstaking = L.unstaking
  paused : L'.paused = L.paused
  committeesData : L'.committeesData = L.committeesData

theorem SameCore.sameEnv {L L' : Ledger} (h : SameCore L L') : SameEnv L L' :=
  ⟨h.cfg, h.params, h.height, h.accounts, h.pools, h.total, h.unstaking, h.paused, h.committeesData⟩
theorem SameEnv.trans {A B C : Ledger} (h1 : SameEnv A B) (h2 : SameEnv B C) : SameEnv A C :=
  ⟨h2.cfg.trans h1.cfg, h2.params.trans h1.params, h2.height.trans h1.height, h2.accounts.trans h1.accounts,
   h2.pools.trans h1.pools, h2.total.trans h1.total, h2.unstaking.trans h1.unstaking, h2.paused.trans h1.paused,
   h2.committeesData.trans h1.committeesData⟩

/-- height, parameters, configuration and committee data: what forced and finished unstaking never change -/
structure SameCtx (L L' : Ledger) : Prop where
  height : L'.height = L.height
  params : L'.params = L.params
  cfg : L'.cfg = L.cfg
  committeesData : L'.committeesData = L.committeesData

theorem SameCtx.refl (L : Ledger) : SameCtx L L := ⟨rfl, rfl, rfl, rfl⟩
theorem SameCtx.trans {A B C : Ledger} (h1 : SameCtx A B) (h2 : SameCtx B C) : SameCtx A C :=
  ⟨h2.height.trans h1.height, h2.params.trans h1.params, h2.cfg.trans h1.cfg, h2.committeesData.trans h1.committeesData⟩

theorem SameEnv.ctx {L L' : Ledger} (h : SameEnv L L') : SameCtx L L' := ⟨h.height, h.params, h.cfg, h.committeesData⟩
theorem sameEnv_valPut (L : Ledger) (a : Addr) (v : Validator) : SameEnv L (valPut L a v) := ⟨rfl, rfl, rfl, rfl, rfl, rfl, rfl, rfl, rfl⟩
theorem sameEnv_valDel (L : Ledger) (a : Addr) : SameEnv L (valDel L a) := ⟨rfl, rfl, rfl, rfl, rfl, rfl, rfl, rfl, rfl⟩

/-- re-indexing a validator under a new stake `s` and committee list `cs` touches only the committee bookkeeping; there the
pools trade the weights of the old record for those of the new one -/
theorem reindex_eff {L L' : Ledger} {a : Addr} {val : Validator} {s : Nat} {cs : List Nat}
    (h : (if val.delegate then updateDelegations L a val s cs else updateCommittees L a val s cs) = .ok L') :
    SameCore L L' ∧ (Pools L → Pools L' ∧
      (∀ c, comGet L' c + val.stake * val.committees.count c = comGet L c + s * cs.count c) ∧
      ∀ c, delGet L' c + (if val.delegate then val.stake * val.committees.count c else 0) =
        delGet L c + (if val.delegate then s * cs.count c else 0)) := by
  by_cases hd : val.delegate = true
  · rw [if_pos hd] at h
    unfold updateDelegations at h
    obtain ⟨La, ha, hb⟩ := bind_ok h
    obtain ⟨md1, mc1, k1, hD1, hC1, rfl⟩ := deleteDelegations_run ha
    obtain ⟨md2, mc2, k2, hD2, hC2, rfl⟩ := setDelegations_run hb
    refine ⟨sameCore_pools L mc2 md2 L.committeeKeys k2, fun hp => ?_⟩
    obtain ⟨nC, gC⟩ := NMap.subAll_addAll hp.committee hC1 hC2
    obtain ⟨nD, gD⟩ := NMap.subAll_addAll hp.delegated hD1 hD2
    exact ⟨⟨nC, nD⟩, gC, fun c => by rw [if_pos hd, if_pos hd]; exact gD c⟩
  · rw [if_neg hd] at h
    unfold updateCommittees at h
    obtain ⟨La, ha, hb⟩ := bind_ok h
    obtain ⟨mc1, k1, hC1, rfl⟩ := deleteCommittees_run ha
    obtain ⟨mc2, k2, hC2, rfl⟩ := setCommittees_run hb
    refine ⟨sameCore_pools L mc2 L.supply.delegated k2 L.delegateKeys, fun hp => ?_⟩
    obtain ⟨nC, gC⟩ := NMap.subAll_addAll hp.committee hC1 hC2
    exact ⟨⟨nC, hp.delegated⟩, gC, fun c => by rw [if_neg hd, if_neg hd]; rfl⟩

/-- the supply record of `L'` carries the weights of record `nv` where that of `L` carried those of `old` (`none`: no
record, weight 0 everywhere); the records themselves and everything in `SameEnv` are those of `L`. The per-committee pools
can only be read when their keys are unique. The six places that run "staked tally, delegated-only tally if a delegate,
committee or delegation loops" (`UpdateValidatorStake`, `DeleteValidator`, `HandleMessageStake`, the non-zero slash branch,
committee trimming, `SetValidators`) are each shown once to be such a step; every invariant reads its view off the step. -/
structure Reweigh (old nv : Option Validator) (L L' : Ledger) : Prop where
  env : SameEnv L L'
  validators : L'.validators = L.validators
  staked : L'.supply.staked + ow (·.stake) old = L.supply.staked + ow (·.stake) nv
  delegatedOnly : L'.supply.delegatedOnly + ow (fun v => if v.delegate then v.stake else 0) old =
    L.supply.delegatedOnly + ow (fun v => if v.delegate then v.stake else 0) nv
  pools : Pools L → Pools L' ∧
    (∀ c, comGet L' c + ow (fun v => v.stake * v.committees.count c) old =
      comGet L c + ow (fun v => v.stake * v.committees.count c) nv) ∧
    ∀ c, delGet L' c + ow (fun v => if v.delegate then v.stake * v.committees.count c else 0) old =
      delGet L c + ow (fun v => if v.delegate then v.stake * v.committees.count c else 0) nv

/-- the supply record replaced with its total kept, then anything that keeps the core -/
theorem SameCore.env_of {L L2 : Ledger} {s : Supply} (h : SameCore { L with supply := s } L2) (e : s.total = L.supply.total) :
    SameEnv L L2 :=
  ⟨h.cfg, h.params, h.height, h.accounts, h.pools, h.total.trans e, h.unstaking, h.paused, h.committeesData⟩

/-- only stake, delegate flag and committee list of a record weigh anything -/
theorem Reweigh.of_weights {old old' : Validator} {nv : Option Validator} {L L2 : Ledger} (r : Reweigh (some old') nv L L2)
    (e1 : old'.stake = old.stake) (e2 : old'.delegate = old.delegate) (e3 : old'.committees = old.committees) :
    Reweigh (some old) nv L L2 :=
  ⟨r.env, r.validators, by simpa only [ow_some, e1] using r.staked, by simpa only [ow_some, e1, e2] using r.delegatedOnly,
    fun hp => by simpa only [ow_some, e1, e2, e3] using r.pools hp⟩

theorem Reweigh.to_weights {nv nv' : Validator} {old : Option Validator} {L L2 : Ledger} (r : Reweigh old (some nv') L L2)
    (e1 : nv'.stake = nv.stake) (e2 : nv'.delegate = nv.delegate) (e3 : nv'.committees = nv.committees) :
    Reweigh old (some nv) L L2 :=
  ⟨r.env, r.validators, by simpa only [ow_some, e1] using r.staked, by simpa only [ow_some, e1, e2] using r.delegatedOnly,
    fun hp => by simpa only [ow_some, e1, e2, e3] using r.pools hp⟩

/-- re-indexing under stake `s` and list `cs`, on a ledger whose staked and delegated-only tallies (`st`, `dl`) have moved
already by the difference of the stakes -/
theorem reindex_reweigh {L L2 : Ledger} {a : Addr} {val : Validator} {s st dl : Nat} {cs : List Nat}
    (h : (if val.delegate then
        updateDelegations { L with supply := { L.supply with staked := st, delegatedOnly := dl } } a val s cs
      else updateCommittees { L with supply := { L.supply with staked := st, delegatedOnly := dl } } a val s cs) = .ok L2)
    (h1 : st + val.stake = L.supply.staked + s)
    (h2 : dl + (if val.delegate then val.stake else 0) = L.supply.delegatedOnly + (if val.delegate then s else 0)) :
    Reweigh (some val) (some { val with committees := cs, stake := s }) L L2 := by
  obtain ⟨sc, hpl⟩ := reindex_eff h
  exact ⟨sc.env_of (L := L) rfl, sc.validators, (congrArg (· + val.stake) sc.staked).trans h1,
    (congrArg (· + (if val.delegate then val.stake else 0)) sc.delegatedOnly).trans h2,
    fun hp => hpl ⟨hp.committee, hp.delegated⟩⟩

/-- a record `v` that the tallies did not know is taken on: staked tally, delegated-only tally and delegation loop for a
delegate, staked tally and committee loop otherwise -/
theorem enroll_reweigh {L L' : Ledger} {a : Addr} {v : Validator}
    (h : (if v.delegate then
          setDelegations { L with supply := { L.supply with staked := L.supply.staked + v.stake, delegatedOnly := L.supply.delegatedOnly + v.stake } }
            a v.stake v.committees
        else setCommittees { L with supply := { L.supply with staked := L.supply.staked + v.stake } } a v.stake v.committees) = .ok L') :
    Reweigh none (some v) L L' := by
  by_cases hd : v.delegate = true
  · rw [if_pos hd] at h
    obtain ⟨md, mc, k, hD, hC, rfl⟩ := setDelegations_run h
    refine ⟨⟨rfl, rfl, rfl, rfl, rfl, rfl, rfl, rfl, rfl⟩, rfl, rfl, ?_, fun hp => ?_⟩
    · rw [ow_some, if_pos hd]; rfl
    · obtain ⟨nD, gD⟩ := (NMap.addAll_spec _ _ _ hp.delegated).2 md hD
      obtain ⟨nC, gC⟩ := (NMap.addAll_spec _ _ _ hp.committee).2 mc hC
      refine ⟨⟨nC, nD⟩, gC, fun c => ?_⟩
      rw [ow_some, if_pos hd]; exact gD c
  · rw [if_neg hd] at h
    obtain ⟨mc, k, hC, rfl⟩ := setCommittees_run h
    refine ⟨⟨rfl, rfl, rfl, rfl, rfl, rfl, rfl, rfl, rfl⟩, rfl, rfl, ?_, fun hp => ?_⟩
    · rw [ow_some, if_neg hd]; rfl
    · obtain ⟨nC, gC⟩ := (NMap.addAll_spec _ _ _ hp.committee).2 mc hC
      refine ⟨⟨nC, hp.delegated⟩, gC, fun c => ?_⟩
      rw [ow_some, if_neg hd]; rfl

/-- `UpdateValidatorStake`, once: the tallies are re-weighed for the new stake (when it does not wrap) and committee list,
then the record is written -/
theorem updateValidatorStake_reweigh {L L' : Ledger} {a : Addr} {val : Validator} {cs : List Nat} {amt : Nat}
    (h : updateValidatorStake L a val cs amt = .ok L') :
    ∃ L2, (val.stake + amt < U64 →
        Reweigh (some val) (some { val with committees := cs, stake := (val.stake + amt) % U64 }) L L2) ∧
      SameEnv L L2 ∧ L2.validators = L.validators ∧
      L' = valPut L2 a { val with committees := cs, stake := (val.stake + amt) % U64 } := by
  unfold updateValidatorStake at h
  obtain ⟨L1, h1, h⟩ := bind_ok h
  obtain ⟨_, rfl⟩ := addToStaked_ok.1 h1
  dsimp only at h
  -- both branches end in the re-indexing of `reindex_reweigh`, with the delegated-only tally `dl`
  have key : ∀ dl L2, dl = L.supply.delegatedOnly + (if val.delegate then amt else 0) →
      (if val.delegate then updateDelegations
          { L with supply := { L.supply with staked := L.supply.staked + amt, delegatedOnly := dl } } a val ((val.stake + amt) % U64) cs
        else updateCommittees
          { L with supply := { L.supply with staked := L.supply.staked + amt, delegatedOnly := dl } } a val ((val.stake + amt) % U64) cs)
        = .ok L2 →
      (Except.ok (valPut L2 a { val with committees := cs, stake := (val.stake + amt) % U64 }) : M Ledger) = .ok L' →
      ∃ L2, (val.stake + amt < U64 →
          Reweigh (some val) (some { val with committees := cs, stake := (val.stake + amt) % U64 }) L L2) ∧
        SameEnv L L2 ∧ L2.validators = L.validators ∧
        L' = valPut L2 a { val with committees := cs, stake := (val.stake + amt) % U64 } := by
    intro dl L2 hdl hre e
    have sc := (reindex_eff hre).1
    exact ⟨L2, fun hw => reindex_reweigh hre (by rw [Nat.mod_eq_of_lt hw]; omega)
      (by rw [hdl, Nat.mod_eq_of_lt hw]; split <;> omega), sc.env_of (L := L) rfl, sc.validators, (Except.ok.inj e).symm⟩
  by_cases hd : val.delegate = true
  · rw [if_pos hd] at h
    obtain ⟨L1', h3, h⟩ := bind_ok h
    obtain ⟨_, rfl⟩ := addToDelegated_ok.1 h3
    obtain ⟨L2, h2, h⟩ := bind_ok h
    exact key _ L2 (by rw [if_pos hd]) ((if_pos hd).trans h2) h
  · rw [if_neg hd] at h
    obtain ⟨L2, h2, h⟩ := bind_ok h
    exact key _ L2 (by rw [if_neg hd]; rfl) ((if_neg hd).trans h2) h

/-- `UpdateValidatorStake` rewrites one record and, outside the staking tallies, nothing else -/
theorem updateValidatorStake_frame {L L' : Ledger} {a : Addr} {val : Validator} {cs : List Nat} {amt : Nat}
    (h : updateValidatorStake L a val cs amt = .ok L') :
    L'.validators = AMap.set L.validators a { val with committees := cs, stake := (val.stake + amt) % U64 } ∧ SameEnv L L' := by
  obtain ⟨L2, _, env, hv, rfl⟩ := updateValidatorStake_reweigh h
  exact ⟨congrArg (AMap.set · a _) hv, env.trans (sameEnv_valPut ..)⟩

/-- the non-zero branch of `SlashValidator` between the burn and the write of the record: the tallies are re-weighed for what
is left of the stake and for the committee list handed on -/
theorem slashRestake_reweigh {L L2 L3 : Ledger} {a : Addr} {val : Validator} {after : Nat} {cs : List Nat}
    (hle : after ≤ val.stake) (h2 : subFromStaked L (val.stake - after) = .ok L2)
    (h3 : slashMembership L2 a val after cs (val.stake - after) = .ok L3) :
    Reweigh (some val) (some { val with committees := cs, stake := after }) L L3 := by
  obtain ⟨hle2, rfl⟩ := subFromStaked_ok.1 h2
  unfold slashMembership at h3
  by_cases hd : val.delegate = true
  · rw [if_pos hd] at h3
    obtain ⟨L1, h1, h4⟩ := bind_ok h3
    obtain ⟨hle3, rfl⟩ := subFromDelegated_ok.1 h1
    have hle3 : val.stake - after ≤ L.supply.delegatedOnly := hle3
    exact reindex_reweigh (L := L) (st := L.supply.staked - (val.stake - after))
      (dl := L.supply.delegatedOnly - (val.stake - after)) ((if_pos hd).trans h4) (by omega) (by rw [if_pos hd, if_pos hd]; omega)
  · rw [if_neg hd] at h3
    exact reindex_reweigh (L := L) (st := L.supply.staked - (val.stake - after)) (dl := L.supply.delegatedOnly)
      ((if_neg hd).trans h3) (by omega) (by rw [if_neg hd, if_neg hd])

/-- `DeleteValidator`, once: the weights of the record leave the tallies, then the record is removed -/
theorem deleteValidator_reweigh {L L' : Ledger} {a : Addr} {val : Validator} (h : deleteValidator L a val = .ok L') :
    ∃ L2, Reweigh (some val) none L L2 ∧ L' = valDel L2 a := by
  unfold deleteValidator at h
  obtain ⟨L1, h1, h⟩ := bind_ok h
  obtain ⟨hle, rfl⟩ := subFromStaked_ok.1 h1
  dsimp only at h
  by_cases hd : val.delegate = true
  · rw [if_pos hd] at h
    obtain ⟨L1', h3, h⟩ := bind_ok h
    obtain ⟨hle2, rfl⟩ := subFromDelegated_ok.1 h3
    obtain ⟨L2, h2, h⟩ := bind_ok h
    obtain ⟨md, mc, k, hD, hC, rfl⟩ := deleteDelegations_run h2
    refine ⟨_, ?_, (Except.ok.inj h).symm⟩
    refine ⟨⟨rfl, rfl, rfl, rfl, rfl, rfl, rfl, rfl, rfl⟩, rfl, Nat.sub_add_cancel hle, ?_, fun hp => ?_⟩
    · rw [ow_some, if_pos hd]; exact Nat.sub_add_cancel hle2
    · obtain ⟨nD, gD⟩ := (NMap.subAll_spec _ _ _ hp.delegated).2 md hD
      obtain ⟨nC, gC⟩ := (NMap.subAll_spec _ _ _ hp.committee).2 mc hC
      refine ⟨⟨nC, nD⟩, gC, fun c => ?_⟩
      rw [ow_some, if_pos hd]; exact gD c
  · rw [if_neg hd] at h
    obtain ⟨L2, h2, h⟩ := bind_ok h
    obtain ⟨mc, k, hC, rfl⟩ := deleteCommittees_run h2
    refine ⟨_, ?_, (Except.ok.inj h).symm⟩
    refine ⟨⟨rfl, rfl, rfl, rfl, rfl, rfl, rfl, rfl, rfl⟩, rfl, Nat.sub_add_cancel hle, ?_, fun hp => ?_⟩
    · rw [ow_some, if_neg hd]; rfl
    · obtain ⟨nC, gC⟩ := (NMap.subAll_spec _ _ _ hp.committee).2 mc hC
      refine ⟨⟨nC, hp.delegated⟩, gC, fun c => ?_⟩
      rw [ow_some, if_neg hd]; rfl

/-- `DeleteValidator` removes one record and, outside the staking tallies, nothing else -/
theorem deleteValidator_frame {L L' : Ledger} {a : Addr} {val : Validator} (h : deleteValidator L a val = .ok L') :
    L'.validators = AMap.erase L.validators a ∧ SameEnv L L' := by
  obtain ⟨L2, r, rfl⟩ := deleteValidator_reweigh h
  exact ⟨congrArg (AMap.erase · a) r.validators, r.env.trans (sameEnv_valDel ..)⟩

/-- the tallies after the re-weighed record is removed -/
theorem Reweigh.del_tallies {val : Validator} {L L2 : Ledger} {a : Addr} (r : Reweigh (some val) none L L2)
    (ht : Tallies L) (hp : Pools L) (hg : valGet? L a = some val) : Tallies (valDel L2 a) ∧ Pools (valDel L2 a) := by
  obtain ⟨pl, s3, s4⟩ := r.pools hp
  refine ⟨ht.replace (old := some val) (nv := none) (fun f => ?_) r.staked r.delegatedOnly s3 s4, ⟨pl.committee, pl.delegated⟩⟩
  show sumBy f (AMap.erase L2.validators a) + _ = _
  rw [r.validators, ← hg]; exact sumBy_erase f L.validators a

/-- `DeleteValidator` keeps the tallies right -/
theorem deleteValidator_tallies {L L' : Ledger} {a : Addr} {val : Validator} (ht : Tallies L) (hp : Pools L)
    (hg : valGet? L a = some val) (h : deleteValidator L a val = .ok L') :
    Tallies L' ∧ Pools L' ∧ L'.validators = AMap.erase L.validators a ∧ SameEnv L L' := by
  obtain ⟨hv, env⟩ := deleteValidator_frame h
  obtain ⟨L2, r, rfl⟩ := deleteValidator_reweigh h
  exact ⟨(r.del_tallies ht hp hg).1, (r.del_tallies ht hp hg).2, hv, env⟩

def dupC (v : Validator) : Nat := if v.committees.Nodup then 0 else 1

/-- number of validator records that list some committee twice -/
def dupCommittees (L : Ledger) : Nat := sumBy dupC L.validators

/-- no validator lists a committee twice (what `checkCommittees` enforces for stake / edit-stake messages) -/
def CommitteesDistinct (L : Ledger) : Prop := ∀ a v, valGet? L a = some v → v.committees.Nodup

theorem dup_same {L L' : Ledger} (e : L'.validators = L.validators) : dupCommittees L' = dupCommittees L := by
  unfold dupCommittees; rw [e]

theorem dupC_eq_zero {v : Validator} : dupC v = 0 ↔ v.committees.Nodup := by
  unfold dupC
  by_cases hd : v.committees.Nodup
  · rw [if_pos hd]; exact ⟨fun _ => hd, fun _ => rfl⟩
  · rw [if_neg hd]; exact ⟨fun e => absurd e Nat.one_ne_zero, fun h => absurd h hd⟩

theorem dupCommittees_zero_of {L : Ledger} (hn : NodupKeys L.validators) (h : CommitteesDistinct L) : dupCommittees L = 0 :=
  sumBy_eq_zero_of dupC L.validators hn fun k v hf => dupC_eq_zero.2 (h k v hf)

theorem dupC_of_zero {L : Ledger} {a : Addr} {v : Validator} (h : dupCommittees L = 0) (hv : valGet? L a = some v) :
    dupC v = 0 := by
  have := ow_le_sumBy dupC L.validators a
  rw [show find? L.validators a = some v from hv] at this
  unfold dupCommittees at h
  exact Nat.le_zero.1 (h ▸ this)

theorem committeesDistinct_of_zero {L : Ledger} (h : dupCommittees L = 0) : CommitteesDistinct L :=
  fun _ _ hv => dupC_eq_zero.1 (dupC_of_zero h hv)

end Canopy.Ledger
