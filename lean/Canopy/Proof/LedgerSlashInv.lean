import Canopy.Proof.LedgerStakingOps
/-! C12: the block context (`SameBlock`, `HeightsOK`), `InvStaking` under re-staking an existing validator with a different
stake / committee list (`restake_finish_inv`), and under the full `SlashValidator`. -/
namespace Canopy.Ledger
open AMap

/-- height, parameters and configuration: what the deferred-action heights and the mint schedule are computed from -/
structure SameBlock (L L' : Ledger) : Prop where
  height : L'.height = L.height
  params : L'.params = L.params
  cfg : L'.cfg = L.cfg

theorem SameBlock.refl (L : Ledger) : SameBlock L L := ⟨rfl, rfl, rfl⟩
theorem SameBlock.trans {A B C : Ledger} (h1 : SameBlock A B) (h2 : SameBlock B C) : SameBlock A C :=
  ⟨h2.height.trans h1.height, h2.params.trans h1.params, h2.cfg.trans h1.cfg⟩
theorem SameCtx.block {L L' : Ledger} (h : SameCtx L L') : SameBlock L L' := ⟨h.height, h.params, h.cfg⟩

theorem InvStaking.of_sameStaking {L L' : Ledger} (hs : InvStaking L) (h : SameStaking L L') : InvStaking L' :=
  hs.of_same h.validators h.staked h.delegatedOnly h.committee h.delegated h.unstaking h.paused

theorem sameStaking_subFromTotal {L L' : Ledger} {x : Nat} (h : subFromTotal L x = .ok L') : SameStaking L L' := by
  obtain ⟨_, rfl⟩ := subFromTotal_ok.1 h; exact ⟨rfl, rfl, rfl, rfl, rfl, rfl, rfl, ⟨rfl, rfl, rfl, rfl⟩⟩

theorem putCommitteeData_staking (L : Ledger) (cd : CommitteeData) :
    L.validators = (putCommitteeData L cd).validators ∧ (InvStaking L → InvStaking (putCommitteeData L cd)) := by
  unfold putCommitteeData
  split <;> exact ⟨rfl, fun i => i.of_same rfl rfl rfl rfl rfl rfl rfl⟩


/-- the heights at which deferred actions scheduled now will fire are not 0 modulo 2^64 -/
structure HeightsOK (L : Ledger) : Prop where
  unstaking : (L.height + L.params.unstakingBlocks) % U64 ≠ 0
  delegateUnstaking : (L.height + L.params.delegateUnstakingBlocks) % U64 ≠ 0
  maxPause : (L.height + L.params.maxPauseBlocks) % U64 ≠ 0

theorem HeightsOK.of_block {L L' : Ledger} (h : HeightsOK L) (b : SameBlock L L') : HeightsOK L' :=
  ⟨by rw [b.height, b.params]; exact h.unstaking, by rw [b.height, b.params]; exact h.delegateUnstaking,
   by rw [b.height, b.params]; exact h.maxPause⟩

theorem HeightsOK.ne_zero {L : Ledger} (h : HeightsOK L) {f : Nat} (hf : unstakeHeight L f) : f ≠ 0 := by
  rcases hf with rfl | rfl
  · exact h.unstaking
  · exact h.delegateUnstaking

/-- the end of the non-zero slash branch: the tallies re-weighed for `nv`, then `nv` written or force-unstaked below the
minimum — `InvStaking` is restored -/
theorem restake_finish_inv {L L3 : Ledger} {a : Addr} {old nv : Validator} (hs : InvStaking L)
    (r : Reweigh (some old) (some nv) L L3) (hg : valGet? L a = some old) (hh : HeightsOK L3)
    (n4 : nv.unstakingHeight = old.unstakingHeight) (n5 : nv.maxPausedHeight = old.maxPausedHeight) :
    InvStaking (slashFinish L3 a nv) := by
  rcases slashFinish_cases L3 a nv with e | ⟨f, hf, hu0, e⟩
  · rw [e]; exact hs.put r hg n4 n5
  · rw [e]
    have hm := setValidatorUnstaking_money L3 a nv f
    have hg3 : valGet? L3 a = some old := by unfold valGet?; rw [r.validators]; exact hg
    obtain ⟨m, w⟩ := markers_setValidatorUnstaking (val := nv) (hs.markers.of_same r.validators r.env.unstaking r.env.paused)
      (hs.wfm.of_same r.validators r.env.unstaking r.env.paused) hg3 (by rw [← n4]; exact hu0) n5 (hh.ne_zero hf)
    obtain ⟨pl, s3, s4⟩ := r.pools hs.pools
    -- the status fields written by `SetValidatorUnstaking` carry no weight in the tallies
    have t : Tallies (setValidatorUnstaking L3 a nv f) :=
      hs.tallies.replace (old := some old) (nv := some { nv with maxPausedHeight := 0, unstakingHeight := f })
        (fun φ => by rw [setValidatorUnstaking_validators, r.validators, ← hg]; exact sumBy_set φ L.validators a _)
        (by rw [hm.supply]; exact r.staked) (by rw [hm.supply]; exact r.delegatedOnly)
        (fun c => by have := s3 c; unfold comGet at *; rw [hm.supply]; exact this)
        (fun c => by have := s4 c; unfold delGet at *; rw [hm.supply]; exact this)
    exact InvStaking.mk' t m w ⟨by rw [hm.supply]; exact pl.committee, by rw [hm.supply]; exact pl.delegated⟩

/-- **`SlashValidator` keeps `InvStaking`** — zero branch (record and markers removed), non-zero branch for validators
and delegates, committee-scoped ejection under protocol v2, forced unstake below the minimum -/
theorem slashValidator_inv {L L' : Ledger} {a : Addr} {val : Validator} {ch p : Nat} (hs : InvStaking L) (hh : HeightsOK L)
    (hg : valGet? L a = some val) (h : slashValidator L a val ch p = .ok L') : InvStaking L' ∧ SameBlock L L' := by
  rcases slashValidatorWith_step h with rfl | ⟨t, after, cs', hle, hx, _, h⟩
  · exact ⟨hs, SameBlock.refl _⟩
  have hs1 : InvStaking { L with slashTracker := t, supply := { L.supply with total := L.supply.total - (val.stake - after) } } :=
    hs.of_same rfl rfl rfl rfl rfl rfl rfl
  split at h
  · obtain ⟨L2, r, rfl⟩ := h
    have e := slashCleanMarkers_eq true
      { L with slashTracker := t, supply := { L.supply with total := L.supply.total - (val.stake - after) } } a val
    simp only [Bool.true_and, decide_eq_true_eq] at e
    have b : SameBlock L L2 := by have k := r.env; rw [e] at k; exact ⟨k.height, k.params, k.cfg⟩
    exact ⟨r.del_inv hs1 hg (by rw [e]) (by rw [e]) (by rw [e]) (by rw [e]), b.trans ⟨rfl, rfl, rfl⟩⟩
  · obtain ⟨L3, r, rfl⟩ := h
    have b : SameBlock L L3 := ⟨r.env.height, r.env.params, r.env.cfg⟩
    exact ⟨restake_finish_inv hs1 r hg (hh.of_block b) rfl rfl, b.trans (slashFinish_ctx ..).block⟩

/-- `SlashValidators` (every listed validator is looked up again before it is slashed) -/
theorem slashValidators_inv {ch p : Nat} {as : List Addr} {L L' : Ledger} (hs : InvStaking L) (hh : HeightsOK L)
    (h : slashValidators L ch p as = .ok L') : InvStaking L' ∧ SameBlock L L' :=
  slashValidatorsWith_keeps (fun s => InvStaking s ∧ SameBlock L s)
    (fun _ _ _ _ ⟨i, b⟩ hv h => have ⟨i', b'⟩ := slashValidator_inv i (hh.of_block b) hv h; ⟨i', b.trans b'⟩)
    ⟨hs, SameBlock.refl L⟩ h

end Canopy.Ledger
