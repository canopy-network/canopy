import Canopy.Proof.SmtPath
import Canopy.Proof.SmtHistory
/-! Soundness of the repaired verifier: an accepted statement is true of the state behind the root, provided the hash
inputs of the tree's nodes have no second admissible reading (`ParseUnique`). The hash idealisation `H4Inj` gives that for
every tree; for the code's unframed hash it is a property of the tree (`NoResplittableNode`). Core only. -/
namespace Canopy.Smt
open Trie

/-- soundness from the hash chain, for any admissibility predicate `Ok` on 4-tuples that the proof's tuples satisfy and
under which the hash inputs of the tree's nodes have a unique reading -/
theorem verifyFixed_sound_gen (strict : Bool) (H : Bytes → Bytes) (H4 : Bytes → Bytes → Bytes → Bytes → Bytes)
    {Ok : Bytes → Bytes → Bytes → Bytes → Prop} {HvOk : Bytes → Prop} {n : Nat} (hn : 0 < n) {t : Trie} {S : KMap}
    (h : t.Rep n S) (hs : S.HasSentinels n) (hU : ParseUnique H4 Ok t) (hStep : ∀ a b c d, HvOk (H4 a b c d))
    (userKey value : Bytes) (membership : Bool) (proof : List PNode)
    (hOk : ∀ p ∈ proof, nodeOk strict n p = true →
      HvOk p.value ∧ ∀ (c : Key) (h' : Bytes), c ≠ [] → c.length ≤ n → HvOk h' →
        Ok p.key p.value (encodeKey c) h' ∧ Ok (encodeKey c) h' p.key p.value)
    (hacc : verifyFixed strict H H4 n userKey value membership (t.value H4) proof = .accept) :
    if membership then S (keyOfBytes n (H userKey)) = some (H value) else S (keyOfBytes n (H userKey)) = none := by
  obtain ⟨p0, p1, rest, rfl⟩ := cons_cons_of_accept hacc
  obtain ⟨hok, -, hfold, hbranch, hdecision⟩ := (verifyFixed_accept_iff rfl).mp hacc
  have hk : (keyOfBytes n (H userKey)).length = n := keyOfBytes_length n _
  generalize keyOfBytes n (H userKey) = k at hk hbranch hdecision ⊢
  have hp0 := decodeKey_valid (nodeOk_iff.mp (hok p0 List.mem_cons_self)).1
  have hOk' := fun p (hp : p ∈ p0 :: p1 :: rest) => hOk p hp (hok p hp)
  obtain ⟨br, s, acc, hp, hskey, hsval, hbr⟩ :=
    path_of_fold H4 hU hStep h.1 (top_key_nil h hs hn) (p1 :: rest) (decodeKey p0.key) p0.value
      (fun p hp => (hOk' p (List.mem_cons_of_mem _ hp)).2) (hOk' p0 List.mem_cons_self).1
      (iff_of_false hp0.2 (List.cons_ne_nil _ _)) hp0.1 hfold
  have hws := hp.wf h.1
  cases membership
  · -- non-membership: if the key were present it would sit below `s`, so `s`'s key would be a prefix of it
    simp only [Bool.false_eq_true, if_false] at hdecision ⊢
    cases hS : S k with
    | none => rfl
    | some v =>
      exfalso
      have hks := (hp.mem_iff h.1 (k, v)).mpr
        ⟨(h.2 k v).mpr hS, (prefix_iff_le_gcp (hskey ▸ hp.br_prefix h.1)).mpr (hbr ▸ hbranch)⟩
      have hpre : decodeKey p0.key <+: k := hskey ▸ key_prefix hws (mem_keys_of_mem hks)
      exact hdecision.2 ((gcp_length_eq_iff _ _).mpr hpre)
  · -- membership: `proof[0]` is the leaf of the key itself
    simp only [if_true] at hdecision ⊢
    obtain ⟨hkey, hval⟩ := hdecision
    have hkne : k ≠ [] := List.ne_nil_of_length_pos (hk ▸ hn)
    have hdk : decodeKey p0.key = k := by rw [← hkey]; exact decodeKey_encodeKey _ hkne
    rw [hdk] at hskey
    cases s with
    | node g a b =>
      exfalso
      simp only [Trie.key] at hskey
      have := node_prefix_lt hws
      rw [hskey] at this; omega
    | leaf k' v' =>
      simp only [Trie.key, Trie.value] at hskey hsval
      subst hskey
      have := hp.sub.mem (mem_toList_leaf.mpr ⟨rfl, rfl⟩)
      rw [hsval, hval] at this
      exact (h.2 _ _).mp this

theorem parseUnique_of_H4Inj {H4 : Bytes → Bytes → Bytes → Bytes → Bytes} (hH : H4Inj H4) (t : Trie) :
    ParseUnique H4 (fun _ _ _ _ => True) t :=
  fun _ _ _ _ _ _ _ _ _ he => hH _ _ _ _ _ _ _ _ he

/-- a 4-tuple the strict verifier lets through: two well-formed keys, two values of 32 or 20 bytes -/
def TupleOk (n : Nat) (x y z w : Bytes) : Prop :=
  validNodeKey n x = true ∧ validNodeKey n z = true ∧ (y.length = 32 ∨ y.length = 20) ∧ (w.length = 32 ∨ w.length = 20)

/-- no inner node of `t` can be RE-SPLIT: the byte string `lk ‖ lv ‖ rk ‖ rv` its hash covers has no second reading as
(well-formed key, 32/20-byte value, well-formed key, 32/20-byte value). A property of the tree alone (decidable for a
concrete tree: finitely many ways to cut a byte string in four). -/
def NoResplittableNode (n : Nat) (H4 : Bytes → Bytes → Bytes → Bytes → Bytes) (t : Trie) : Prop :=
  ∀ g a b, Sub t (node g a b) → ∀ x y z w, TupleOk n x y z w →
    encodeKey a.key ++ a.value H4 ++ (encodeKey b.key ++ b.value H4) = x ++ y ++ (z ++ w) →
    encodeKey a.key = x ∧ a.value H4 = y ∧ encodeKey b.key = z ∧ b.value H4 = w

theorem append4_inj {a b c d x y z w : Bytes} (h : a ++ b ++ (c ++ d) = x ++ y ++ (z ++ w))
    (ha : a.length = x.length) (hb : b.length = y.length) (hc : c.length = z.length) :
    a = x ∧ b = y ∧ c = z ∧ d = w := by
  obtain ⟨h1, h2⟩ := List.append_inj h (by rw [List.length_append, List.length_append, ha, hb])
  obtain ⟨rfl, rfl⟩ := List.append_inj h1 ha
  obtain ⟨rfl, rfl⟩ := List.append_inj h2 hc
  exact ⟨rfl, rfl, rfl, rfl⟩

theorem sub_empty {n : Nat} {t' : Trie} (h : Sub (empty n) t') :
    t' = empty n ∨ t' = .leaf (minKey n) minVal ∨ t' = .leaf (maxKey n) maxVal := by
  induction h with
  | refl => exact Or.inl rfl
  | left _ ih =>
    rcases ih with e | e | e <;> cases e
    exact Or.inr (Or.inl rfl)
  | right _ ih =>
    rcases ih with e | e | e <;> cases e
    exact Or.inr (Or.inr rfl)

end Canopy.Smt
