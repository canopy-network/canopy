import Canopy.Proof.Slots
import Canopy.Proof.Guards
/-! Round trip of the `Transaction` schema: `decodeLoose (canon t) = some (t, false)` and injectivity
of `canon`. Core Lean only. -/
namespace Canopy.Proto
open Canopy Canopy.SignBytes

/-! Well-formed contents: what the Go structs can hold and the marshaller accepts. -/

/-- a byte string whose length fits a varint (any byte string that exists in memory) -/
def Small (b : Bytes) : Prop := b.length < 2 ^ 64

theorem small_nil : Small ([] : Bytes) := by simp [Small]

structure AnyC.WF (a : AnyC) : Prop where
  utf8 : validUtf8 a.typeUrl = true
  s1 : Small a.typeUrl
  s2 : Small a.value

structure SigC.WF (g : SigC) : Prop where
  s1 : Small g.publicKey
  s2 : Small g.signature

structure TxContent.WF (t : TxContent) : Prop where
  mt : validUtf8 t.messageType = true
  memo : validUtf8 t.memo = true
  smt : Small t.messageType
  smemo : Small t.memo
  msg : ∀ a, t.msg = some a → a.WF ∧ Small (canonAny a)
  sig : ∀ g, t.signature = some g → g.WF ∧ Small (canonSig g)
  h4 : t.createdHeight < 2 ^ 64
  h5 : t.time < 2 ^ 64
  h6 : t.fee < 2 ^ 64
  h8 : t.networkId < 2 ^ 64
  h9 : t.chainId < 2 ^ 64
  h10 : t.nonce < 2 ^ 64

def AnyC.slots (a : AnyC) : List Slot := [(1, lenO a.typeUrl), (2, lenO a.value)]
def SigC.slots (g : SigC) : List Slot := [(1, lenO g.publicKey), (2, lenO g.signature)]
def TxContent.slots (t : TxContent) : List Slot :=
  [(1, lenO t.messageType), (2, msgO canonAny t.msg), (3, msgO canonSig t.signature), (4, uintO t.createdHeight),
   (5, uintO t.time), (6, uintO t.fee), (7, lenO t.memo), (8, uintO t.networkId), (9, uintO t.chainId),
   (10, uintO t.nonce)]

theorem enc_lenO (num : Nat) (b : Bytes) : encFields ((lenO b).map (Field.mk num)) = optLen num b := by
  unfold lenO optLen
  split <;> simp [encFields, encField, encLen]

theorem enc_uintO (num n : Nat) : encFields ((uintO n).map (Field.mk num)) = optUint num n := by
  unfold uintO optUint
  split <;> simp [encFields, encField, encUint]

theorem enc_msgO {α : Type} (num : Nat) (enc : α → Bytes) (m : Option α) :
    encFields ((msgO enc m).map (Field.mk num)) = optMsg num enc m := by
  cases m <;> simp [msgO, optMsg, encFields, encField, encLen]

theorem canonAny_eq (a : AnyC) : canonAny a = encFields (assemble a.slots) := by
  simp [canonAny, AnyC.slots, assemble_cons, encFields_assemble_nil, encFields_append, enc_lenO]

theorem canonSig_eq (g : SigC) : canonSig g = encFields (assemble g.slots) := by
  simp [canonSig, SigC.slots, assemble_cons, encFields_assemble_nil, encFields_append, enc_lenO]

theorem canon_eq (t : TxContent) : canon t = encFields (assemble t.slots) := by
  simp [canon, TxContent.slots, assemble_cons, encFields_assemble_nil, encFields_append, enc_lenO, enc_uintO, enc_msgO]

/-- `h` has the shape of the `WF` fields for sub-messages -/
theorem msgO_wf {α : Type} {enc : α → Bytes} {Q : α → Prop} {x : Option α}
    (h : ∀ a, x = some a → Q a ∧ Small (enc a)) : ∀ v ∈ msgO enc x, v.WF :=
  forall_msgO fun a ha => (h a ha).2

theorem any_fields_wf {a : AnyC} (h : a.WF) : ∀ f ∈ assemble a.slots, f.WF := by
  refine assemble_wf rfl ?_
  simp only [AnyC.slots, List.forall_mem_cons, List.not_mem_nil, false_imp_iff, implies_true, and_true]
  exact ⟨forall_lenO h.s1, forall_lenO h.s2⟩

theorem sig_fields_wf {g : SigC} (h : g.WF) : ∀ f ∈ assemble g.slots, f.WF := by
  refine assemble_wf rfl ?_
  simp only [SigC.slots, List.forall_mem_cons, List.not_mem_nil, false_imp_iff, implies_true, and_true]
  exact ⟨forall_lenO h.s1, forall_lenO h.s2⟩

theorem tx_fields_wf {t : TxContent} (h : t.WF) : ∀ f ∈ assemble t.slots, f.WF := by
  refine assemble_wf rfl ?_
  simp only [TxContent.slots, List.forall_mem_cons, List.not_mem_nil, false_imp_iff, implies_true, and_true]
  exact ⟨forall_lenO h.smt, msgO_wf h.msg, msgO_wf h.sig, forall_uintO h.h4, forall_uintO h.h5, forall_uintO h.h6,
    forall_lenO h.smemo, forall_uintO h.h8, forall_uintO h.h9, forall_uintO h.h10⟩

theorem foldFields_append {α : Type} {step : St α → Field → Option (St α)} {s s' : St α} {a : List Field}
    (h : foldFields step s a = some s') (b : List Field) : foldFields step s (a ++ b) = foldFields step s' b := by
  induction a generalizing s with
  | nil => cases h; rfl
  | cons f fs ih =>
    simp only [List.cons_append, foldFields] at h ⊢
    cases hs : step s f with
    | none => simp [hs] at h
    | some s₁ =>
      simp only [hs] at h ⊢
      exact ih h

/-- processing the canonical piece of a length-delimited field that is still at its default sets
exactly that field: `set` is the field's update, `happ` what the decoder does on its number -/
theorem fold_lenO {α : Type} (step : St α → Field → Option (St α)) (num : Nat) (set : α → Bytes → α) (b : Bytes)
    (happ : ∀ s u, step (s, u) ⟨num, .len b⟩ = some (set s b, u)) {s : α} {u : Bool} (hs : set s [] = s)
    (rest : List Field) :
    foldFields step (s, u) ((lenO b).map (Field.mk num) ++ rest) = foldFields step (set s b, u) rest := by
  unfold lenO
  split
  · next h => rw [List.isEmpty_iff.mp h, hs]; rfl
  · simp only [List.map_cons, List.map_nil, List.cons_append, List.nil_append, foldFields, happ s u]

theorem fold_uintO (num : Nat) (set : TxContent → Nat → TxContent)
    (happ : ∀ s u n, applyTx (s, u) ⟨num, .varint n⟩ = some (set s n, u))
    {s : TxContent} {u : Bool} {n : Nat} (hs : set s 0 = s) (rest : List Field) :
    foldFields applyTx (s, u) ((uintO n).map (Field.mk num) ++ rest) = foldFields applyTx (set s n, u) rest := by
  unfold uintO
  split
  · next h => rw [eq_of_beq h, hs]; rfl
  · simp only [List.map_cons, List.map_nil, List.cons_append, List.nil_append, foldFields, happ s u n]

theorem foldAny_canon (a : AnyC) (h : a.WF) :
    foldFields applyAny (AnyC.empty, false) (assemble a.slots) = some (a, false) := by
  simp only [AnyC.slots, assemble_cons]
  rw [fold_lenO applyAny 1 (fun s b => { s with typeUrl := b }) a.typeUrl (fun s u => by simp [applyAny, h.utf8]) rfl,
    fold_lenO applyAny 2 (fun s b => { s with value := b }) a.value (fun _ _ => rfl) rfl]
  rfl

theorem foldSig_canon (g : SigC) :
    foldFields applySig (SigC.empty, false) (assemble g.slots) = some (g, false) := by
  simp only [SigC.slots, assemble_cons]
  rw [fold_lenO applySig 1 (fun s b => { s with publicKey := b }) g.publicKey (fun _ _ => rfl) rfl,
    fold_lenO applySig 2 (fun s b => { s with signature := b }) g.signature (fun _ _ => rfl) rfl]
  rfl

theorem mergeAny_canon (a : AnyC) (h : a.WF) : mergeAny none (canonAny a) = some (a, false) := by
  simp [mergeAny, canonAny_eq, parse_enc (any_fields_wf h), foldAny_canon a h]

theorem mergeSig_canon (g : SigC) (h : g.WF) : mergeSig none (canonSig g) = some (g, false) := by
  simp [mergeSig, canonSig_eq, parse_enc (sig_fields_wf h), foldSig_canon g]

/-- `hm` has the shape of `TxContent.WF.msg`, in `fold_signature` of `TxContent.WF.sig` -/
theorem fold_msg {Q : AnyC → Prop} {s : TxContent} {u : Bool} {m : Option AnyC} (hm : ∀ a, m = some a → a.WF ∧ Q a)
    (hs : s.msg = none) (rest : List Field) :
    foldFields applyTx (s, u) ((msgO canonAny m).map (Field.mk 2) ++ rest) =
      foldFields applyTx ({ s with msg := m }, u) rest := by
  cases m with
  | none => cases s; simp_all [msgO]
  | some a => simp [msgO, foldFields, applyTx, hs, mergeAny_canon a (hm a rfl).1]

theorem fold_signature {Q : SigC → Prop} {s : TxContent} {u : Bool} {m : Option SigC}
    (hm : ∀ g, m = some g → g.WF ∧ Q g) (hs : s.signature = none) (rest : List Field) :
    foldFields applyTx (s, u) ((msgO canonSig m).map (Field.mk 3) ++ rest) =
      foldFields applyTx ({ s with signature := m }, u) rest := by
  cases m with
  | none => cases s; simp_all [msgO]
  | some g => simp [msgO, foldFields, applyTx, hs, mergeSig_canon g (hm g rfl).1]

theorem foldTx_canon (t : TxContent) (h : t.WF) :
    foldFields applyTx (TxContent.empty, false) (assemble t.slots) = some (t, false) := by
  -- the slots are laid out first: once the decoder state has grown, `rw` must not have to search it
  simp only [TxContent.slots, assemble_cons]
  rw [fold_lenO applyTx 1 (fun s b => { s with messageType := b }) t.messageType (fun s u => by simp [applyTx, h.mt]) rfl,
    fold_msg h.msg rfl,
    fold_signature h.sig rfl,
    fold_uintO 4 (fun s n => { s with createdHeight := n }) (fun _ _ _ => rfl) rfl,
    fold_uintO 5 (fun s n => { s with time := n }) (fun _ _ _ => rfl) rfl,
    fold_uintO 6 (fun s n => { s with fee := n }) (fun _ _ _ => rfl) rfl,
    fold_lenO applyTx 7 (fun s b => { s with memo := b }) t.memo (fun s u => by simp [applyTx, h.memo]) rfl,
    fold_uintO 8 (fun s n => { s with networkId := n }) (fun _ _ _ => rfl) rfl,
    fold_uintO 9 (fun s n => { s with chainId := n }) (fun _ _ _ => rfl) rfl,
    fold_uintO 10 (fun s n => { s with nonce := n }) (fun _ _ _ => rfl) rfl]
  rfl

/-- `parse_canon` of DESIGN §6 for the `Transaction` schema. -/
theorem decodeLoose_canon (t : TxContent) (h : t.WF) : decodeLoose (canon t) = some (t, false) := by
  simp [decodeLoose, canon_eq, parse_enc (tx_fields_wf h), foldTx_canon t h]

theorem canon_injective (t₁ t₂ : TxContent) (h₁ : t₁.WF) (h₂ : t₂.WF) (h : canon t₁ = canon t₂) : t₁ = t₂ := by
  have e₁ := decodeLoose_canon t₁ h₁
  have e₂ := decodeLoose_canon t₂ h₂
  rw [h, e₂] at e₁
  simpa using e₁.symm

theorem canonSig_inj (g₁ g₂ : SigC) (h₁ : g₁.WF) (h₂ : g₂.WF) (h : canonSig g₁ = canonSig g₂) : g₁ = g₂ := by
  have e₁ := mergeSig_canon g₁ h₁
  rw [h, mergeSig_canon g₂ h₂] at e₁
  simpa using e₁.symm

/-- the decoder's size limits, on the canonical form -/
structure TxContent.SizeOK (t : TxContent) : Prop where
  total : (canon t).length ≤ protoMaxMessageBytes
  mt : t.messageType.length ≤ protoMaxFieldBytes
  memo : t.memo.length ≤ protoMaxFieldBytes
  msg : ∀ a, t.msg = some a → (canonAny a).length ≤ protoMaxFieldBytes
  sig : ∀ g, t.signature = some g → (canonSig g).length ≤ protoMaxFieldBytes

theorem tx_fields_preOK (t : TxContent) (h : t.WF) (hs : t.SizeOK) : ∀ f ∈ assemble t.slots, f.PreOK := by
  have : ∀ f ∈ assemble t.slots, f.WF → f.PreOK := by
    refine forall_mem_assemble ?_
    simp only [TxContent.slots, List.forall_mem_cons, List.not_mem_nil, false_imp_iff, implies_true, and_true]
    exact ⟨forall_lenO fun w => ⟨w, hs.mt⟩, forall_msgO fun a ha w => ⟨w, hs.msg a ha⟩,
      forall_msgO fun g hg w => ⟨w, hs.sig g hg⟩, forall_uintO fun w => ⟨w, trivial⟩, forall_uintO fun w => ⟨w, trivial⟩,
      forall_uintO fun w => ⟨w, trivial⟩, forall_lenO fun w => ⟨w, hs.memo⟩, forall_uintO fun w => ⟨w, trivial⟩,
      forall_uintO fun w => ⟨w, trivial⟩, forall_uintO fun w => ⟨w, trivial⟩⟩
  exact fun f hf => this f hf (tx_fields_wf h f hf)

/-- whatever `lib.Unmarshal` accepts carries no unknown field and passed the pre-flight scan -/
theorem decodeTx_ok (raw : Bytes) (t : TxContent) (h : decodeTx raw = some t) :
    decodeLoose raw = some (t, false) ∧ preflight raw = true ∧ raw.length ≤ protoMaxMessageBytes := by
  unfold decodeTx at h
  simp only [ite_none_eq_some, Bool.not_eq_true', Bool.not_eq_false] at h
  obtain ⟨hl, hp, h⟩ := h
  refine ⟨?_, hp, Nat.le_of_not_lt hl⟩
  split at h
  · next c hc => rw [hc, Option.some.inj h]
  · cases h

end Canopy.Proto
