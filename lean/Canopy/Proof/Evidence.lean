import Canopy.Model.Evidence
import Canopy.Proof.Gate
/-!
Helper lemmas for C14. Evidence side: what a successful `processOne` / `processDSE` /
`validateByzantineEvidence` establishes. Then the certificate-results path of the root chain: what an accepted
certificate-results transaction establishes about the results (and so about the slash list) it carries. Last, the
expiry bound as the node wires it. The property statements are in `Canopy.Props.C14`.
-/
namespace Canopy.Evidence
open Canopy.Gate
open Canopy.Gen.Evidence (viewEquals phasePropose phaseElectionVote)

section DoubleSign
variable {preFix : Bool} {env : Env} {be : List (Option DSE)}

/-- `View.Equals` compares all six fields: equal views are the same record -/
theorem viewEquals_eq {x v : View} (h : viewEquals (some x) (some v) = true) : x = v := by
  cases x; cases v
  -- every guard that did not fire is a field equality
  simp only [viewEquals, ne_eq, decide_not, Bool.if_false_left, Bool.if_true_right, Bool.or_false, Bool.and_eq_true,
    Bool.decide_eq_true, Bool.not_not, decide_eq_true_eq] at h
  obtain ⟨rfl, rfl, rfl, rfl, rfl, rfl⟩ := h
  rfl

theorem viewEquals_refl (x : View) : viewEquals (some x) (some x) = true := by
  simp [viewEquals]

theorem signPayload_header (q : QC) (h : View) : (signPayload q h).header = h := by
  unfold signPayload
  split <;> rfl

/-- outside ELECTION_VOTE the sign bytes cover header, block hash, RESULTS HASH and proposer key -/
theorem signPayload_covers_results (q : QC) (hd : View) (h : hd.phase ≠ phaseElectionVote) :
    signPayload q hd = payloadOf q hd :=
  if_neg (mt beq_iff_eq.mp h)

/-- what a certificate that passes `qcCheck` carries -/
structure ValidQC (env : Env) (q : QC) (ms : List Member) (hd : View) (sig : AggSig) : Prop where
  header : q.header = some hd
  signature : q.signature = some sig
  network : hd.networkId = env.networkId
  chain : hd.chainId = env.chainId
  verifies : aggVerifies sig (ms.map (·.key)) ((selected sig.bitmap ms).map (·.key)) (signPayload q hd) = true
  bitmapLen : sig.bitmap.length = (ms.length + 7) / 8 * 8

theorem sigCheck_ok {q : QC} {hd : View} {ms : List Member} {p : Bool} (h : sigCheck q hd ms = .ok p) :
    ∃ sig, q.signature = some sig ∧
      aggVerifies sig (ms.map (·.key)) ((selected sig.bitmap ms).map (·.key)) (signPayload q hd) = true ∧
      sig.bitmap.length = (ms.length + 7) / 8 * 8 ∧ p = isPartial sig ms := by
  unfold sigCheck at h
  rcases hsig : q.signature with _ | sig
  · rw [hsig] at h; cases h
  rw [hsig] at h
  simp only [ite_error_eq_ok, bne_iff_ne, ne_eq, Decidable.not_not, Bool.not_eq_true', Bool.not_eq_false] at h
  obtain ⟨-, -, hlen, hv, h⟩ := h
  cases h
  exact ⟨sig, rfl, hv, hlen, rfl⟩

/-- a certificate that passes `qcCheck` is a `ValidQC` for its header and the signature it carries, and the answer
says whether the signers fall short of +2/3 -/
theorem qcCheck_ok {q : QC} {ms : List Member} {p : Bool} {hd : View} (hhd : q.header = some hd)
    (h : qcCheck env q ms = .ok p) : ∃ sig, ValidQC env q ms hd sig ∧ p = isPartial sig ms := by
  unfold qcCheck at h
  rcases hcb : Gate.checkBasic q env.globalMaxBlockSize with _ | c
  case some => rw [hcb] at h; cases h
  rw [hcb, hhd] at h
  simp only [ite_error_eq_ok, bne_iff_ne, ne_eq, Decidable.not_not] at h
  obtain ⟨hnet, hchain, h⟩ := h
  have hs : sigCheck q hd ms = .ok p := by
    rcases hb : q.block with _ | b
    · rw [hb] at h; exact h
    · rw [hb] at h; exact ok_of_ite_error (ok_of_ite_error h)
  obtain ⟨sig, e1, e2, e3, e4⟩ := sigCheck_ok hs
  exact ⟨sig, ⟨hhd, e1, hnet.symm, hchain.symm, e2, e3⟩, e4⟩

theorem unpack_ok {x : Option DSE} {a b : QC} {ha hb : View} (h : unpack x = .ok (a, b, ha, hb)) :
    x = some ⟨some a, some b⟩ ∧ a.header = some ha ∧ b.header = some hb := by
  unfold unpack at h
  split at h
  · contradiction
  · rename_i a' b'
    split at h
    · rename_i ha' hb' e1 e2
      simp only [Except.ok.injEq, Prod.mk.injEq] at h
      obtain ⟨rfl, rfl, rfl, rfl⟩ := h
      exact ⟨rfl, e1, e2⟩
    · contradiction
  · contradiction

/-- everything `DoubleSignEvidence.Check` establishes -/
theorem check_none {a b : QC} {ha hb : View} {ms : List Member} {m : UInt64}
    (h : check env a b ha hb ms m = none) :
    ¬ ha.rootHeight < m ∧ a.block = none ∧ b.block = none ∧ a.results = none ∧ b.results = none ∧
    (∃ p, qcCheck env a ms = .ok p) ∧ (∃ p, qcCheck env b ms = .ok p) ∧
    viewEquals (some ha) (some hb) = true ∧ signPayload b hb ≠ signPayload a ha ∧ phasePropose < ha.phase := by
  unfold check at h
  simp only [ite_some_eq_none, Bool.or_eq_true, Option.isSome_iff_ne_none, ne_eq, not_or, Decidable.not_not] at h
  obtain ⟨h1, ⟨h2a, h2b⟩, ⟨h3a, h3b⟩, h⟩ := h
  rcases hqa : qcCheck env a ms with e | pa
  · rw [hqa] at h; cases h
  rcases hqb : qcCheck env b ms with e | pb
  · rw [hqa, hqb] at h; cases h
  rw [hqa, hqb] at h
  simp only [ite_some_eq_none, Bool.not_eq_true', Bool.not_eq_false, beq_iff_eq, Nat.not_le, and_true] at h
  exact ⟨h1, h2a, h2b, h3a, h3b, ⟨pa, rfl⟩, ⟨pb, rfl⟩, h⟩

/-- the double signers are among the signers of each certificate, in committee order -/
theorem both_sublist (xs ys : List Bool) (ms : List Member) :
    (both xs ys ms).Sublist ((selected xs ms).map (·.key)) ∧ (both xs ys ms).Sublist ((selected ys ms).map (·.key)) := by
  induction ms generalizing xs ys with
  | nil => cases xs <;> cases ys <;> exact ⟨.slnil, .slnil⟩
  | cons m ms ih =>
    rcases xs with _ | ⟨x, xs⟩
    · exact ⟨List.nil_sublist _, List.nil_sublist _⟩
    rcases ys with _ | ⟨y, ys⟩
    · exact ⟨List.nil_sublist _, List.nil_sublist _⟩
    obtain ⟨l, r⟩ := ih xs ys
    rw [both, selected_cons, selected_cons]
    cases x <;> cases y
    · exact ⟨l, r⟩
    · exact ⟨l, r.cons _⟩
    · exact ⟨l.cons _, r⟩
    · exact ⟨l.cons_cons _, r.cons_cons _⟩

theorem doubleSigners_ok {sa sb : AggSig} {ms : List Member} {ks : List KeyId}
    (h : doubleSigners sa sb ms = .ok ks) : ks = both sa.bitmap sb.bitmap ms := by
  unfold doubleSigners at h
  simp only [ite_error_eq_ok, Except.ok.injEq] at h
  exact h.2.2.symm

/-- evidence `x` shows that key `k` double-signed under the committee of root height `h`:
two certificates with EQUAL views, each individually valid against that committee (partial allowed),
over DIFFERENT payloads, both containing `k`'s own signature; in a phase after PROPOSE; not below the
minimum evidence height the controller answered (asked as of the replica's current root height; before
repair c09f5c7, `preFix = true`, as of the evidence's own root height) -/
structure Equivocation (preFix : Bool) (env : Env) (x : Option DSE) (k : KeyId) (h : UInt64) : Prop where
  ex : ∃ a b hd ms sa sb minH,
    x = some ⟨some a, some b⟩ ∧
    ValidQC env a ms hd sa ∧ ValidQC env b ms hd sb ∧
    hd.rootHeight = h ∧ env.committeeAt h = some ms ∧ k ∈ ms.map (·.key) ∧
    signPayload a hd ≠ signPayload b hd ∧
    (k, signPayload a hd) ∈ sa.parts ∧ (k, signPayload b hd) ∈ sb.parts ∧
    phasePropose < hd.phase ∧
    env.minEvidenceAt (if preFix then h else env.rootHeight) = some minH ∧ minH ≤ h

/-- the bound the evidence was held against -/
theorem Equivocation.minHeight {x : Option DSE} {k : KeyId} {h : UInt64} (e : Equivocation preFix env x k h) :
    ∃ minH, env.minEvidenceAt (if preFix then h else env.rootHeight) = some minH ∧ minH ≤ h := by
  obtain ⟨_, _, _, _, _, _, minH, _, _, _, _, _, _, _, _, _, _, hm, hle⟩ := e.ex
  exact ⟨minH, hm, hle⟩

/-- **one piece of evidence**: every key `processOne` returns equivocated -/
theorem processOne_sound {x : Option DSE} {h : UInt64} {ks : List KeyId}
    (hp : processOneWith preFix env x = .ok (h, ks)) : ∀ k ∈ ks, Equivocation preFix env x k h := by
  unfold processOneWith at hp
  -- the successful path, one call of the loop body after the other
  rcases hun : unpack x with e | ⟨a, b, ha, hb⟩ <;> simp only [hun] at hp
  · cases hp
  replace hp := ok_of_ite_error hp
  rcases hms : env.committeeAt ha.rootHeight with _ | ms <;> simp only [hms] at hp
  · cases hp
  rcases hmin : env.minEvidenceAt (if preFix then ha.rootHeight else env.rootHeight) with _ | minH <;> simp only [hmin] at hp
  · cases hp
  rcases hchk : check env a b ha hb ms minH with _ | e <;> simp only [hchk] at hp
  case some => cases hp
  replace hp := ok_of_ite_error hp
  obtain ⟨hx, hah, hbh⟩ := unpack_ok hun
  obtain ⟨hexp, -, -, -, -, ⟨pa, hqa⟩, ⟨pb, hqb⟩, hve, hne, hph⟩ := check_none hchk
  cases viewEquals_eq hve
  -- each certificate is valid for the header the evidence names and the signature it carries
  obtain ⟨sa, va, -⟩ := qcCheck_ok hah hqa
  obtain ⟨sb, vb, -⟩ := qcCheck_ok hbh hqb
  rw [va.signature, vb.signature] at hp
  rcases hds : doubleSigners sa sb ms with e | ks' <;> simp only [hds] at hp
  · cases hp
  cases hp
  cases doubleSigners_ok hds
  intro k hk
  have ka := (both_sublist sa.bitmap sb.bitmap ms).1.subset hk
  have kb := (both_sublist sa.bitmap sb.bitmap ms).2.subset hk
  exact ⟨a, b, ha, ms, sa, sb, minH, hx, va, vb, rfl, hms, ((selected_sublist _ ms).map _).subset ka, fun e => hne e.symm,
    agg_parts va.verifies k ka, agg_parts vb.verifies k kb, hph, hmin,
    UInt64.not_lt.mp hexp⟩

theorem mem_addHeight {hs : List UInt64} {h h' : UInt64} : h' ∈ addHeight hs h ↔ h' ∈ hs ∨ h' = h := by
  unfold addHeight
  split
  · rename_i hc
    exact ⟨.inl, fun o => o.elim id fun e => e ▸ List.contains_iff_mem.mp hc⟩
  · rw [List.mem_append, List.mem_singleton]

/-- what holds of a fresh entry for `k`, and of an entry of `k` once `h` is added to it, is kept by `addSigner` -/
theorem addSigner_forall {Q : DS → Prop} {k : KeyId} {h : UInt64} (new : Q ⟨k, [h]⟩)
    (add : ∀ d, d.id = k → Q d → Q ⟨d.id, addHeight d.heights h⟩) {acc : List DS} (hacc : ∀ d ∈ acc, Q d) :
    ∀ d ∈ addSigner acc k h, Q d := by
  intro d hd
  induction acc with
  | nil => exact List.mem_singleton.mp hd ▸ new
  | cons e acc ih =>
    rw [addSigner] at hd
    split at hd
    · rename_i hek
      rcases List.mem_cons.mp hd with rfl | hd
      · exact add e (beq_iff_eq.mp hek) (hacc e List.mem_cons_self)
      · exact hacc d (List.mem_cons_of_mem _ hd)
    · rcases List.mem_cons.mp hd with rfl | hd
      · exact hacc _ List.mem_cons_self
      · exact ih (fun d hd => hacc d (List.mem_cons_of_mem _ hd)) hd

/-- the invariant of the accumulator: every entry has a height, and every (id, height) in it is backed
by a piece of evidence of the list -/
def Backed (preFix : Bool) (env : Env) (be : List (Option DSE)) (acc : List DS) : Prop :=
  ∀ d ∈ acc, d.heights ≠ [] ∧ ∀ h ∈ d.heights, env.alreadySlashed d.id h = false ∧ ∃ x ∈ be, Equivocation preFix env x d.id h

theorem Backed.equivocation {acc : List DS} (hb : Backed preFix env be acc) {d : DS} (hd : d ∈ acc) :
    ∃ x ∈ be, ∃ h, Equivocation preFix env x d.id h := by
  obtain ⟨hne, hback⟩ := hb d hd
  obtain ⟨h0, hh0⟩ := List.exists_mem_of_ne_nil _ hne
  obtain ⟨-, x, hx, hex⟩ := hback h0 hh0
  exact ⟨x, hx, h0, hex⟩

theorem addSigners_backed {x : Option DSE} (hx : x ∈ be) {h : UInt64}
    (ks : List KeyId) (hks : ∀ k ∈ ks, Equivocation preFix env x k h) (acc : List DS) (hacc : Backed preFix env be acc) :
    Backed preFix env be (addSigners env h ks acc) := by
  induction ks generalizing acc with
  | nil => exact hacc
  | cons k ks ih =>
    rw [addSigners]
    apply ih (fun k' hk' => hks k' (List.mem_cons_of_mem _ hk'))
    split
    · exact hacc
    · rename_i hns
      have new : env.alreadySlashed k h = false ∧ ∃ x ∈ be, Equivocation preFix env x k h :=
        ⟨(Bool.not_eq_true _).mp hns, x, hx, hks k List.mem_cons_self⟩
      refine addSigner_forall ⟨List.cons_ne_nil _ _, fun h' hh' => List.mem_singleton.mp hh' ▸ new⟩ ?_ hacc
      -- an entry of `k` that gains `h`: its old heights were backed, the added one is `new`
      rintro d rfl ⟨-, hd⟩
      refine ⟨List.ne_nil_of_mem (mem_addHeight.mpr (.inr rfl)), fun h' hh' => ?_⟩
      rcases mem_addHeight.mp hh' with hh' | rfl
      · exact hd h' hh'
      · exact new

theorem processDSEFrom_backed (xs : List (Option DSE)) (hsub : ∀ x ∈ xs, x ∈ be)
    (acc : List DS) (hacc : Backed preFix env be acc) {res : List DS} (h : processDSEFrom preFix env xs acc = .ok res) :
    Backed preFix env be res := by
  induction xs generalizing acc with
  | nil =>
    cases h
    exact hacc
  | cons x xs ih =>
    simp only [processDSEFrom] at h
    split at h; · contradiction
    rename_i hh ks hone
    exact ih (fun y hy => hsub y (List.mem_cons_of_mem _ hy)) _
      (addSigners_backed (hsub x List.mem_cons_self) ks (processOne_sound hone) acc hacc) h

/-- **ProcessDSE**: every (id, height) it returns is backed by an equivocation proved by one of its inputs -/
theorem processDSE_backed {res : List DS} (h : processDSEWith preFix env be = .ok res) : Backed preFix env be res :=
  processDSEFrom_backed be (fun _ hx => hx) [] (fun _ hd => nomatch hd) h

theorem processDSEFrom_error (xs : List (Option DSE)) (acc : List DS) {x : Option DSE} (hx : x ∈ xs)
    {e : String} (he : processOneWith preFix env x = .error e) : ∃ e', processDSEFrom preFix env xs acc = .error e' := by
  induction xs generalizing acc with
  | nil => cases hx
  | cons y ys ih =>
    simp only [processDSEFrom]
    rcases List.mem_cons.mp hx with rfl | hx
    · rw [he]; exact ⟨e, rfl⟩
    · split
      · rename_i e' _; exact ⟨e', rfl⟩
      · exact ih _ hx

theorem justified_spec {localDS : List DS} {ds : DS} (h : justified localDS ds = true) :
    ∃ s ∈ localDS, s.id = ds.id ∧ ∀ h ∈ ds.heights, h ∈ s.heights := by
  simpa only [justified, List.any_eq_true, Bool.and_eq_true, beq_iff_eq, List.all_eq_true, List.contains_iff_mem] using h

theorem validateList_justified {localDS : List DS} {l : List (Option DS)} (h : validateList localDS l = none) :
    ∀ ds, some ds ∈ l → justified localDS ds = true := by
  induction l with
  | nil => intro ds hds; cases hds
  | cons o l ih =>
    cases o with
    | none => cases h
    | some d =>
      rw [validateList, ite_some_eq_none, Bool.not_eq_true', Bool.not_eq_false] at h
      intro ds hds
      rcases List.mem_cons.mp hds with e | hds
      · cases e; exact h.1
      · exact ih h.2 ds hds

/-- a non-empty slash list is accepted only when `ProcessDSE` succeeds on the attached evidence and justifies every entry -/
theorem validate_none {slash : List (Option DS)} (hne : slash ≠ [])
    (hacc : validateByzantineEvidenceWith preFix env (some slash) be = none) :
    ∃ localDS, processDSEWith preFix env be = .ok localDS ∧ validateList localDS slash = none := by
  unfold validateByzantineEvidenceWith at hacc
  simp only at hacc
  rw [if_neg (by rwa [beq_iff_eq, List.length_eq_zero_iff])] at hacc
  split at hacc
  · contradiction
  · exact ⟨_, ‹_›, hacc⟩

/-- **ValidateByzantineEvidence**: every listed validator, and every height it is listed for, is backed by an
equivocation proved by the attached evidence -/
theorem validate_sound {slash : List (Option DS)} (hacc : validateByzantineEvidenceWith preFix env (some slash) be = none)
    {ds : DS} (hds : some ds ∈ slash) :
    (∃ x ∈ be, ∃ h, Equivocation preFix env x ds.id h) ∧
    (∀ h ∈ ds.heights, ∃ x ∈ be, Equivocation preFix env x ds.id h) := by
  obtain ⟨localDS, hproc, hlist⟩ := validate_none (List.ne_nil_of_mem hds) hacc
  have hb := processDSE_backed hproc
  obtain ⟨s, hs, hid, hh⟩ := justified_spec (validateList_justified hlist ds hds)
  exact ⟨hid ▸ hb.equivocation hs, fun h hmem =>
    let ⟨_, x, hx, hex⟩ := (hb s hs).2 h (hh h hmem); ⟨x, hx, hid ▸ hex⟩⟩

/-- **AddDSE**: evidence is only added to a pool when it proves somebody's equivocation -/
theorem addDSE_sound {dup : Bool} {x : Option DSE} (h : addDSEWith preFix env dup x = .added) :
    ∃ k hh, Equivocation preFix env (x.map strip) k hh := by
  unfold addDSEWith at h
  rcases hcb : checkBasic x with _ | e
  case some => rw [hcb] at h; cases h
  rcases hbad : processDSEWith preFix env [x.map strip] with e | bad
  · rw [hcb, hbad] at h; cases h
  -- an empty result is refused, so somebody is named, and that name is backed by the one piece of evidence
  rcases bad with _ | ⟨d, _⟩
  · rw [hcb, hbad] at h; cases h
  obtain ⟨y, hy, h0, hex⟩ := (processDSE_backed hbad).equivocation (d := d) List.mem_cons_self
  cases List.mem_singleton.mp hy
  exact ⟨d.id, h0, hex⟩

end DoubleSign

/-- the stateless check of a certificate-results message: `CheckBasic` passed, results are attached, and under
the phase rule the certificate is not an ELECTION_VOTE one -/
theorem certResultsCheck_none {phaseRule : Bool} {g : Nat} {q : QC} (h : certResultsCheck phaseRule g q = none) :
    Gate.checkBasic q g = none ∧ ∃ res hd, q.results = some res ∧ q.header = some hd ∧
      (phaseRule = true → hd.phase ≠ phaseElectionVote) := by
  unfold certResultsCheck at h
  rcases hcb : Gate.checkBasic q g with _ | c
  case some => rw [hcb] at h; cases h
  rcases hres : q.results with _ | res
  · simp only [hcb, hres, Option.isNone_none, ↓reduceIte, reduceCtorEq] at h
  rcases hhd : q.header with _ | hd
  · simp only [hcb, hhd, ite_some_eq_none, reduceCtorEq, and_false] at h
  simp only [hcb, hhd, ite_some_eq_none, Bool.and_eq_true, beq_iff_eq, not_and, and_true] at h
  exact ⟨rfl, res, hd, rfl, rfl, h.2.2⟩

/-- everything an accepted certificate-results transaction establishes (the repaired check) -/
structure CertifiedResults (env : Env) (q : QC) : Prop where
  ex : ∃ hd ms sig res,
    q.header = some hd ∧ hd.phase ≠ phaseElectionVote ∧
    env.committeeAt hd.rootHeight = some ms ∧ q.signature = some sig ∧
    q.results = some res ∧ q.resultsHash = some res.hash ∧
    -- the aggregate is exactly the selected members' signatures over a payload that contains this results hash
    aggVerifies sig (ms.map (·.key)) ((selected sig.bitmap ms).map (·.key)) (payloadOf q hd) = true ∧
    (payloadOf q hd).resultsHash = res.hash ∧
    -- and the selected members reach +2/3 of the committee in force at the certificate's root height
    ¬ signedPower sig.bitmap ms < Gen.Committee.minPowerFor23Maj (totalPower ms)

theorem certificateResults_certified {env : Env} {P : Params} {addrOf : KeyId → Option Addr} {L : Ledger}
    {cd : CommitteeData} {q : QC} {sp : Bool} {slash : Option (List (Option DS))} {r : Ledger × CommitteeData}
    (h : certificateResultsWith true env P addrOf L cd q sp slash = .ok r) : CertifiedResults env q ∧ sp = true := by
  unfold certificateResultsWith at h
  rcases hchk : certResultsCheck true env.globalMaxBlockSize q with _ | e
  case some => rw [hchk] at h; cases h
  obtain ⟨hcb, res, hd, hres, hhd, hph⟩ := certResultsCheck_none hchk
  simp only [hchk, hhd, ite_error_eq_ok, Bool.not_eq_true', Bool.not_eq_false] at h
  obtain ⟨hsp, h⟩ := h
  rcases hms : env.committeeAt hd.rootHeight with _ | ms
  · rw [hms] at h; cases h
  rcases hq : qcCheck { env with chainId := hd.chainId } q ms with e | p
  · simp only [hms, hq, reduceCtorEq] at h
  -- a partial certificate (`isPartial = true`) is refused: the signers hold +2/3
  obtain ⟨sig, v, hp⟩ := qcCheck_ok hhd hq
  cases p
  case true => simp only [hms, hq, reduceCtorEq] at h
  have hrh := checkBasic_resultsHash hcb hres
  have hv := v.verifies
  rw [signPayload_covers_results q hd (hph rfl)] at hv
  exact ⟨⟨hd, ms, sig, res, hhd, hph rfl, hms, v.signature, hres, hrh, hv, congrArg (·.getD []) hrh,
    of_decide_eq_false hp.symm⟩, hsp⟩

theorem minEvidenceHeight_le (x ub : UInt64) : Gen.Evidence.minEvidenceHeight x ub ≤ x := by
  unfold Gen.Evidence.minEvidenceHeight
  split
  · exact UInt64.zero_le
  · rename_i hlt
    exact UInt64.sub_le (UInt64.not_lt.mp fun h => hlt (decide_eq_true h))

/-- asked as of a height the root chain has reached, `TimeMachine` does not clamp -/
theorem wiredMinEvidence_of_le {cur ub r : UInt64} (h0 : r ≠ 0) (hle : r ≤ cur) :
    wiredMinEvidence cur ub r = Gen.Evidence.minEvidenceHeight r ub := by
  have hz : (r == 0) = false := beq_eq_false_iff_ne.mpr h0
  have hgt : decide (r > cur) = false := decide_eq_false (UInt64.not_lt.mpr hle)
  rw [wiredMinEvidence, hz, hgt]
  rfl

end Canopy.Evidence
