import Canopy.Proof.LedgerSlashInv
import Canopy.Proof.LedgerC04b
/-! C12: `InvStaking` under `ConformStateToParamUpdate` (minimum stake raised → forced unstake; MaxCommittees lowered →
committee trimming) and hence under `HandleMessageChangeParameter`. -/
namespace Canopy.Ledger
open AMap

/-- forced unstake of one validator below the (new) minimum -/
theorem conformMinStakeStep_inv {L : Ledger} (a : Addr) (hs : InvStaking L) (hh : HeightsOK L) :
    InvStaking (conformMinStakeStep L a) ∧ SameBlock L (conformMinStakeStep L a) := by
  unfold conformMinStakeStep
  split
  · next val hv =>
    rcases setUnstakingIfBelowMinimum_cases L a val with e | ⟨f, hf, hu0, e⟩
    · rw [e]; exact ⟨hs, SameBlock.refl L⟩
    · rw [e]; exact ⟨setValidatorUnstaking_inv hs hv hu0 (hh.ne_zero hf), (setValidatorUnstaking_ctx ..).block⟩
  · exact ⟨hs, SameBlock.refl L⟩

/-- trimming one validator's committee list -/
theorem conformTrimStep_inv {acc acc' : Ledger × Nat} {a : Addr} (hs : InvStaking acc.1) (h : conformTrimStep acc a = .ok acc') :
    InvStaking acc'.1 ∧ SameBlock acc.1 acc'.1 := by
  rcases conformTrimStep_cases h with e | ⟨val, cs, L1, hv, _, _, r, e⟩
  · rw [e]; exact ⟨hs, SameBlock.refl _⟩
  · rw [e]; exact ⟨hs.put r hv rfl rfl, r.env.height, r.env.params, r.env.cfg⟩

/-- `ConformStateToParamUpdate` keeps `InvStaking` -/
theorem conformStateToParamUpdate_inv {L L' : Ledger} {prev : Params} (hs : InvStaking L) (hh : HeightsOK L)
    (h : conformStateToParamUpdate L prev = .ok L') : InvStaking L' :=
  (conformStateToParamUpdate_keeps (fun s => InvStaking s ∧ SameBlock L s)
    (fun _ a ⟨i, b⟩ => have ⟨i', b'⟩ := conformMinStakeStep_inv a i (hh.of_block b); ⟨i', b.trans b'⟩)
    (fun _ _ _ ⟨i, b⟩ h => have ⟨i', b'⟩ := conformTrimStep_inv i h; ⟨i', b.trans b'⟩) h ⟨hs, SameBlock.refl L⟩).1

/-- `HandleMessageChangeParameter` keeps `InvStaking`; the deferred-action heights are taken under the NEW parameters -/
theorem handleChangeParameter_inv {L L' : Ledger} {space key : String} {v s e : Nat} (hs : InvStaking L)
    (hh : ∀ p, L.params.setUint space key v = .ok p → HeightsOK { L with params := p })
    (h : handleChangeParameter L space key v s e = .ok L') : InvStaking L' := by
  obtain ⟨p, hp, h⟩ := handleChangeParameter_run h
  exact conformStateToParamUpdate_inv (L := { L with params := p }) (hs.of_same rfl rfl rfl rfl rfl rfl rfl) (hh p hp) h

end Canopy.Ledger
