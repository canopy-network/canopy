import Canopy.Model.Bytes
import Canopy.Proof.Digits
/-! The length-prefixed key codec (M-key: `joinLenPrefix`, `decodeLenPrefixed`) on segments of at most 255 bytes:
decoding inverts joining (`decode_join`), so joining is injective (`join_injective`) and a byte prefix between
encodings is a segment prefix (`join_prefix`); the big-endian `formatUint64` is injective. Core Lean only. -/
namespace Canopy

/-- every segment fits its one-byte length prefix -/
def SegsOK (segs : List Bytes) : Prop := ∀ s ∈ segs, s.length ≤ 255

theorem segsOK_nil : SegsOK [] := fun _ h => nomatch h

theorem segsOK_cons {s : Bytes} {rest : List Bytes} :
    SegsOK (s :: rest) ↔ s.length ≤ 255 ∧ SegsOK rest := List.forall_mem_cons

theorem ofNat_toNat_of_le {n : Nat} (h : n ≤ 255) : (UInt8.ofNat n).toNat = n :=
  UInt8.toNat_ofNat_of_lt' (Nat.lt_succ_of_le h)

theorem decode_join : ∀ (segs : List Bytes), SegsOK segs →
    decodeLenPrefixed (joinLenPrefix segs) = some segs
  | [], _ => by rw [joinLenPrefix, decodeLenPrefixed]
  | s :: rest, h => by
    obtain ⟨hs, hr⟩ := segsOK_cons.mp h
    rw [joinLenPrefix, decodeLenPrefixed]
    simp only [ofNat_toNat_of_le hs, List.length_append, Nat.le_add_right, ↓reduceDIte,
      List.drop_left, List.take_left, decode_join rest hr]

theorem join_injective (a b : List Bytes) (ha : SegsOK a) (hb : SegsOK b)
    (h : joinLenPrefix a = joinLenPrefix b) : a = b := by
  have h1 := decode_join a ha
  rw [h, decode_join b hb] at h1
  exact (Option.some.inj h1).symm

theorem join_append (a b : List Bytes) :
    joinLenPrefix (a ++ b) = joinLenPrefix a ++ joinLenPrefix b := by
  induction a with
  | nil => simp [joinLenPrefix]
  | cons s rest ih => simp [joinLenPrefix, ih]

/-- what makes a prefix scan over `joinLenPrefix p` return exactly the keys whose leading segments are `p` -/
theorem join_prefix : ∀ (a b : List Bytes), SegsOK a → SegsOK b →
    joinLenPrefix a <+: joinLenPrefix b → a <+: b
  | [], _, _, _, _ => List.nil_prefix
  | _ :: _, [], _, _, h => by simp [joinLenPrefix] at h
  | s :: a, t :: b, ha, hb, h => by
    obtain ⟨hs, ha⟩ := segsOK_cons.mp ha
    obtain ⟨ht, hb⟩ := segsOK_cons.mp hb
    simp only [joinLenPrefix, List.cons_prefix_cons] at h
    obtain ⟨hlen, z, hz⟩ := h
    -- the length bytes agree, so the leading segments have the same length and split off alike
    have hl : s.length = t.length := by
      rw [← ofNat_toNat_of_le hs, hlen, ofNat_toNat_of_le ht]
    rw [List.append_assoc] at hz
    obtain ⟨hst, hz⟩ := List.append_inj hz hl
    exact List.cons_prefix_cons.mpr ⟨hst, join_prefix a b ha hb ⟨z, hz⟩⟩

/-- keys whose first segments differ never collide and neither lies in the other's prefix range -/
theorem join_first_seg_disjoint (p q : Bytes) (a b : List Bytes)
    (ha : SegsOK (p :: a)) (hb : SegsOK (q :: b)) (hpq : p ≠ q) :
    ¬ joinLenPrefix (p :: a) <+: joinLenPrefix (q :: b) :=
  fun h => hpq (List.cons_prefix_cons.mp (join_prefix _ _ ha hb h)).1

theorem formatUint64_length (u : UInt64) : (formatUint64 u).length = 8 := rfl

theorem toNat_shiftRight_toUInt8 (u : UInt64) (j : Nat) (hj : j < 8) :
    (u >>> UInt64.ofNat (8 * j)).toUInt8.toNat = u.toNat / 256 ^ j % 256 := by
  have h64 : 8 * j < 64 := by omega
  rw [UInt64.toNat_toUInt8, UInt64.toNat_shiftRight,
    UInt64.toNat_ofNat_of_lt' (Nat.lt_trans h64 (by decide)), Nat.mod_eq_of_lt h64,
    Nat.shiftRight_eq_div_pow, Nat.pow_mul]

theorem formatUint64_injective {u v : UInt64} (h : formatUint64 u = formatUint64 v) : u = v := by
  -- the eight bytes are the base-256 digits of `toNat`, most significant first
  have h : [7, 6, 5, 4, 3, 2, 1, 0].map (fun j => (u >>> UInt64.ofNat (8 * j)).toUInt8) =
      [7, 6, 5, 4, 3, 2, 1, 0].map (fun j => (v >>> UInt64.ofNat (8 * j)).toUInt8) := h
  have hmem : ∀ j < 8, j ∈ [7, 6, 5, 4, 3, 2, 1, 0] := by decide
  apply UInt64.toNat_inj.mp
  refine eq_of_digits (b := 256) (n := 8) u.toNat_lt v.toNat_lt fun j hj => ?_
  rw [← toNat_shiftRight_toUInt8 u j hj, ← toNat_shiftRight_toUInt8 v j hj, List.map_inj_left.mp h j (hmem j hj)]

end Canopy
