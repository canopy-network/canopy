import Canopy.Proof.LedgerC04b
/-! C04: reward distribution at end of block. The committee pool is paid out to the recipients recorded by the
certificate results and the undistributed remainder is burned (`SubFromTotalSupply`). The code computes the
remainder with an unguarded subtraction; it is exact because the recorded percents never exceed
`100 × numberOfSamples` (`PercentsOK`, established by `handleCertificateResults` from the per-certificate limit). -/
namespace Canopy.Ledger
open AMap

def percentSum (ps : List (Addr × Nat)) : Nat := (ps.map (·.2)).sum

/-- the full reward of a stub, before truncation to 64 bits -/
def fullOf (p pool samples : Nat) : Nat := if samples ≠ 0 then p * pool / (samples * 100) else 0

def fullSum (ps : List (Addr × Nat)) (pool samples : Nat) : Nat := (ps.map fun e => fullOf e.2 pool samples).sum

theorem fullSum_le (ps : List (Addr × Nat)) (pool samples : Nat) :
    fullSum ps pool samples ≤ fullOf (percentSum ps) pool samples := by
  by_cases hs : samples = 0
  · have : ∀ qs : List (Addr × Nat), fullSum qs pool samples = 0 := by
      intro qs
      induction qs with
      | nil => rfl
      | cons e t ih => simp only [fullSum, List.map_cons, List.sum_cons] at ih ⊢; rw [ih]; simp [fullOf, hs]
    rw [this]; exact Nat.zero_le _
  · induction ps with
    | nil => simp [fullSum, percentSum]
    | cons e t ih =>
      simp only [fullSum, percentSum, List.map_cons, List.sum_cons] at ih ⊢
      unfold fullOf at ih ⊢
      simp only [ne_eq, hs, not_false_eq_true, if_true] at ih ⊢
      have := Nat.div_add_div_le_add_div (x := e.2 * pool) (y := (t.map (·.2)).sum * pool) (z := samples * 100)
      rw [← Nat.add_mul] at this
      omega

theorem fullOf_le_pool {S pool samples : Nat} (h : S ≤ 100 * samples) : fullOf S pool samples ≤ pool := by
  unfold fullOf
  split
  · apply Nat.div_le_of_le_mul
    calc S * pool ≤ (100 * samples) * pool := Nat.mul_le_mul_right pool h
      _ = samples * 100 * pool := by rw [Nat.mul_comm 100 samples]
  · omega

theorem rewardAmounts_le (L : Ledger) (p pool samples : Nat) :
    (rewardAmounts L p pool samples).1 ≤ fullOf p pool samples ∧ (rewardAmounts L p pool samples).2 ≤ (rewardAmounts L p pool samples).1 := by
  unfold rewardAmounts fullOf
  dsimp only
  refine ⟨?_, ?_⟩
  · split
    · exact Nat.mod_le _ _
    · omega
  · -- the early-withdrawal penalty is taken off by the formula of `stakeAfterSlash`
    exact stakeAfterSlash_le _ L.params.earlyWithdrawalPenalty

/-- the ways a reward is paid: the reduced amount to an account, or the full amount compounded into the validator's
own stake -/
theorem distributeReward_cases {L L1 : Ledger} {a : Addr} {p pool samples d : Nat}
    (h : distributeReward L a p pool samples = .ok (d, L1)) :
    (∃ b, d = (rewardAmounts L p pool samples).2 ∧ accountAdd L b d = .ok L1) ∨
    ∃ val, valGet? L a = some val ∧ d = (rewardAmounts L p pool samples).1 ∧
      updateValidatorStake L a val val.committees d = .ok L1 := by
  unfold distributeReward at h
  dsimp only at h
  split at h
  · split at h
    · cases h
    · next L' h1 => cases h; exact Or.inl ⟨_, rfl, h1⟩
  · next val hv =>
    split at h
    · split at h
      · cases h
      · next L' h1 => cases h; exact Or.inr ⟨val, hv, rfl, h1⟩
    · split at h
      · cases h
      · next L' h1 => cases h; exact Or.inl ⟨_, rfl, h1⟩

/-- one reward: the real sum grows by what was distributed, which is at most the stub's full reward; pools and
the recorded total are untouched -/
theorem distributeReward_ok {L L1 : Ledger} {a : Addr} {p pool samples d : Nat}
    (hw : ∀ val, valGet? L a = some val → val.stake + fullOf p pool samples < U64)
    (h : distributeReward L a p pool samples = .ok (d, L1)) :
    d ≤ fullOf p pool samples ∧ L1.supply.total = L.supply.total ∧ L1.pools = L.pools ∧ bal L1 = bal L + d := by
  have hr := rewardAmounts_le L p pool samples
  rcases distributeReward_cases h with ⟨b, rfl, h1⟩ | ⟨val, hv, rfl, h1⟩
  · have hb := (accountAdd_bal h1).2
    obtain ⟨acc, vs, rfl, _⟩ := accountAdd_ok h1
    exact ⟨by omega, rfl, rfl, hb⟩
  · have hw' := hw val hv
    obtain ⟨t, hp, b⟩ := updateValidatorStake_bal hv rfl (by omega) h1
    exact ⟨hr.1, t, hp, b⟩

/-- the same under the bound the stubs loop carries (`rest` stands for the full rewards still to come): the bound
holds again afterwards, and it is what keeps a compounding stake below `2^64` -/
theorem distributeReward_step {L L2 : Ledger} {a : Addr} {chain p pool samples d rest : Nat} (hp : poolGet L chain = pool)
    (hb : bal L + (fullOf p pool samples + rest) < U64 + pool) (h : distributeReward L a p pool samples = .ok (d, L2)) :
    (∀ val, valGet? L a = some val → val.stake + fullOf p pool samples < U64) ∧ d ≤ fullOf p pool samples ∧
    L2.supply.total = L.supply.total ∧ poolGet L2 chain = pool ∧ bal L2 = bal L + d ∧ bal L2 + rest < U64 + pool := by
  have hw : ∀ val, valGet? L a = some val → val.stake + fullOf p pool samples < U64 := by
    intro val hv
    have h1 := stake_le L a val hv
    have h2 := poolGet_le L chain
    unfold bal at hb; omega
  obtain ⟨hd, ht, hpools, hbal⟩ := distributeReward_ok hw h
  exact ⟨hw, hd, ht, by unfold poolGet at hp ⊢; rw [hpools]; exact hp, hbal, by omega⟩

/-- a successful round of the stubs loop paid the head stub and went on with the new total -/
theorem distributeStubs_cons_ok {L : Ledger} {a : Addr} {p pool samples tot : Nat} {rest : List (Addr × Nat)} {r : Nat × Ledger}
    (h : distributeStubs L pool samples ((a, p) :: rest) tot = .ok r) :
    ∃ d L2, distributeReward L a p pool samples = .ok (d, L2) ∧ distributeStubs L2 pool samples rest (tot + d) = .ok r := by
  unfold distributeStubs at h
  split at h
  · cases h
  · next d L2 h1 =>
    refine ⟨d, L2, h1, ?_⟩
    split at h
    · exact (ite_error_eq_ok.1 h).2
    · next hd0 => rw [Nat.eq_zero_of_not_pos hd0]; exact h

/-- conversely, a round whose reward is paid and whose new total fits goes on with the rest -/
theorem distributeStubs_cons {L L2 : Ledger} {a : Addr} {p pool samples tot d : Nat} {rest : List (Addr × Nat)}
    (h1 : distributeReward L a p pool samples = .ok (d, L2)) (hle : tot + d ≤ MAXU) :
    distributeStubs L pool samples ((a, p) :: rest) tot = distributeStubs L2 pool samples rest (tot + d) := by
  simp only [distributeStubs, h1]
  split
  · rw [if_neg (by omega)]
  · next hd0 => rw [Nat.eq_zero_of_not_pos hd0]; rfl

/-- the stubs of one committee: loop invariant `bal = bal₀ + tot`, with everything still to come bounded by the pool -/
theorem distributeStubs_ok {chain pool samples : Nat} : ∀ (ps : List (Addr × Nat)) (L L1 : Ledger) (tot tot' : Nat),
    poolGet L chain = pool → bal L + fullSum ps pool samples < U64 + pool →
    distributeStubs L pool samples ps tot = .ok (tot', L1) →
    tot ≤ tot' ∧ tot' ≤ tot + fullSum ps pool samples ∧ L1.supply.total = L.supply.total ∧ poolGet L1 chain = pool ∧
    bal L1 + tot = bal L + tot'
  | [], L, L1, tot, tot', hp, hb, h => by
    simp only [distributeStubs, Except.ok.injEq, Prod.mk.injEq] at h
    obtain ⟨rfl, rfl⟩ := h
    simp [fullSum, hp]
  | (a, p) :: rest, L, L1, tot, tot', hp, hb, h => by
    obtain ⟨d, L2, h1, h2⟩ := distributeStubs_cons_ok h
    simp only [fullSum, List.map_cons, List.sum_cons] at hb ⊢
    obtain ⟨_, hd, ht, hp2, hbal, hb2⟩ := distributeReward_step hp hb h1
    obtain ⟨i1, i2, i3, i4, i5⟩ := distributeStubs_ok rest L2 L1 (tot + d) tot' hp2 hb2 h2
    unfold fullSum at i2
    exact ⟨by omega, by omega, by omega, i4, by omega⟩

/-- the recorded percents of a committee never exceed 100 per sample -/
def PercentsOK (L : Ledger) : Prop := ∀ d ∈ L.committeesData, percentSum d.percents ≤ 100 * d.samples

/-- the unguarded `uint64` subtraction `pool - tot` is exact when at most the pool was distributed -/
theorem sub_mod_U64 {pool tot : Nat} (hle : tot ≤ pool) (hlt : pool < U64) : (pool + U64 - tot) % U64 = pool - tot := by
  have : pool + U64 - tot = (pool - tot) + U64 := by omega
  rw [this, Nat.add_mod_right, Nat.mod_eq_of_lt (by omega)]

/-- the end of one committee's distribution burns exactly `pool - tot` when at most the pool was distributed -/
theorem distributeFinish_burns {L1 L' : Ledger} {d : CommitteeData} {pool tot : Nat}
    (hp : poolGet L1 d.chainId = pool) (hle : tot ≤ pool) (hlt : pool < U64)
    (h : distributeFinish L1 d pool tot = .ok L') :
    L'.supply.total + (pool - tot) = L1.supply.total ∧ bal L' + pool = bal L1 := by
  unfold distributeFinish at h
  rw [sub_mod_U64 hle hlt] at h
  obtain ⟨L2, h2, h⟩ := bind_ok h
  obtain rfl := Except.ok.inj h
  -- `L2` is `L1` with the recorded total lowered
  obtain ⟨hx, e⟩ := subFromTotal_ok.1 h2
  have t2 : L2.supply.total + (pool - tot) = L1.supply.total := by
    rw [e]; show L1.supply.total - _ + _ = _; omega
  have b2 : bal L2 = bal L1 := by rw [e]; rfl
  have hpp := poolSum_poolPut L2 d.chainId 0
  rw [show poolGet L2 d.chainId = pool by rw [e]; exact hp] at hpp
  have s := putCommitteeData_sameBal (poolPut L2 d.chainId 0)
    { chainId := d.chainId, lastRootHeight := d.lastRootHeight, lastChainHeight := d.lastChainHeight }
  refine ⟨by rw [s.total]; exact t2, ?_⟩
  rw [s.bal_eq, ← b2]
  show accSum L2 + poolSum (poolPut L2 d.chainId 0) + stakeSum L2 + pool = accSum L2 + poolSum L2 + stakeSum L2
  omega

/-- one committee: nothing to do, or the stubs loop ran from total 0 and `distributeFinish` followed -/
theorem distributeFor_run {L L' : Ledger} {d : CommitteeData} (h : distributeFor L d = .ok L') :
    L' = L ∨ ∃ tot L1, distributeStubs L (poolGet L d.chainId) d.samples d.percents 0 = .ok (tot, L1) ∧
      distributeFinish L1 d (poolGet L d.chainId) tot = .ok L' := by
  unfold distributeFor at h
  split at h
  · exact Or.inl (Except.ok.inj h).symm
  · split at h
    · cases h
    · next r hds => exact Or.inr ⟨r.1, r.2, hds, h⟩

/-- what the supply invariant and `PercentsOK` give the stubs loop of a committee to start from -/
theorem distributeFor_bound {L : Ledger} {d : CommitteeData} (hi : InvSupply L) (hd : percentSum d.percents ≤ 100 * d.samples) :
    fullSum d.percents (poolGet L d.chainId) d.samples ≤ poolGet L d.chainId ∧ poolGet L d.chainId < U64 ∧
    bal L + fullSum d.percents (poolGet L d.chainId) d.samples < U64 + poolGet L d.chainId := by
  have hfs := Nat.le_trans (fullSum_le d.percents (poolGet L d.chainId) d.samples) (fullOf_le_pool hd)
  have hpl := poolGet_le L d.chainId
  obtain ⟨i1, i2⟩ := hi
  unfold bal at i1 ⊢
  exact ⟨hfs, by omega, by omega⟩

/-- one committee: pays out at most the pool and burns exactly the remainder -/
theorem distributeFor_burns {L L' : Ledger} {d : CommitteeData} (hi : InvSupply L) (hd : percentSum d.percents ≤ 100 * d.samples)
    (h : distributeFor L d = .ok L') : Burns L L' := by
  rcases distributeFor_run h with rfl | ⟨tot, L1, hds, hf⟩
  · exact Burns.refl _
  · obtain ⟨hfs, hlt, hbb⟩ := distributeFor_bound hi hd
    obtain ⟨_, htot, ht, hp, hb⟩ := distributeStubs_ok (chain := d.chainId) d.percents L L1 0 tot rfl hbb hds
    obtain ⟨f1, f2⟩ := distributeFinish_burns hp (by omega) hlt hf
    exact ⟨poolGet L d.chainId - tot, by omega, by omega⟩

theorem distributeReward_committeesData {L L1 : Ledger} {a : Addr} {p pool samples d : Nat}
    (h : distributeReward L a p pool samples = .ok (d, L1)) : L1.committeesData = L.committeesData := by
  rcases distributeReward_cases h with ⟨b, _, h1⟩ | ⟨val, _, _, h1⟩
  · obtain ⟨acc, vs, rfl, _⟩ := accountAdd_ok h1; rfl
  · exact (updateValidatorStake_frame h1).2.committeesData

theorem distributeStubs_committeesData {pool samples : Nat} : ∀ (ps : List (Addr × Nat)) (L L1 : Ledger) (tot tot' : Nat),
    distributeStubs L pool samples ps tot = .ok (tot', L1) → L1.committeesData = L.committeesData
  | [], L, L1, tot, tot', h => by
    simp only [distributeStubs, Except.ok.injEq, Prod.mk.injEq] at h
    obtain ⟨_, rfl⟩ := h; rfl
  | (a, p) :: rest, L, L1, tot, tot', h => by
    obtain ⟨d, L2, h1, h2⟩ := distributeStubs_cons_ok h
    exact (distributeStubs_committeesData rest L2 L1 _ tot' h2).trans (distributeReward_committeesData h1)

theorem putCommitteeData_percents {L : Ledger} {d : CommitteeData} (hp : PercentsOK L) (hd : percentSum d.percents ≤ 100 * d.samples) :
    PercentsOK (putCommitteeData L d) := by
  unfold putCommitteeData
  split
  · intro e he
    simp only [List.mem_map] at he
    obtain ⟨e0, he0, rfl⟩ := he
    split
    · exact hd
    · exact hp e0 he0
  · intro e he
    simp only [List.mem_append, List.mem_singleton] at he
    rcases he with he | rfl
    · exact hp e he
    · exact hd

/-- one committee's distribution keeps `PercentsOK`: the record it writes has no percents left -/
theorem distributeFor_percents {L L' : Ledger} {d : CommitteeData} (hp : PercentsOK L) (h : distributeFor L d = .ok L') :
    PercentsOK L' := by
  rcases distributeFor_run h with rfl | ⟨tot, L1, hds, hf⟩
  · exact hp
  · have hcd := distributeStubs_committeesData d.percents L L1 0 tot hds
    unfold distributeFinish at hf
    obtain ⟨L2, h2, hf⟩ := bind_ok hf
    obtain rfl := Except.ok.inj hf
    obtain ⟨_, rfl⟩ := subFromTotal_ok.1 h2
    exact putCommitteeData_percents (fun e he => hp e (hcd ▸ he)) (Nat.zero_le _)

/-- `DistributeCommitteeRewards`: pays at most the pools and burns the remainders; afterwards `PercentsOK` still holds.
The list of committees is read once, before the loop, so its bounds are those of the start -/
theorem distributeCommitteeRewards_burns {L L' : Ledger} (hi : InvSupply L) (hp : PercentsOK L)
    (h : distributeCommitteeRewards L = .ok L') : Burns L L' ∧ PercentsOK L' := by
  unfold distributeCommitteeRewards at h
  exact foldlM_keeps (fun B => Burns L B ∧ PercentsOK B) L.committeesData
    (fun d hd A B ⟨b, p⟩ h1 => ⟨b.trans (distributeFor_burns (b.inv hi) (hp d hd) h1), distributeFor_percents p h1⟩)
    L L' ⟨Burns.refl L, hp⟩ h

end Canopy.Ledger
