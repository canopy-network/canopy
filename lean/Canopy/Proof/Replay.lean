import Canopy.Model.Replay
import Canopy.Proof.Guards
/-! C06: what each stage of `checkTx` establishes and what acceptance therefore entails
(`AcceptedFacts`); which execution step writes an account nonce; the replay clause (`NoReplay`) and the
lemma behind its positive direction (`same_bytes_of_same_signed`). Core Lean only. -/
namespace Canopy.Replay
open Canopy Canopy.Proto

theorem checkBasic_ok {t : TxContent} {a : AnyC} {g : SigC} (h : checkBasic t = .ok (a, g)) :
    t.msg = some a ∧ t.signature = some g ∧ t.createdHeight ≠ 0 := by
  unfold checkBasic at h
  cases hm : t.msg with
  | none =>
    rw [hm] at h
    cases h
  | some a' =>
    cases hs : t.signature with
    | none => simp only [hm, hs, ite_error_eq_ok, reduceCtorEq, and_false] at h
    | some g' =>
      simp only [hm, hs, ite_error_eq_ok, Except.ok.injEq, Prod.mk.injEq] at h
      obtain ⟨-, -, hh, -, -, -, -, rfl, rfl⟩ := h
      exact ⟨rfl, rfl, by simpa using hh⟩

theorem inWindow_iff (h c : Nat) :
    inWindow h c = true ↔ c ≤ h + blockAcceptanceRange ∧ h ≤ c + blockAcceptanceRange := by
  unfold inWindow
  simp only [blockAcceptanceRange]
  by_cases hh : h > 4320 <;> simp [hh] <;> omega

theorem checkReplay_ok {e : Env} {c : Chain} {w : Bool} {raw : Bytes} {t : TxContent} {g : SigC}
    (h : checkReplay e c w raw t g = .ok ()) :
    c.networkId = t.networkId ∧ c.chainId = t.chainId ∧
      (2 ≤ c.height → (w = true → txId raw ∉ c.index) ∧
        (t.memo ≠ rlpV2Memo → inWindow c.height t.createdHeight = true)) := by
  unfold checkReplay at h
  simp only [ite_error_eq_ok, bne_iff_ne, ne_eq, Decidable.not_not] at h
  obtain ⟨h1, h2, h⟩ := h
  refine ⟨h1, h2, fun hh => ?_⟩
  rw [if_neg (by omega)] at h
  constructor
  · intro hw hi
    simp [hw, hi] at h
  · intro hm
    split at h
    · cases h
    · have hm' : (t.memo == rlpV2Memo) = false := by simpa using hm
      rw [hm'] at h
      simpa using h

/-- `checkReplay` reads the bytes and the index through the lookup of the hash only (the Ethereum-hash
alias of an RLP-wrapped transaction apart) -/
theorem checkReplay_congr (e : Env) (c : Chain) (i : List Bytes) (w : Bool) (raw raw' : Bytes) (t : TxContent)
    (g : SigC) (hm : isRlpMemo t.memo = false) (hi : i.contains (txId raw') = c.index.contains (txId raw)) :
    checkReplay e { c with index := i } w raw' t g = checkReplay e c w raw t g := by
  unfold checkReplay
  simp only [hm, hi, Bool.false_and, Bool.false_eq_true, if_false]

theorem checkSignature_ok {e : Env} {strict pad : Bool} {t : TxContent} {g : SigC} {auth sender : Bytes}
    (hm : isRlpMemo t.memo = false) (h : checkSignature e strict pad t g auth = .ok sender) :
    ∃ sch k, pkDecode g.publicKey = some (sch, k) ∧ (strict = true → k = g.publicKey) ∧
      e.verifies k (signBytes t) g.signature = true ∧ e.address k = some auth ∧ sender = auth ∧
      (pad = true → sch = .multi → multiPadOk g.publicKey = true) := by
  obtain ⟨hm2, hm1⟩ : (t.memo == rlpMemo) = false ∧ (t.memo == rlpV2Memo) = false := by
    simpa only [isRlpMemo, Bool.or_eq_false_iff] using hm
  unfold checkSignature at h
  cases hk : pkDecode g.publicKey with
  | none => simp only [hk, reduceCtorEq] at h
  | some p =>
    obtain ⟨sch, k⟩ := p
    simp only [hk, hm1, hm2, Bool.false_and, Bool.or_self, Bool.false_eq_true, if_false, ite_error_eq_ok] at h
    obtain ⟨-, hpad, hst, h⟩ := h
    cases hv : e.verifies k (signBytes t) g.signature with
    | false => simp only [hv, Bool.false_eq_true, if_false, reduceCtorEq] at h
    | true =>
      cases ha : e.address k with
      | none => simp only [hv, ha, if_true, reduceCtorEq] at h
      | some a =>
        simp only [hv, ha, if_true] at h
        by_cases haa : (a == auth) = true
        · rw [if_pos haa, Except.ok.injEq] at h
          have : a = auth := by simpa using haa
          subst h this
          refine ⟨sch, k, rfl, ?_, hv, ha, rfl, ?_⟩
          · intro hs
            simpa [hs] using hst
          · intro hp hs
            simpa [hp, hs] using hpad
        · rw [if_neg haa] at h
          cases h

/-- everything `checkTx e c true raw = .ok _` establishes -/
structure AcceptedFacts (e : Env) (c : Chain) (raw : Bytes) (t : TxContent) (a : AnyC) (g : SigC)
    (s : SendC) (sender : Bytes) : Prop where
  dec : decodeTx raw = some t
  canonical : c.strictTx = true → raw = canon t
  basic : checkBasic t = .ok (a, g)
  replay : checkReplay e c true raw t g = .ok ()
  legacy : ¬ (t.memo = rlpMemo ∧ c.legacyRlpDisabled = true)
  send : checkSend a = .ok s
  fee : c.minFee ≤ t.fee
  sig : checkSignature e c.strictKey c.strictPad t g s.fromAddr = .ok sender
  nonce : t.memo = rlpV2Memo → (c.account sender).nonce ≤ t.nonce ∧ t.nonce ≠ maxUint64

theorem accepted_inv {e : Env} {c : Chain} {raw : Bytes} (h : accepted e c raw = true) :
    ∃ t a g s sender, AcceptedFacts e c raw t a g s sender := by
  unfold accepted at h
  cases hk : checkTx e c true raw with
  | error r =>
    rw [hk] at h
    cases h
  | ok k =>
    clear h
    unfold checkTx at hk
    cases ht : decodeTx raw with
    | none =>
      rw [ht] at hk
      cases hk
    | some t =>
      simp only [ht, ite_error_eq_ok] at hk
      obtain ⟨hcan, hk⟩ := hk
      cases hb : checkBasic t with
      | error r =>
        rw [hb] at hk
        cases hk
      | ok p =>
        obtain ⟨a, g⟩ := p
        cases hr : checkReplay e c true raw t g with
        | error r => simp only [hb, hr, reduceCtorEq] at hk
        | ok u =>
          simp only [hb, hr, ite_error_eq_ok] at hk
          obtain ⟨hleg, hk⟩ := hk
          cases hs : checkSend a with
          | error r => simp only [hs, reduceCtorEq] at hk
          | ok s =>
            simp only [hs, ite_error_eq_ok] at hk
            obtain ⟨hfee, hk⟩ := hk
            cases hsig : checkSignature e c.strictKey c.strictPad t g s.fromAddr with
            | error r => simp only [hsig, reduceCtorEq] at hk
            | ok sender =>
              simp only [hsig, ite_error_eq_ok] at hk
              refine ⟨t, a, g, s, sender, ⟨ht, ?_, hb, hr, ?_, hs, Nat.le_of_not_lt hfee, hsig, ?_⟩⟩
              · intro hst
                simpa [hst] using hcan
              · intro ⟨h1, h2⟩
                simp [h1, h2] at hleg
              · intro hm
                have hn := hk.1
                simp [hm] at hn
                omega

theorem accepted_inv_of_decode {e : Env} {c : Chain} {raw : Bytes} {t : TxContent} (hd : decodeTx raw = some t)
    (h : accepted e c raw = true) : ∃ a g s sender, AcceptedFacts e c raw t a g s sender := by
  obtain ⟨t', a, g, s, sender, f⟩ := accepted_inv h
  obtain rfl : t' = t := Option.some.inj (f.dec.symm.trans hd)
  exact ⟨a, g, s, sender, f⟩

/-- the admission path reads the submitted bytes through their decoding, the comparison with the
canonical form and the lookup of their hash, and through nothing else: where the comparison is not made,
another byte string with the same decoding and an unindexed hash fares as the first would with nothing
indexed. This is why a re-encoding of an included transaction is executed again. -/
theorem checkTx_reencoded (e : Env) (c : Chain) (w : Bool) {raw raw' : Bytes}
    (hd : decodeTx raw' = decodeTx raw) (hs : c.strictTx = false)
    (hm : ∀ t, decodeTx raw = some t → isRlpMemo t.memo = false) (hi : txId raw' ∉ c.index) :
    checkTx e c w raw' = checkTx e { c with index := [] } w raw := by
  -- the chain is taken apart so that `hs` rewrites the flag and not the record it sits in
  obtain ⟨n, ci, h, mf, lr, st, sk, sp, v, idx, acc⟩ := c
  subst hs
  unfold checkTx
  rw [hd]
  cases ht : decodeTx raw with
  | none => rfl
  | some t =>
    simp only [Bool.false_and, Bool.false_eq_true, if_false]
    cases hb : checkBasic t with
    | error r => rfl
    | ok p =>
      have := checkReplay_congr e ⟨n, ci, h, mf, lr, false, sk, sp, v, [], acc⟩ idx w raw raw' t p.2 (hm t ht)
        (by simpa using hi)
      simp only at this ⊢
      rw [this]
      rfl

theorem accepted_reencoded {e : Env} {c : Chain} {raw raw' : Bytes}
    (hd : decodeTx raw' = decodeTx raw) (hs : c.strictTx = false)
    (hm : ∀ t, decodeTx raw = some t → isRlpMemo t.memo = false) (hi : txId raw' ∉ c.index) :
    accepted e c raw' = accepted e { c with index := [] } raw := by
  unfold accepted
  rw [checkTx_reencoded e c true hd hs hm hi]

theorem accepted_noncanonical {e : Env} {c : Chain} {raw : Bytes} {t : TxContent} (hd : decodeTx raw = some t)
    (hs : c.strictTx = true) (hn : raw ≠ canon t) : accepted e c raw = false :=
  Bool.eq_false_iff.mpr fun h =>
    have ⟨_, _, _, _, f⟩ := accepted_inv_of_decode hd h
    hn (f.canonical hs)

theorem accepted_indexed {e : Env} {c : Chain} {raw : Bytes} (hh : 2 ≤ c.height) (hi : txId raw ∈ c.index) :
    accepted e c raw = false := by
  refine Bool.eq_false_iff.mpr fun h => ?_
  obtain ⟨t, a, g, s, sender, f⟩ := accepted_inv h
  exact ((checkReplay_ok f.replay).2.2 hh).1 rfl hi

theorem accepted_in_window {e : Env} {c : Chain} {raw : Bytes} {t : TxContent} (hd : decodeTx raw = some t)
    (h : accepted e c raw = true) (hh : 2 ≤ c.height) (hm : t.memo ≠ rlpV2Memo) :
    t.createdHeight ≤ c.height + 4320 ∧ c.height ≤ t.createdHeight + 4320 := by
  obtain ⟨a, g, s, sender, f⟩ := accepted_inv_of_decode hd h
  exact (inWindow_iff _ _).mp (((checkReplay_ok f.replay).2.2 hh).2 hm)

theorem key_canonical {e : Env} {c : Chain} {raw : Bytes} {t : TxContent} {a : AnyC} {g : SigC} {s : SendC}
    {sender : Bytes} (f : AcceptedFacts e c raw t a g s sender) (hk : c.strictKey = true)
    (hr : isRlpMemo t.memo = false) : pkCanonical g.publicKey = true := by
  obtain ⟨_, k, hd, hk', _⟩ := checkSignature_ok hr f.sig
  simp [pkCanonical, hd, hk' hk]

theorem account_addr (c : Chain) (a : Bytes) : (c.account a).addr = a := by
  unfold Chain.account
  cases h : c.accounts.find? (·.addr == a) with
  | none => rfl
  | some x => simpa using List.find?_some h

theorem account_setAccount (c : Chain) (acc : Account) (a : Bytes) :
    (c.setAccount acc).account a = if acc.addr = a then acc else c.account a := by
  -- replacing records by `acc` does not change under which address they are found
  have hf (x : Account) : ((if (x.addr == acc.addr) = true then acc else x).addr == a) = (x.addr == a) := by
    split
    · next h => rw [eq_of_beq h]
    · rfl
  unfold Chain.setAccount Chain.account
  split
  · next hany =>
    simp only [List.find?_map, Function.comp_def, hf]
    cases hfind : c.accounts.find? (fun x => x.addr == a) with
    | none =>
      obtain ⟨x, hx, hxa⟩ := List.any_eq_true.mp hany
      have hne : acc.addr ≠ a := fun e => by
        have := List.find?_eq_none.mp hfind x hx
        rw [← e] at this
        exact this hxa
      rw [if_neg hne]
      rfl
    | some y =>
      have hy : y.addr = a := by simpa using List.find?_some hfind
      by_cases h : acc.addr = a
      · simp [h, hy]
      · have hne : y.addr ≠ acc.addr := hy ▸ fun e => h e.symm
        simp [h, hne]
  · next hany =>
    rw [List.find?_append, List.find?_cons, List.find?_nil]
    by_cases h : acc.addr = a
    · have hn : c.accounts.find? (fun x => x.addr == a) = none :=
        List.find?_eq_none.mpr fun x hx hxa => hany (List.any_eq_true.mpr ⟨x, hx, h ▸ hxa⟩)
      simp [h, hn]
    · have : (acc.addr == a) = false := by simpa using h
      rw [this, Option.or_none, if_neg h]

theorem setNonce_nonce (c : Chain) (a : Bytes) (n : Nat) :
    ((c.setAccount { c.account a with nonce := n }).account a).nonce = n := by
  rw [account_setAccount, if_pos (account_addr c a)]

theorem setBalance_nonce (c : Chain) (b : Bytes) (v : Nat) (a : Bytes) :
    ((c.setAccount { c.account b with balance := v }).account a).nonce = (c.account a).nonce := by
  rw [account_setAccount]
  split
  · next h => rw [← (account_addr c b).symm.trans h]
  · rfl

theorem noteVesting_account (c : Chain) (s : SendC) (a : Bytes) : (c.noteVesting s).account a = c.account a := by
  unfold Chain.noteVesting
  split <;> rfl

theorem transfer_nonce {c c' : Chain} {k : Checked} (h : applyTransfer c k = .ok c') (a : Bytes) :
    (c'.account a).nonce =
      if k.tx.memo = rlpV2Memo ∧ k.sender = a then k.tx.nonce + 1 else (c.account a).nonce := by
  unfold applyTransfer at h
  by_cases h1 : (c.account k.sender).balance < k.tx.fee
  · simp [h1] at h
  · simp only [h1, if_false] at h
    generalize hc1 : c.setAccount { c.account k.sender with balance := (c.account k.sender).balance - k.tx.fee } = c1 at h
    by_cases h2 : (c1.account k.send.fromAddr).balance < k.send.amount
    · simp [h2] at h
    · simp only [h2, if_false] at h
      generalize hc2 : c1.setAccount { c1.account k.send.fromAddr with balance := (c1.account k.send.fromAddr).balance - k.send.amount } = c2 at h
      generalize hc3 : c2.setAccount { c2.account k.send.toAddr with balance := (c2.account k.send.toAddr).balance + k.send.amount } = c3 at h
      have n3 : (c3.account a).nonce = (c.account a).nonce := by
        rw [← hc3, setBalance_nonce, ← hc2, setBalance_nonce, ← hc1, setBalance_nonce]
      by_cases hm : k.tx.memo = rlpV2Memo
      · have hmb : (k.tx.memo == rlpV2Memo) = true := by simp [hm]
        simp only [hmb, if_true, Except.ok.injEq] at h
        subst h
        by_cases hs : k.sender = a
        · subst hs
          simp only [hm, true_and, if_true]
          exact setNonce_nonce _ _ _
        · simp only [hm, hs, and_false, if_false]
          rw [account_setAccount, if_neg fun e => hs ((account_addr c3 k.sender).symm.trans e)]
          exact n3
      · have hmb : (k.tx.memo == rlpV2Memo) = false := by simp [hm]
        simp only [hmb, Bool.false_eq_true, if_false, Except.ok.injEq] at h
        subst h
        simp only [hm, false_and, if_false]
        exact n3

/-- **the nonce floor is written by one thing only**: after a successful execution every account's
nonce is what it was, except the sender's of an RLP.V2 transaction, which becomes that transaction's
nonce + 1. Receiving a send — plain or with a vesting schedule — never changes a nonce. -/
theorem nonce_after {c c' : Chain} {k : Checked} (h : applyChecked c k = .ok c') (a : Bytes) :
    (c'.account a).nonce =
      if k.tx.memo = rlpV2Memo ∧ k.sender = a then k.tx.nonce + 1 else (c.account a).nonce := by
  unfold applyChecked at h
  simp only [ite_error_eq_ok] at h
  rw [transfer_nonce h.2.2 a, noteVesting_account]

theorem unsigned_ext (t₁ t₂ : TxContent) (h : t₁.unsigned = t₂.unsigned) (hs : t₁.signature = t₂.signature) :
    t₁ = t₂ := by
  cases t₁; cases t₂
  simp only [TxContent.unsigned, TxContent.mk.injEq] at h
  simp only at hs
  simp_all

theorem unsigned_fields (t₁ t₂ : TxContent) (h : t₁.unsigned = t₂.unsigned) :
    t₁.msg = t₂.msg ∧ t₁.memo = t₂.memo :=
  ⟨(congrArg TxContent.msg h :), (congrArg TxContent.memo h :)⟩

/-- what the signature covers: the decoded transaction without its signature -/
def signedPart (raw : Bytes) : Option TxContent := (decodeTx raw).map TxContent.unsigned

/-- `raw` was executed earlier on this chain: some earlier state of the same code accepted it, and
the present state has its hash in the transaction index -/
def Included (e : Env) (c : Chain) (raw : Bytes) : Prop :=
  txId raw ∈ c.index ∧ ∃ c₀ : Chain, accepted e c₀ raw = true ∧ c₀.strictTx = c.strictTx ∧ c₀.strictKey = c.strictKey

/-- **C06, replay clause, full strength**: once a transaction is included, no byte string carrying
the same signed content is accepted again (in any later state: the index only grows within the
acceptance window, and a later state is at height ≥ 2). -/
def NoReplay (e : Env) (c : Chain) : Prop :=
  ∀ raw₁ raw₂ : Bytes, Included e c raw₁ → 2 ≤ c.height → signedPart raw₂ = signedPart raw₁ →
    accepted e c raw₂ = false

/-- a concrete counterexample to `NoReplay` -/
structure ReplayWitness (e : Env) (c : Chain) (raw₁ raw₂ : Bytes) : Prop where
  included : Included e c raw₁
  later : 2 ≤ c.height
  differ : raw₂ ≠ raw₁
  sameSigned : signedPart raw₂ = signedPart raw₁
  acceptedAgain : accepted e c raw₂ = true

theorem ReplayWitness.refutes {e : Env} {c : Chain} {raw₁ raw₂ : Bytes} (w : ReplayWitness e c raw₁ raw₂) :
    ¬ NoReplay e c := by
  intro h
  have := h raw₁ raw₂ w.included w.later w.sameSigned
  rw [w.acceptedAgain] at this
  exact absurd this (by decide)

/-- symbolic-cryptography assumptions under which "same signed content" pins the signature down:
one signature per (key, message) — deterministic schemes and a signer who signs a payload once —
and one key per address (collision-free address derivation). -/
structure SigUnique (e : Env) : Prop where
  sig_unique : ∀ k m s₁ s₂, e.verifies k m s₁ = true → e.verifies k m s₂ = true → s₁ = s₂
  addr_inj : ∀ k₁ k₂ a, e.address k₁ = some a → e.address k₂ = some a → k₁ = k₂

/-- the core of the positive direction: two accepted, non-RLP byte strings with the same signed
content whose encodings and keys are canonical are the same byte string. The signed content fixes
the sender, hence (one key per address) the key, hence (one signature per key and payload) the
signature; canonical key bytes and canonical marshalling then fix every byte. -/
theorem same_bytes_of_same_signed {e : Env} {c₁ c₂ : Chain} {raw₁ raw₂ : Bytes} {t₁ t₂ : TxContent}
    {a₁ a₂ : AnyC} {g₁ g₂ : SigC} {s₁ s₂ : SendC} {snd₁ snd₂ : Bytes} (hu : SigUnique e)
    (f₁ : AcceptedFacts e c₁ raw₁ t₁ a₁ g₁ s₁ snd₁) (f₂ : AcceptedFacts e c₂ raw₂ t₂ a₂ g₂ s₂ snd₂)
    (hs : signedPart raw₂ = signedPart raw₁) (hc₁ : raw₁ = canon t₁) (hc₂ : raw₂ = canon t₂)
    (hk₁ : pkCanonical g₁.publicKey = true) (hk₂ : isRlpMemo t₂.memo = false → pkCanonical g₂.publicKey = true)
    (hm : isRlpMemo t₁.memo = false) : raw₂ = raw₁ := by
  have hun : t₂.unsigned = t₁.unsigned := by
    simpa [signedPart, f₁.dec, f₂.dec] using hs
  obtain ⟨hmsg, hmemo⟩ := unsigned_fields t₂ t₁ hun
  obtain ⟨hm₁, hg₁, _⟩ := checkBasic_ok f₁.basic
  obtain ⟨hm₂, hg₂, _⟩ := checkBasic_ok f₂.basic
  obtain rfl : a₂ = a₁ := by
    rw [hm₁, hm₂] at hmsg
    exact Option.some.inj hmsg
  obtain rfl : s₂ = s₁ := Except.ok.inj (f₂.send.symm.trans f₁.send)
  obtain ⟨_, k₁, hd₁, _, hv₁, had₁, _, _⟩ := checkSignature_ok hm f₁.sig
  have hr₂ : isRlpMemo t₂.memo = false := hmemo ▸ hm
  obtain ⟨_, k₂, hd₂, _, hv₂, had₂, _, _⟩ := checkSignature_ok hr₂ f₂.sig
  obtain rfl : k₂ = k₁ := hu.addr_inj k₂ k₁ _ had₂ had₁
  rw [show signBytes t₂ = signBytes t₁ from congrArg canon hun] at hv₂
  have hsig : g₂.signature = g₁.signature := hu.sig_unique _ _ _ _ hv₂ hv₁
  have hp₁ : k₂ = g₁.publicKey := by simpa [pkCanonical, hd₁] using hk₁
  have hp₂ : k₂ = g₂.publicKey := by simpa [pkCanonical, hd₂] using hk₂ hr₂
  have hg : g₂ = g₁ := by
    cases g₁
    cases g₂
    simp_all
  rw [hc₂, hc₁, unsigned_ext t₂ t₁ hun (by rw [hg₁, hg₂, hg])]

end Canopy.Replay
