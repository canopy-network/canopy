import Canopy.Proof.SmtBasic
/-! The node-key byte encoding is injective on non-empty bit strings (it has a decoder), and under the
collision-free idealisation of the 4-ary node hash (node key, node value) determines the subtree. Core only. -/
namespace Canopy.Smt

theorem keyOfBytes_length (n : Nat) (data : Bytes) : (keyOfBytes n data).length = n := by
  rw [keyOfBytes, List.length_take, List.length_append, List.length_replicate]
  exact Nat.min_eq_left (Nat.sub_le_iff_le_add'.mp (Nat.le_refl _))

theorem bitsVal_lt : ∀ c : List Bool, bitsVal c < 2 ^ c.length
  | [] => by simp [bitsVal]
  | b :: bs => by
    have := bitsVal_lt bs
    simp only [bitsVal, List.length_cons, Nat.pow_succ]
    split <;> omega

theorem bitsVal_snoc (c : List Bool) (b : Bool) : bitsVal (c ++ [b]) = 2 * bitsVal c + if b then 1 else 0 := by
  induction c with
  | nil => cases b <;> rfl
  | cons a c ih =>
    simp only [List.cons_append, bitsVal, ih, List.length_append, List.length_singleton, Nat.pow_succ]
    cases a <;> simp <;> omega

/-- the `w` low bits of `v`, least significant first -/
def lowBits : Nat → Nat → List Bool
  | 0, _ => []
  | w + 1, v => (v % 2 == 1) :: lowBits w (v / 2)

theorem byteBits_eq (b : UInt8) : byteBits b = (lowBits 8 b.toNat).reverse := by
  simp [byteBits, lowBits, Nat.div_div_eq_div_mul]

theorem lowBits_zero : ∀ j, lowBits j 0 = List.replicate j false
  | 0 => rfl
  | j + 1 => by simp [lowBits, lowBits_zero j, List.replicate_succ]

theorem lowBits_bitsVal (j : Nat) : ∀ r : List Bool,
    lowBits (j + r.length) (bitsVal r.reverse) = r ++ List.replicate j false
  | [] => lowBits_zero j
  | b :: r => by
    have ih := lowBits_bitsVal j r
    rw [List.reverse_cons, bitsVal_snoc]
    simp only [List.length_cons, ← Nat.add_assoc, lowBits, List.cons_append]
    cases b
    · simp only [Bool.false_eq_true, if_false, Nat.add_zero, Nat.mul_mod_right, Nat.mul_div_cancel_left _ (by decide : 0 < 2)]
      rw [ih]; rfl
    · have e1 : (2 * bitsVal r.reverse + 1) % 2 = 1 := Nat.mul_add_mod 2 _ 1
      have e2 : (2 * bitsVal r.reverse + 1) / 2 = bitsVal r.reverse := Nat.mul_add_div (by decide) _ 1
      simp only [if_true, e1, e2, ih]; rfl

theorem byteBits_bitsVal (c : List Bool) (h : c.length ≤ 8) :
    byteBits (UInt8.ofNat (bitsVal c)) = List.replicate (8 - c.length) false ++ c := by
  have hlt : bitsVal c < 256 := Nat.lt_of_lt_of_le (bitsVal_lt c) (Nat.pow_le_pow_right (by decide) h)
  have h8 : 8 = (8 - c.length) + c.reverse.length := by rw [List.length_reverse, Nat.sub_add_cancel h]
  have hb := lowBits_bitsVal (8 - c.length) c.reverse
  rw [List.reverse_reverse, ← h8] at hb
  rw [byteBits_eq, UInt8.toNat_ofNat', Nat.mod_eq_of_lt hlt, hb]
  simp

theorem leadingZeros_append_dropWhile : ∀ c : List Bool,
    List.replicate (leadingZeros c) false ++ c.dropWhile (fun b => !b) = c
  | [] => rfl
  | true :: _ => rfl
  | false :: bs => by
    simpa [leadingZeros, List.replicate_succ] using leadingZeros_append_dropWhile bs

theorem bitsVal_eq_zero_iff : ∀ c : List Bool, bitsVal c = 0 ↔ c.dropWhile (fun b => !b) = []
  | [] => by simp [bitsVal]
  | true :: bs => by
    simp [bitsVal]
  | false :: bs => by simpa [bitsVal] using bitsVal_eq_zero_iff bs

theorem decodeLast_encode (c : List Bool) (h1 : 1 ≤ c.length) (h8 : c.length ≤ 8) :
    decodeLast (UInt8.ofNat (bitsVal c)) (UInt8.ofNat (padOf c)) = c := by
  have hsplit := leadingZeros_append_dropWhile c
  have hlz : leadingZeros c ≤ c.length := by
    have := congrArg List.length hsplit
    rw [List.length_append, List.length_replicate] at this
    exact this ▸ Nat.le_add_right _ _
  have hpad : (UInt8.ofNat (padOf c)).toNat = padOf c := by
    have : padOf c ≤ c.length := by
      unfold padOf; split
      · exact Nat.sub_le _ _
      · exact hlz
    rw [UInt8.toNat_ofNat', Nat.mod_eq_of_lt (Nat.lt_of_le_of_lt (Nat.le_trans this h8) (by decide))]
  unfold decodeLast sigBits
  rw [hpad, byteBits_bitsVal c h8]
  rw [List.dropWhile_append_of_pos fun a ha => by rw [List.eq_of_mem_replicate ha]; rfl]
  unfold padOf
  by_cases hz : bitsVal c = 0
  · -- all bits zero: one of them is kept as the value byte's single significant bit
    have hd := (bitsVal_eq_zero_iff c).mp hz
    rw [hd, List.append_nil] at hsplit
    have hl : leadingZeros c = c.length := by
      have := congrArg List.length hsplit; simpa using this
    rw [if_pos hz, hd]
    obtain ⟨m, hm⟩ : ∃ m, c.length = m + 1 := ⟨c.length - 1, (Nat.sub_add_cancel h1).symm⟩
    rw [← hsplit, hl, hm]
    simp [List.replicate_succ']
  · have hd : c.dropWhile (fun b => !b) ≠ [] := fun e => hz ((bitsVal_eq_zero_iff c).mpr e)
    rw [if_neg hz]
    simp only [List.isEmpty_iff, hd, if_false]
    exact hsplit

theorem encodeKey_short {k : Key} (h1 : 1 ≤ k.length) (h8 : k.length ≤ 8) :
    encodeKey k = [UInt8.ofNat (bitsVal k), UInt8.ofNat (padOf k)] := by
  obtain ⟨b, bs, rfl⟩ := List.exists_cons_of_length_pos h1
  unfold encodeKey
  cases (b :: bs).length / 8 with
  | zero => rfl
  | succ f => simp only [encodeKeyAux, if_pos h8]

theorem encodeKey_long {k : Key} (h : 8 < k.length) :
    encodeKey k = UInt8.ofNat (bitsVal (k.take 8)) :: encodeKey (k.drop 8) := by
  obtain ⟨b, bs, rfl⟩ := List.exists_cons_of_length_pos (Nat.lt_trans (by decide : 0 < 8) h)
  unfold encodeKey
  rw [Nat.div_eq_sub_div (by decide) (Nat.le_of_lt h), List.length_drop]
  simp only [encodeKeyAux, if_neg (Nat.not_le_of_lt h)]

/-- induction along the chunks `encodeKey` cuts a non-empty key into: a last chunk of 1..8 bits, preceded by full bytes -/
theorem encodeKey_induction {P : Key → Prop} (short : ∀ k, 1 ≤ k.length → k.length ≤ 8 → P k)
    (long : ∀ k, 8 < k.length → k.drop 8 ≠ [] → P (k.drop 8) → P k) : ∀ k : Key, k ≠ [] → P k := by
  intro k
  induction hm : k.length using Nat.strongRecOn generalizing k with
  | _ m ih =>
    intro hne
    have h1 : 1 ≤ k.length := List.length_pos_iff.mpr hne
    by_cases h : k.length ≤ 8
    · exact short k h1 h
    · have hd : (k.drop 8).length = m - 8 := by rw [List.length_drop, hm]
      have hne' : k.drop 8 ≠ [] := fun e => h (List.drop_eq_nil_iff.mp e)
      exact long k (Nat.lt_of_not_le h) hne' (ih (m - 8) (Nat.sub_lt (hm ▸ h1) (by decide)) _ hd hne')

theorem encodeKey_length_ge : ∀ k : Key, k ≠ [] → 2 ≤ (encodeKey k).length :=
  encodeKey_induction (fun k h1 h8 => by rw [encodeKey_short h1 h8]; simp)
    (fun k h _ ih => by rw [encodeKey_long h]; exact Nat.le_succ_of_le ih)

theorem decodeKey_encodeKey : ∀ k : Key, k ≠ [] → decodeKey (encodeKey k) = k :=
  encodeKey_induction (fun k h1 h8 => by rw [encodeKey_short h1 h8]; exact decodeLast_encode k h1 h8)
    (fun k h hd ih => by
      have hlen := encodeKey_length_ge (k.drop 8) hd
      have h8 : (k.take 8).length = 8 := List.length_take_of_le (Nat.le_of_lt h)
      rw [encodeKey_long h]
      match hE : encodeKey (k.drop 8), hlen with
      | x :: y :: rest, _ =>
        rw [hE] at ih
        simp only [decodeKey, ih]
        rw [byteBits_bitsVal _ (Nat.le_of_eq h8), h8]
        exact List.take_append_drop 8 k)

theorem encodeKey_injective {a b : Key} (ha : a ≠ []) (hb : b ≠ []) (h : encodeKey a = encodeKey b) : a = b := by
  rw [← decodeKey_encodeKey a ha, h, decodeKey_encodeKey b hb]

/-- the collision-free idealisation of the node hash, as a hypothesis: the hash of the 4-tuple
(left key bytes, left value, right key bytes, right value) determines the tuple. It subsumes collision
resistance of SHA-256 *and* unambiguity of the unframed concatenation `lk ‖ lv ‖ rk ‖ rv`. -/
def H4Inj (H4 : Bytes → Bytes → Bytes → Bytes → Bytes) : Prop :=
  ∀ a b c d a' b' c' d', H4 a b c d = H4 a' b' c' d' → a = a' ∧ b = b' ∧ c = c' ∧ d = d'

/-- a framed, hence injective, stand-in for the node hash: every byte `x` becomes `1 x`, every field ends in `0` -/
def frame (x : Bytes) : Bytes := x.flatMap (fun b => [1, b]) ++ [0]
def framed4 (a b c d : Bytes) : Bytes := frame a ++ (frame b ++ (frame c ++ frame d))

/-- a framed field is read off the front of a byte string unambiguously: `1` announces a byte, `0` the end.
(`frame [] ++ r` is `0 :: r` and `frame (a :: x) ++ r` is `1 :: a :: (frame x ++ r)`, by computation.) -/
theorem frame_append_inj (x : Bytes) : ∀ (y r s : Bytes), frame x ++ r = frame y ++ s → x = y ∧ r = s := by
  induction x with
  | nil =>
    intro y r s h
    cases y with
    | nil => exact ⟨rfl, (List.cons.inj h).2⟩
    | cons b y => exact absurd (List.cons.inj h).1 (by decide)
  | cons a x ih =>
    intro y r s h
    cases y with
    | nil => exact absurd (List.cons.inj h).1 (by decide)
    | cons b y =>
      obtain ⟨e, h⟩ := List.cons.inj (List.cons.inj h).2
      obtain ⟨rfl, hr⟩ := ih y r s h
      exact ⟨by rw [e], hr⟩

theorem H4Inj_satisfiable : H4Inj framed4 := by
  intro a b c d a' b' c' d' h
  unfold framed4 at h
  obtain ⟨e1, h⟩ := frame_append_inj _ _ _ _ h
  obtain ⟨e2, h⟩ := frame_append_inj _ _ _ _ h
  obtain ⟨e3, h⟩ := frame_append_inj _ _ _ _ h
  exact ⟨e1, e2, e3, (frame_append_inj d d' [] [] (by simpa using h)).1⟩

namespace Trie

theorem value_injective {H4 : Bytes → Bytes → Bytes → Bytes → Bytes} (hH : H4Inj H4) {n : Nat} :
    ∀ t1 t2 : Trie, WF n t1 → WF n t2 → t1.key = t2.key → t1.value H4 = t2.value H4 → t1 = t2 := by
  intro t1
  induction t1 with
  | leaf k v =>
    intro t2 h1 h2 hk hv
    cases t2 with
    | leaf k' v' =>
      have hk : k = k' := hk
      have hv : v = v' := hv
      rw [hk, hv]
    | node p l r => exact (leaf_key_ne_node_key h1 h2 hk).elim
  | node p l r ihl ihr =>
    intro t2 h1 h2 hk hv
    cases t2 with
    | leaf k v => exact (leaf_key_ne_node_key h2 h1 hk.symm).elim
    | node p' l' r' =>
      have hk : p = p' := hk
      subst hk
      simp only [value] at hv
      obtain ⟨e1, e2, e3, e4⟩ := hH _ _ _ _ _ _ _ _ hv
      have kl := encodeKey_injective (pick_key_ne_nil h1 false) (pick_key_ne_nil h2 false) e1
      have kr := encodeKey_injective (pick_key_ne_nil h1 true) (pick_key_ne_nil h2 true) e3
      rw [ihl l' h1.1 h2.1 kl e2, ihr r' h1.2.1 h2.2.1 kr e4]

end Trie
end Canopy.Smt
