import Canopy.Model.Smt
/-! Basic facts about M-smt: prefixes and greatest common prefixes, well-formed tries, a node seen from the side a key
takes (`pick`, `mk`) with the induction along a key's descent, uniqueness of the canonical form. Core only. -/
namespace Canopy.Smt

theorem prefix_bit_unique {p k : Key} {a b : Bool} (h1 : p ++ [a] <+: k) (h2 : p ++ [b] <+: k) : a = b := by
  have h := List.prefix_of_prefix_length_le h1 h2 (by simp)
  have he := h.eq_of_length (by simp)
  have := List.append_cancel_left he
  simpa using this

theorem not_snoc_false_of_snoc_true {p k : Key} (h : p ++ [true] <+: k) : ¬ p ++ [false] <+: k :=
  fun x => nomatch prefix_bit_unique x h

theorem prefix_of_snoc_prefix {p k : Key} {x : Bool} (h : p ++ [x] <+: k) : p <+: k :=
  (List.prefix_append p _).trans h

theorem length_lt_of_snoc_prefix {p k : Key} {x : Bool} (h : p ++ [x] <+: k) : p.length < k.length := by
  have := h.length_le
  rwa [List.length_append] at this

theorem snoc_prefix_of_prefix_lt {p k : Key} (h : p <+: k) (hl : p.length < k.length) : ∃ b, p ++ [b] <+: k := by
  obtain ⟨rest, rfl⟩ := h
  cases rest with
  | nil => simp at hl
  | cons x rest => exact ⟨x, (List.prefix_append_right_inj p).mpr ⟨rest, by simp⟩⟩

/-- a common prefix of two keys that part ways right after `p` is a prefix of `p` -/
theorem prefix_of_split {p q a b : Key} {x : Bool} (ha : p ++ [x] <+: a) (hb : p ++ [!x] <+: b) (qa : q <+: a)
    (qb : q <+: b) : q <+: p := by
  have pa := prefix_of_snoc_prefix ha
  by_cases hl : q.length ≤ p.length
  · exact List.prefix_of_prefix_length_le qa pa hl
  · -- otherwise `q` goes on after `p`, with a bit that both keys would share
    obtain ⟨y, hy⟩ := snoc_prefix_of_prefix_lt (List.prefix_of_prefix_length_le pa qa (Nat.le_of_not_le hl))
      (Nat.lt_of_not_le hl)
    have e := (prefix_bit_unique (hy.trans qa) ha).symm.trans (prefix_bit_unique (hy.trans qb) hb)
    cases x <;> cases e

theorem gcp_prefix : ∀ a b : Key, gcp a b <+: a ∧ gcp a b <+: b
  | [], _ => ⟨List.nil_prefix, List.nil_prefix⟩
  | _ :: _, [] => ⟨List.nil_prefix, List.nil_prefix⟩
  | a :: as, b :: bs => by
    unfold gcp; split
    · next h =>
      subst h
      have ih := gcp_prefix as bs
      exact ⟨(List.prefix_cons_inj a).mpr ih.1, (List.prefix_cons_inj a).mpr ih.2⟩
    · exact ⟨List.nil_prefix, List.nil_prefix⟩

theorem gcp_prefix_left (a b : Key) : gcp a b <+: a := (gcp_prefix a b).1

theorem gcp_prefix_right (a b : Key) : gcp a b <+: b := (gcp_prefix a b).2

theorem prefix_gcp (x a b : Key) (ha : x <+: a) (hb : x <+: b) : x <+: gcp a b := by
  induction x generalizing a b with
  | nil => exact List.nil_prefix
  | cons y x ih =>
    obtain ⟨s, rfl⟩ := ha
    obtain ⟨t, rfl⟩ := hb
    simp only [List.cons_append, gcp, if_true]
    exact List.cons_prefix_cons.mpr ⟨rfl, ih _ _ (List.prefix_append _ _) (List.prefix_append _ _)⟩

theorem gcp_of_diverge {q a b : Key} {x : Bool} (ha : q ++ [x] <+: a) (hb : q ++ [!x] <+: b) : gcp a b = q := by
  obtain ⟨s, rfl⟩ := ha
  obtain ⟨t, rfl⟩ := hb
  induction q with
  | nil => cases x <;> rfl
  | cons y q ih => simp only [List.cons_append, gcp, if_true, ih]

theorem gcp_diverge (a b : Key) (hab : ¬ a <+: b) (hba : ¬ b <+: a) :
    ∃ x : Bool, gcp a b ++ [x] <+: a ∧ gcp a b ++ [!x] <+: b := by
  have hl := gcp_prefix_left a b
  have hr := gcp_prefix_right a b
  obtain ⟨x, hx⟩ := snoc_prefix_of_prefix_lt hl (Nat.lt_of_not_le fun h => hab (hl.eq_of_length_le h ▸ hr))
  obtain ⟨y, hy⟩ := snoc_prefix_of_prefix_lt hr (Nat.lt_of_not_le fun h => hba (hr.eq_of_length_le h ▸ hl))
  -- with the same next bit in both keys the common prefix would be longer
  have hne : y ≠ x := by
    rintro rfl
    have := (prefix_gcp _ a b hx hy).length_le
    rw [List.length_append] at this
    exact Nat.lt_irrefl _ this
  exact ⟨x, hx, Bool.eq_not_of_ne hne ▸ hy⟩

theorem gcp_length_eq_iff (a b : Key) : (gcp a b).length = b.length ↔ b <+: a :=
  ⟨fun h => (gcp_prefix_right a b).eq_of_length h ▸ gcp_prefix_left a b,
    fun h => Nat.le_antisymm (gcp_prefix_right a b).length_le (prefix_gcp b a b h (List.prefix_refl _)).length_le⟩

/-- for a prefix `x` of `b`: `a` goes on with `x` exactly when `a` and `b` share at least that many leading bits -/
theorem prefix_iff_le_gcp {x a b : Key} (h : x <+: b) : x <+: a ↔ x.length ≤ (gcp a b).length :=
  ⟨fun ha => (prefix_gcp x a b ha h).length_le,
    fun hl => (List.prefix_of_prefix_length_le h (gcp_prefix_right a b) hl).trans (gcp_prefix_left a b)⟩

namespace Trie

theorem keys_leaf (k : Key) (v : Bytes) : (leaf k v).keys = [k] := rfl

theorem mem_keys_leaf {k k' : Key} {v : Bytes} : k' ∈ (leaf k v).keys ↔ k' = k := by
  rw [keys_leaf, List.mem_singleton]

theorem keys_node (p : Key) (l r : Trie) : (node p l r).keys = l.keys ++ r.keys := by
  simp [keys, toList]

theorem mem_keys_node {p : Key} {l r : Trie} {k : Key} : k ∈ (node p l r).keys ↔ k ∈ l.keys ∨ k ∈ r.keys := by
  rw [keys_node]; exact List.mem_append

theorem exists_key : ∀ t : Trie, ∃ k, k ∈ t.keys
  | leaf k _ => ⟨k, mem_keys_leaf.mpr rfl⟩
  | node _ l _ => (exists_key l).imp fun _ h => mem_keys_node.mpr (Or.inl h)

theorem mem_keys_of_mem {t : Trie} {k : Key} {v : Bytes} (h : (k, v) ∈ t.toList) : k ∈ t.keys :=
  List.mem_map_of_mem (f := Prod.fst) h

theorem exists_mem_of_mem_keys {t : Trie} {k : Key} (h : k ∈ t.keys) : ∃ v, (k, v) ∈ t.toList := by
  simp only [keys, List.mem_map] at h
  obtain ⟨⟨k', v⟩, hm, rfl⟩ := h
  exact ⟨v, hm⟩

theorem mem_toList_leaf {k k' : Key} {v v' : Bytes} : (k', v') ∈ (leaf k v).toList ↔ k' = k ∧ v' = v := by
  simp [toList]

theorem mem_toList_node {p : Key} {l r : Trie} {kv : Key × Bytes} :
    kv ∈ (node p l r).toList ↔ kv ∈ l.toList ∨ kv ∈ r.toList :=
  List.mem_append

theorem node_key_prefix {n : Nat} {p : Key} {l r : Trie} (h : WF n (node p l r)) {k : Key}
    (hk : k ∈ (node p l r).keys) : p ++ [false] <+: k ∨ p ++ [true] <+: k := by
  rcases mem_keys_node.mp hk with h1 | h1
  · exact Or.inl (h.2.2.1 k h1)
  · exact Or.inr (h.2.2.2 k h1)

theorem node_prefix {n : Nat} {p : Key} {l r : Trie} (h : WF n (node p l r)) {k : Key}
    (hk : k ∈ (node p l r).keys) : p <+: k := by
  rcases node_key_prefix h hk with h1 | h1 <;> exact prefix_of_snoc_prefix h1

theorem keys_length {n : Nat} : ∀ {t : Trie}, WF n t → ∀ k ∈ t.keys, k.length = n
  | leaf _ _, h, k, hk => by
    rw [mem_keys_leaf.mp hk]; exact h
  | node _ l r, h, k, hk => by
    rcases mem_keys_node.mp hk with h1 | h1
    · exact keys_length h.1 k h1
    · exact keys_length h.2.1 k h1

theorem key_prefix {n : Nat} {t : Trie} (h : WF n t) {k : Key} (hk : k ∈ t.keys) : t.key <+: k := by
  cases t with
  | leaf k' v => rw [mem_keys_leaf.mp hk]; exact List.prefix_refl _
  | node p l r => exact node_prefix h hk

theorem child_prefix {n : Nat} {c : Trie} (hc : WF n c) {q : Key} (hq : ∀ k ∈ c.keys, q <+: k) : q <+: c.key := by
  cases c with
  | leaf k v => exact hq k (mem_keys_leaf.mpr rfl)
  | node p a b =>
    obtain ⟨ka, hka⟩ := exists_key a
    obtain ⟨kb, hkb⟩ := exists_key b
    exact prefix_of_split (hc.2.2.1 ka hka) (hc.2.2.2 kb hkb) (hq ka (mem_keys_node.mpr (Or.inl hka)))
      (hq kb (mem_keys_node.mpr (Or.inr hkb)))

theorem node_prefix_lt {n : Nat} {p : Key} {l r : Trie} (h : WF n (node p l r)) : p.length < n := by
  obtain ⟨k, hk⟩ := exists_key l
  rw [← keys_length h.1 k hk]
  exact length_lt_of_snoc_prefix (h.2.2.1 k hk)

theorem key_length_le {n : Nat} {t : Trie} (h : WF n t) : t.key.length ≤ n := by
  cases t with
  | leaf k v => exact Nat.le_of_eq h
  | node p l r => exact Nat.le_of_lt (node_prefix_lt h)

theorem leaf_key_ne_node_key {n : Nat} {k p : Key} {v : Bytes} {l r : Trie} (h1 : WF n (leaf k v))
    (h2 : WF n (node p l r)) : k ≠ p := by
  rintro rfl
  have hlen : k.length = n := h1
  have hlt : k.length < n := node_prefix_lt h2
  rw [hlen] at hlt
  exact Nat.lt_irrefl n hlt

/-- the child on side `b` (`false` = left) of a node with children `l`, `r` -/
def pick : Bool → Trie → Trie → Trie
  | false, l, _ => l
  | true, _, r => r

/-- the node with prefix `p` whose child on side `b` is `c` and whose other child is `s` -/
def mk (p : Key) : Bool → Trie → Trie → Trie
  | false, c, s => node p c s
  | true, c, s => node p s c

theorem pick_cases {P : Trie → Prop} (l r : Trie) (hl : P l) (hr : P r) (b : Bool) : P (pick b l r) := by
  cases b <;> assumption

theorem node_eq_mk (p : Key) (l r : Trie) (b : Bool) : node p l r = mk p b (pick b l r) (pick (!b) l r) := by
  cases b <;> rfl

theorem wf_mk {n : Nat} {p : Key} {b : Bool} {c s : Trie} :
    WF n (mk p b c s) ↔ WF n c ∧ WF n s ∧ (∀ k ∈ c.keys, p ++ [b] <+: k) ∧ (∀ k ∈ s.keys, p ++ [!b] <+: k) := by
  cases b
  · exact Iff.rfl
  · exact ⟨fun h => ⟨h.2.1, h.1, h.2.2.2, h.2.2.1⟩, fun h => ⟨h.2.1, h.1, h.2.2.2, h.2.2.1⟩⟩

theorem mem_toList_mk {p : Key} {b : Bool} {c s : Trie} {kv : Key × Bytes} :
    kv ∈ (mk p b c s).toList ↔ kv ∈ c.toList ∨ kv ∈ s.toList := by
  cases b
  · exact mem_toList_node
  · exact mem_toList_node.trans Or.comm

theorem wf_pick {n : Nat} {p : Key} {l r : Trie} (h : WF n (node p l r)) (b : Bool) :
    WF n (pick b l r) ∧ ∀ k ∈ (pick b l r).keys, p ++ [b] <+: k := by
  cases b
  · exact ⟨h.1, h.2.2.1⟩
  · exact ⟨h.2.1, h.2.2.2⟩

theorem pick_prefix {n : Nat} {p : Key} {l r : Trie} (h : WF n (node p l r)) (b : Bool) :
    p ++ [b] <+: (pick b l r).key :=
  child_prefix (wf_pick h b).1 (wf_pick h b).2

theorem pick_key_ne_nil {n : Nat} {p : Key} {l r : Trie} (h : WF n (node p l r)) (b : Bool) : (pick b l r).key ≠ [] := by
  intro e
  have := (pick_prefix h b).length_le
  rw [e] at this; simp at this

theorem mem_keys_pick {n : Nat} {p k : Key} {l r : Trie} {b : Bool} (h : WF n (node p l r))
    (hk : k ∈ (node p l r).keys) (hb : p ++ [b] <+: k) : k ∈ (pick b l r).keys := by
  rcases mem_keys_node.mp hk with x | x
  · have := prefix_bit_unique hb (h.2.2.1 k x); subst this; exact x
  · have := prefix_bit_unique hb (h.2.2.2 k x); subst this; exact x

theorem not_mem_other {p k : Key} {b : Bool} {s : Trie} (hk : p ++ [b] <+: k) (hs : ∀ x ∈ s.keys, p ++ [!b] <+: x) :
    k ∉ s.keys := fun hm => by
  have := prefix_bit_unique hk (hs k hm); cases b <;> simp at this

theorem mem_toList_node_iff_pick {p : Key} {l r : Trie} {kv : Key × Bytes} :
    kv ∈ (node p l r).toList ↔ ∃ b, kv ∈ (pick b l r).toList :=
  mem_toList_node.trans (Bool.exists_bool (p := fun b => kv ∈ (pick b l r).toList)).symm

theorem mem_toList_pick {n : Nat} {p : Key} {l r : Trie} {b : Bool} {kv : Key × Bytes} (h : WF n (node p l r)) :
    kv ∈ (pick b l r).toList ↔ kv ∈ (node p l r).toList ∧ p ++ [b] <+: kv.1 := by
  refine ⟨fun hm => ⟨mem_toList_node_iff_pick.mpr ⟨b, hm⟩, (wf_pick h b).2 _ (mem_keys_of_mem hm)⟩, fun ⟨hm, hb⟩ => ?_⟩
  obtain ⟨b', hb'⟩ := mem_toList_node_iff_pick.mp hm
  cases prefix_bit_unique hb ((wf_pick h b').2 _ (mem_keys_of_mem hb'))
  exact hb'

/-- a key occurs at most once, with one value -/
theorem value_unique {n : Nat} : ∀ {t : Trie}, WF n t → ∀ {k : Key} {v v' : Bytes},
    (k, v) ∈ t.toList → (k, v') ∈ t.toList → v = v'
  | leaf _ _, _, _, _, _, h1, h2 => (mem_toList_leaf.mp h1).2.trans (mem_toList_leaf.mp h2).2.symm
  | node _ l r, h, k, v, v', h1, h2 => by
    -- both bindings are in the child on the side the key's next bit names
    obtain ⟨b, hb⟩ := mem_toList_node_iff_pick.mp h1
    have hb' := (mem_toList_pick h).mpr ⟨h2, ((mem_toList_pick h).mp hb).2⟩
    cases b
    · exact value_unique h.1 hb hb'
    · exact value_unique h.2.1 hb hb'

theorem side_cases (p k : Key) : (∃ b, p ++ [b] <+: k) ∨ ∀ b, ¬ p ++ [b] <+: k :=
  (Classical.em _).imp_right not_exists.mp

/-- induction along the descent of the key `k`: at each node the descent goes on in the child `c` on the side the next
bit of `k` names, or stops because `k` parts ways with the node's prefix -/
theorem descent_induction (k : Key) {P : Trie → Prop} (leaf : ∀ k' v, P (leaf k' v))
    (down : ∀ p b c s, p ++ [b] <+: k → P c → P (mk p b c s))
    (off : ∀ p l r, (∀ b, ¬ p ++ [b] <+: k) → P (node p l r)) (t : Trie) : P t := by
  induction t with
  | leaf k' v => exact leaf k' v
  | node p l r ihl ihr =>
    rcases side_cases p k with ⟨b, hb⟩ | hoff
    · rw [node_eq_mk p l r b]
      exact down p b _ _ hb (pick_cases l r ihl ihr b)
    · exact off p l r hoff

theorem key_eq_of_toList_iff {n : Nat} {t1 t2 : Trie} (h1 : WF n t1) (h2 : WF n t2)
    (h : ∀ kv, kv ∈ t1.toList ↔ kv ∈ t2.toList) : t1.key = t2.key := by
  -- the key of each is a common prefix of the keys of the other
  have sub : ∀ {s t : Trie}, WF n s → WF n t → (∀ kv, kv ∈ s.toList → kv ∈ t.toList) → t.key <+: s.key :=
    fun hs ht hst => child_prefix hs fun k hk => by
      obtain ⟨v, hv⟩ := exists_mem_of_mem_keys hk
      exact key_prefix ht (mem_keys_of_mem (hst _ hv))
  exact (sub h2 h1 fun kv => (h kv).mpr).eq_of_length_le (sub h1 h2 fun kv => (h kv).mp).length_le

/-- **Canonical form is unique** (extensional version): two well-formed tries with the same contents are the
same tree — so the tree, and with it the root, is a function of the key/value set. -/
theorem wf_unique (n : Nat) : ∀ (t1 t2 : Trie), WF n t1 → WF n t2 →
    (∀ kv, kv ∈ t1.toList ↔ kv ∈ t2.toList) → t1 = t2 := by
  intro t1
  induction t1 with
  | leaf k v =>
    intro t2 h1 h2 h
    cases t2 with
    | leaf k' v' =>
      have e : (k, v) = (k', v') := List.mem_singleton.mp ((h (k, v)).mp (List.mem_singleton.mpr rfl))
      cases e; rfl
    | node p l r => exact (leaf_key_ne_node_key h1 h2 (key_eq_of_toList_iff h1 h2 h)).elim
  | node p l r ihl ihr =>
    intro t2 h1 h2 h
    cases t2 with
    | leaf k v => exact (leaf_key_ne_node_key h2 h1 (key_eq_of_toList_iff h1 h2 h).symm).elim
    | node p' l' r' =>
      have hp : p = p' := key_eq_of_toList_iff h1 h2 h
      subst hp
      -- a binding on side `b` of one tree is in the other tree, and there on the same side
      have hc : ∀ b kv, kv ∈ (pick b l r).toList ↔ kv ∈ (pick b l' r').toList := fun b kv => by
        rw [mem_toList_pick h1, mem_toList_pick h2, h kv]
      rw [ihl l' h1.1 h2.1 (hc false), ihr r' h1.2.1 h2.2.1 (hc true)]

theorem rep_unique {n : Nat} {t1 t2 : Trie} {S : KMap} (h1 : t1.Rep n S) (h2 : t2.Rep n S) : t1 = t2 :=
  wf_unique n t1 t2 h1.1 h2.1 fun ⟨k, v⟩ => (h1.2 k v).trans (h2.2 k v).symm

theorem map_eq_of_rep {n : Nat} {t : Trie} {S1 S2 : KMap} (h1 : t.Rep n S1) (h2 : t.Rep n S2) : S1 = S2 :=
  funext fun k => Option.ext fun v => (h1.2 k v).symm.trans (h2.2 k v)

end Trie
end Canopy.Smt
