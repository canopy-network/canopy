import Canopy.Proof.StoreBatch
import Canopy.Proof.StoreSpec
import Canopy.Proof.StoreTxn
/-! `Rep`, the representation relation between the pebble key space and the versioned map (C10).
`Commit` preserves it (`Rollback`: `StoreRollback.lean`). A represented key space is well-formed; its
`h/` partition read at `v` shows the map as of `v`, its `s/` partition the map at the current version;
so point reads and prefix iteration of a handle over it return the map with the handle's pending
operations applied (`specView`; `Reads.get`, `Reads.iter` for any handle whose bottom reader shows a map). -/
namespace Canopy.Store

/-- the raw value of a committed write -/
def enc : Option Bytes → Bytes
  | some x => rawAlive x
  | none => rawDead

theorem rawOf_eq (op : TOp) : rawOf op = enc op.read := by cases op <;> rfl

theorem map_rawAlive_eq_some {o : Option Bytes} {raw : Bytes} :
    o.map rawAlive = some raw ↔ ∃ x, o = some x ∧ raw = rawAlive x :=
  Option.map_eq_some_iff.trans (exists_congr fun _ => and_congr_right fun _ => eq_comm)

theorem parseVal_rawAlive (x : Bytes) : parseVal (rawAlive x) = (aliveTomb, x) := rfl
theorem parseVal_enc_some (x : Bytes) : parseVal (enc (some x)) = (aliveTomb, x) := parseVal_rawAlive x
theorem parseVal_enc_none : parseVal (enc none) = (deadTomb, []) := rfl

theorem alive_ne_dead : aliveTomb ≠ deadTomb := by decide

/-- **`WFKeys`**: the keys the store is used with — non-empty, length-prefix decodable, at most 245
bytes, and no key a proper byte-prefix of another (the versioned suffix then never makes one user
key's physical entries interleave with another's) -/
structure WFKeys (K : Bytes → Prop) : Prop where
  ok : ∀ k, K k → k ≠ [] ∧ k.length ≤ 245 ∧ keyOK k = true
  pf : ∀ a b, K a → K b → a <+: b → a = b

/-- an iteration prefix no key is a *proper* prefix of -/
def PfxOK (K : Bytes → Prop) (p : Bytes) : Prop := ∀ k, K k → k <+: p → k = p

theorem lssPrefix_eq : lssPrefix = [2, 115, 47] := rfl
theorem hssPrefix_eq : hssPrefix = [2, 104, 47] := rfl

/-- one of the two state partitions `h/`, `s/` -/
def IsPart (p : Bytes) : Prop := p = hssPrefix ∨ p = lssPrefix

theorem part_prefix {p q a b : Bytes} (hp : IsPart p) (hq : IsPart q) (h : p ++ a <+: q ++ b) : p = q ∧ a <+: b := by
  rcases hp with rfl | rfl <;> rcases hq with rfl | rfl
  · exact ⟨rfl, (List.prefix_append_right_inj _).mp h⟩
  · rw [lssPrefix_eq, hssPrefix_eq] at h; simp [List.cons_prefix_cons] at h
  · rw [lssPrefix_eq, hssPrefix_eq] at h; simp [List.cons_prefix_cons] at h
  · exact ⟨rfl, (List.prefix_append_right_inj _).mp h⟩

theorem part_length {p : Bytes} (hp : IsPart p) : p ≠ [] ∧ p.length = 3 := by
  rcases hp with rfl | rfl <;> exact ⟨by decide, rfl⟩

theorem mkKey_uk_inj {u u' : Bytes} {w w' : Nat} (h : mkKey u w = mkKey u' w') : u = u' := by
  unfold mkKey at h
  have hl : u.length = u'.length := by
    simpa [invVer_length] using congrArg List.length h
  exact (List.append_inj h hl).1

theorem pkey_inj {p k k' : Bytes} {w w' : Nat} (hw : w ≤ maxVer) (hw' : w' ≤ maxVer)
    (h : mkKey (p ++ k) w = mkKey (p ++ k') w') : k = k' ∧ w = w' := by
  obtain ⟨h1, h2⟩ := mkKey_inj hw hw' h
  exact ⟨List.append_cancel_left h1, h2⟩

theorem hkey_ne_lkey (k k' : Bytes) (w w' : Nat) : mkKey (hssPrefix ++ k) w ≠ mkKey (lssPrefix ++ k') w' := by
  intro h
  have := mkKey_uk_inj h
  rw [lssPrefix_eq, hssPrefix_eq] at this
  simp at this

theorem opKey_commitBatch {ov : Overlay} {next : Nat} {op : BatchOp} (h : op ∈ commitBatch ov next) :
    ∃ a ∈ ov, opKey op = mkKey (lssPrefix ++ a.1) maxVer ∨ opKey op = mkKey (hssPrefix ++ a.1) next := by
  simp only [commitBatch, List.mem_append, List.mem_map] at h
  rcases h with (⟨a, ha, rfl⟩ | ⟨a, ha, rfl⟩) | hd
  · exact ⟨a, ha, Or.inl rfl⟩
  · exact ⟨a, ha, Or.inr rfl⟩
  · obtain ⟨a, ha, rfl⟩ := mem_filterMap_delOf hd
    exact ⟨a, ha, Or.inl rfl⟩

theorem batchLookup_commit_hss (ov : Overlay) (hs : SSorted ov) {next w : Nat} (hn : next ≤ maxVer) (hw : w ≤ maxVer)
    (k : Bytes) :
    batchLookup (commitBatch ov next) (mkKey (hssPrefix ++ k) w) =
      if w = next then (smGet ov k).map fun op => some (rawOf op) else none := by
  have hL : batchLookup (ov.map fun e => BatchOp.put (mkKey (lssPrefix ++ e.1) maxVer) (rawOf e.2))
      (mkKey (hssPrefix ++ k) w) = none :=
    batchLookup_map_none _ _ _ fun a _ e => hkey_ne_lkey _ _ _ _ e.symm
  have hD : batchLookup (ov.filterMap (delOf fun k => mkKey (lssPrefix ++ k) maxVer)) (mkKey (hssPrefix ++ k) w) = none :=
    batchLookup_of_not_key fun op hop => by
      obtain ⟨a, _, rfl⟩ := mem_filterMap_delOf hop
      exact fun e => hkey_ne_lkey _ _ _ _ e.symm
  simp only [commitBatch, batchLookup_append, hD, hL]
  by_cases hwn : w = next
  · subst hwn
    rw [if_pos rfl, batchLookup_ov_puts ov hs (fun a => mkKey (hssPrefix ++ a) w) (fun a b e => (pkey_inj hw hw e).1) rawOf k]
    cases smGet ov k <;> rfl
  · rw [if_neg hwn, batchLookup_map_none ov (fun e => BatchOp.put (mkKey (hssPrefix ++ e.1) next) (rawOf e.2)) _
      fun a _ e => hwn (pkey_inj hn hw e).2.symm]

theorem batchLookup_commit_lss (ov : Overlay) (hs : SSorted ov) (next : Nat) {w : Nat} (hw : w ≤ maxVer) (k : Bytes) :
    batchLookup (commitBatch ov next) (mkKey (lssPrefix ++ k) w) =
      if w = maxVer then (smGet ov k).map fun op => op.read.map rawAlive else none := by
  have hm := Nat.le_refl maxVer
  by_cases hwm : w = maxVer
  · subst hwm
    have hH : batchLookup (ov.map fun e => BatchOp.put (mkKey (hssPrefix ++ e.1) next) (rawOf e.2))
        (mkKey (lssPrefix ++ k) maxVer) = none :=
      batchLookup_map_none _ _ _ fun a _ e => hkey_ne_lkey _ _ _ _ e
    have hF : ∀ a b, mkKey (lssPrefix ++ a) maxVer = mkKey (lssPrefix ++ b) maxVer → a = b :=
      fun a b e => (pkey_inj hm hm e).1
    simp only [commitBatch, batchLookup_append, hH, if_true]
    rw [batchLookup_ov_dels ov hs _ hF k, batchLookup_ov_puts ov hs _ hF rawOf k]
    cases smGet ov k with
    | none => rfl
    | some op => cases op <;> rfl
  · rw [if_neg hwm]
    refine batchLookup_of_not_key fun op hop e => ?_
    obtain ⟨a, _, h1 | h1⟩ := opKey_commitBatch hop
    · exact hwm (pkey_inj hm hw (h1.symm.trans e)).2.symm
    · exact hkey_ne_lkey _ _ _ _ (h1.symm.trans e)

/-- **the representation relation**: the key space holds exactly (a) under `h/`, every committed write
at its version, and (b) under `s/` at version 2^64-1, the live keys of the current version -/
structure Rep (K : Bytes → Prop) (db : DB) (m : VMap) (ver : Nat) : Prop where
  sorted : SSorted db
  keys : ∀ e ∈ db, ∃ k w, K k ∧ w ≤ maxVer ∧ (e.1 = mkKey (hssPrefix ++ k) w ∨ e.1 = mkKey (lssPrefix ++ k) w)
  hss : ∀ k w raw, w ≤ maxVer →
    (smGet db (mkKey (hssPrefix ++ k) w) = some raw ↔ ∃ y, (k, w, y) ∈ m ∧ raw = enc y)
  lss : ∀ k w raw, w ≤ maxVer →
    (smGet db (mkKey (lssPrefix ++ k) w) = some raw ↔ (w = maxVer ∧ ∃ x, readAt m ver k = some x ∧ raw = rawAlive x))
  uniq : Uniq m
  vb : VersBound m ver
  mkeys : ∀ e ∈ m, K e.1
  ver_lt : ver < maxVer

theorem Rep.le_maxVer {K : Bytes → Prop} {db : DB} {m : VMap} {ver : Nat} (h : Rep K db m ver)
    {k : Bytes} {w : Nat} {y : Option Bytes} (hm : (k, w, y) ∈ m) : w ≤ maxVer :=
  Nat.le_of_lt (Nat.lt_of_le_of_lt (h.vb _ hm).2 h.ver_lt)

theorem Rep.init (K : Bytes → Prop) : Rep K [] [] 0 where
  sorted := List.Pairwise.nil
  keys := by intro e h; cases h
  hss := fun k w raw _ => ⟨nofun, fun ⟨_, h, _⟩ => by cases h⟩
  lss := fun k w raw _ => ⟨nofun, fun ⟨_, _, h, _⟩ => by cases h⟩
  uniq := by intro k w y y' h; cases h
  vb := by intro e h; cases h
  mkeys := by intro e h; cases h
  ver_lt := by decide

/-- **`Commit`** (state part) preserves the representation: the batch writes the pending operations
under `h/` at `version+1` and under `s/` at 2^64-1, and purges the latest-state tombstones -/
theorem Rep.commit {K : Bytes → Prop} {db : DB} {m : VMap} {ver : Nat} (h : Rep K db m ver)
    (ov : Overlay) (hs : SSorted ov) (hk : ∀ e ∈ ov, K e.1) (hver : ver + 1 < maxVer) :
    Rep K (applyBatch db (commitBatch ov (ver + 1))) (m.commit ov (ver + 1)) (ver + 1) := by
  refine ⟨sorted_applyBatch h.sorted _, ?_, ?_, ?_, uniq_commit h.uniq h.vb hs, versBound_commit h.vb, ?_, hver⟩
  · intro e he
    rcases mem_applyBatch _ he with he | he
    · exact h.keys e he
    · obtain ⟨a, ha, h1 | h1⟩ := opKey_commitBatch he
      · exact ⟨a.1, maxVer, hk a ha, Nat.le_refl _, Or.inr h1⟩
      · exact ⟨a.1, ver + 1, hk a ha, Nat.le_of_lt hver, Or.inl h1⟩
  · -- historical state: the pending operations at the new version, everything else as before
    intro k w raw hw
    rw [smGet_applyBatch h.sorted, batchLookup_commit_hss ov hs (Nat.le_of_lt hver) hw]
    by_cases hwn : w = ver + 1
    · subst hwn
      have hold : smGet db (mkKey (hssPrefix ++ k) (ver + 1)) = none :=
        Option.eq_none_iff_forall_ne_some.mpr fun r hg =>
          (h.hss k (ver + 1) r hw).mp hg |>.elim fun _ hy => h.vb.next_not_mem hy.1
      -- at the new version the map holds exactly the pending operation on `k`
      rw [if_pos rfl, hold]
      simp only [mem_commit, h.vb.next_not_mem, false_or, true_and, ← smGet_eq_some_iff hs, rawOf_eq]
      cases smGet ov k with
      | none => exact ⟨nofun, fun ⟨_, ⟨_, ho, _⟩, _⟩ => nomatch ho⟩
      | some op =>
        exact ⟨fun e => ⟨_, ⟨op, rfl, rfl⟩, (Option.some.inj e).symm⟩,
          fun ⟨_, ⟨_, ho, hy⟩, e⟩ => by cases ho; rw [e, hy]; rfl⟩
    · rw [if_neg hwn]
      simp only
      simp only [h.hss k w raw hw, mem_commit, hwn, false_and, or_false]
  · -- latest state: the pending operations applied to the previous latest view
    intro k w raw hw
    rw [smGet_applyBatch h.sorted, batchLookup_commit_lss ov hs _ hw, readAt_commit_new h.uniq h.vb hs]
    by_cases hwm : w = maxVer
    · subst hwm
      rw [if_pos rfl]
      unfold applyOv
      cases hg : smGet ov k with
      | none =>
        simp only [Option.map_none, h.lss k maxVer raw hw, true_and]
      | some op =>
        simp only [Option.map_some, true_and]
        exact map_rawAlive_eq_some
    · rw [if_neg hwm]
      simp only [h.lss k w raw hw, hwm, false_and]
  · intro e he
    obtain ⟨k, w, y⟩ := e
    rcases mem_commit.mp he with he | ⟨_, op, hop, _⟩
    · exact h.mkeys _ he
    · exact hk _ hop

theorem Rep.uk_of {K : Bytes → Prop} {db : DB} {m : VMap} {ver : Nat} (h : Rep K db m ver)
    {e : Entry} (he : e ∈ db) {u : Bytes} {w : Nat} (hu : e.1 = mkKey u w) :
    ∃ p k, IsPart p ∧ K k ∧ u = p ++ k := by
  obtain ⟨k, w', hk, _, hor⟩ := h.keys e he
  rcases hor with hor | hor
  · exact ⟨_, k, Or.inl rfl, hk, mkKey_uk_inj (hu.symm.trans hor)⟩
  · exact ⟨_, k, Or.inr rfl, hk, mkKey_uk_inj (hu.symm.trans hor)⟩

theorem Rep.wfl {K : Bytes → Prop} (hK : WFKeys K) {db : DB} {m : VMap} {ver : Nat} (h : Rep K db m ver) : WFL db := by
  refine ⟨h.sorted, ?_, ?_⟩
  · intro e he
    obtain ⟨k, w, hk, hw, hor⟩ := h.keys e he
    have hl := (hK.ok k hk).2.1
    have shaped : ∀ {p}, IsPart p → e.1 = mkKey (p ++ k) w →
        ∃ uk w, e.1 = mkKey uk w ∧ uk ≠ [] ∧ uk.length ≤ 248 ∧ w ≤ maxVer := fun hp he =>
      ⟨_, w, he, by simp [(part_length hp).1],
        by rw [List.length_append, (part_length hp).2]; exact Nat.add_le_add_left hl 3, hw⟩
    exact hor.elim (shaped (Or.inl rfl)) (shaped (Or.inr rfl))
  · intro e1 he1 e2 he2 u1 w1 u2 w2 h1 h2 hp
    obtain ⟨p1, k1, hp1, hk1, rfl⟩ := h.uk_of he1 h1
    obtain ⟨p2, k2, hp2, hk2, rfl⟩ := h.uk_of he2 h2
    obtain ⟨rfl, hpre⟩ := part_prefix hp1 hp2 hp
    rw [hK.pf k1 k2 hk1 hk2 hpre]

theorem Rep.compatK {K : Bytes → Prop} (hK : WFKeys K) {db : DB} {m : VMap} {ver : Nat} (h : Rep K db m ver)
    {p k : Bytes} (hp : IsPart p) (hk : K k) : KeyCompat db (p ++ k) := by
  intro e he u w hu hpre
  obtain ⟨p', k', hp', hk', rfl⟩ := h.uk_of he hu
  rcases hpre with hpre | hpre
  · obtain ⟨rfl, hkk⟩ := part_prefix hp' hp hpre
    rw [hK.pf k' k hk' hk hkk]
  · obtain ⟨rfl, hkk⟩ := part_prefix hp hp' hpre
    rw [hK.pf k k' hk hk' hkk]

theorem Rep.compatP {K : Bytes → Prop} {db : DB} {m : VMap} {ver : Nat} (h : Rep K db m ver)
    {p q : Bytes} (hp : IsPart p) (hq : PfxOK K q) : PrefixCompat db (p ++ q) := by
  intro e he u w hu hpre
  obtain ⟨p', k', hp', hk', rfl⟩ := h.uk_of he hu
  obtain ⟨rfl, hkq⟩ := part_prefix hp' hp hpre
  rw [hq k' hk' hkq]

theorem Rep.sees_hss {K : Bytes → Prop} {db : DB} {m : VMap} {ver : Nat} (h : Rep K db m ver) (v : Nat)
    (k x : Bytes) : Sees db v (hssPrefix ++ k) x ↔ readAt m v k = some x := by
  rw [readAt_iff h.uniq]
  constructor
  · rintro ⟨w, raw, hwv, hwm, hget, hmax, hal, hx⟩
    obtain ⟨y, hy, rfl⟩ := (h.hss k w _ hwm).mp hget
    cases y with
    | none => exact absurd rfl hal
    | some x' =>
      rw [parseVal_enc_some] at hx
      simp only at hx
      subst hx
      exact ⟨w, hy, hwv, fun w' y' hm' hw' =>
        hmax w' (enc y') hw' (h.le_maxVer hm') ((h.hss k w' _ (h.le_maxVer hm')).mpr ⟨y', hm', rfl⟩)⟩
  · rintro ⟨w, hm, hwv, hmax⟩
    refine ⟨w, enc (some x), hwv, h.le_maxVer hm, (h.hss k w _ (h.le_maxVer hm)).mpr ⟨some x, hm, rfl⟩, ?_,
      alive_ne_dead, rfl⟩
    intro w' raw' hw'v hw'm hget'
    obtain ⟨y', hy', _⟩ := (h.hss k w' _ hw'm).mp hget'
    exact hmax w' y' hy' hw'v

/-- **`lss_eq_hss`, key-space form**: the latest-state partition shows the versioned map as of the
current version -/
theorem Rep.sees_lss {K : Bytes → Prop} {db : DB} {m : VMap} {ver : Nat} (h : Rep K db m ver)
    (k x : Bytes) : Sees db maxVer (lssPrefix ++ k) x ↔ readAt m ver k = some x := by
  constructor
  · rintro ⟨w, raw, _, hwm, hget, _, _, hx⟩
    obtain ⟨_, x', hx', rfl⟩ := (h.lss k w _ hwm).mp hget
    have : x' = x := hx
    rw [← this]; exact hx'
  · intro hr
    refine ⟨maxVer, rawAlive x, Nat.le_refl _, Nat.le_refl _,
      (h.lss k maxVer _ (Nat.le_refl _)).mpr ⟨rfl, x, hr, rfl⟩, fun w' _ hw' _ _ => hw', alive_ne_dead, rfl⟩

/-- the handle's bottom reader (snapshot, read version, key prefix) shows the map `f` -/
structure Reads (K : Bytes → Prop) (h : Handle) (f : Bytes → Option Bytes) : Prop where
  db : WFL h.snap
  ver : h.rver ≤ maxVer
  compatK : ∀ k, K k → KeyCompat h.snap (h.pfx ++ k)
  compatP : ∀ p, PfxOK K p → PrefixCompat h.snap (h.pfx ++ p)
  base : ∀ k x, h.baseView k x ↔ f k = some x

/-- the spec: the pending operations of every layer applied to `f`, innermost last -/
def specView (layers : List Layer) (f : Bytes → Option Bytes) : Bytes → Option Bytes :=
  layers.foldr (fun l acc => applyOv l.ov acc) f

theorem applyOvR_iff (ov : Overlay) (g : Bytes → Option Bytes) (k x : Bytes) :
    applyOvR ov (fun k x => g k = some x) k x ↔ applyOv ov g k = some x := by
  unfold applyOvR applyOv
  cases smGet ov k <;> exact Iff.rfl

theorem specView_single (f : Bytes → Option Bytes) : specView [{}] f = f := by
  funext k
  simp [specView, applyOv, smGet]

theorem applyOv_write (ov : Overlay) (k : Bytes) (op : TOp) (f : Bytes → Option Bytes) (k' : Bytes) :
    applyOv (smSet ov k op) f k' = if k' = k then op.read else applyOv ov f k' := by
  unfold applyOv
  rw [smGet_smSet]
  by_cases h : k' = k <;> simp [h]

/-- layers a handle may carry: sorted, keys from `K` -/
def LayersOK (K : Bytes → Prop) (ls : List Layer) : Prop := ∀ l ∈ ls, SSorted l.ov ∧ ∀ e ∈ l.ov, K e.1

theorem LayersOK.ovKeys {K : Bytes → Prop} (hK : WFKeys K) {ls : List Layer} (h : LayersOK K ls) :
    ∀ l ∈ ls, SSorted l.ov ∧ OvKeysOK l.ov := by
  intro l hl
  refine ⟨(h l hl).1, fun e he => ?_⟩
  have := hK.ok e.1 ((h l hl).2 e he)
  exact ⟨this.1, Nat.le_trans this.2.1 (by decide)⟩

theorem LayersOK.tail {K : Bytes → Prop} {l : Layer} {ls : List Layer} (h : LayersOK K (l :: ls)) : LayersOK K ls :=
  fun x hx => h x (List.mem_cons_of_mem _ hx)

theorem LayersOK.cons_empty {K : Bytes → Prop} {ls : List Layer} (h : LayersOK K ls) (seek : Bool) :
    LayersOK K ({ ov := [], seek := seek } :: ls) := by
  intro x hx
  rcases List.mem_cons.mp hx with rfl | hx
  · exact ⟨List.Pairwise.nil, nofun⟩
  · exact h x hx

theorem layersOK_empty (K : Bytes → Prop) : LayersOK K [{}] :=
  LayersOK.cons_empty (fun _ h => absurd h List.not_mem_nil) true

theorem Reads.write {K : Bytes → Prop} {h : Handle} {f : Bytes → Option Bytes} (hr : Reads K h f) (k : Bytes) (op : TOp) :
    Reads K (h.write k op) f := by
  unfold Handle.write
  split
  · exact hr
  · exact ⟨hr.db, hr.ver, hr.compatK, hr.compatP, hr.base⟩

/-- **`get_refines`**: a point read through any nesting of transactions returns exactly what the
versioned map with the pending operations applied holds -/
theorem Reads.get {K : Bytes → Prop} (hK : WFKeys K) {h : Handle} {f : Bytes → Option Bytes} (hr : Reads K h f)
    {k : Bytes} (hk : K k) : h.get k = some (specView h.layers f k) := by
  have hbase : (VS.mk h.snap h.rver).get (h.pfx ++ k) = f k := Option.ext fun x =>
    (VS.get_sees h.snap hr.db h.rver hr.ver _ (hr.compatK k hk) x).trans (hr.base k x)
  unfold Handle.get specView
  generalize h.layers = ls
  induction ls with
  | nil => simp only [Handle.get.go, (hK.ok k hk).2.2, if_true, hbase, List.foldr_nil]
  | cons l ls ih =>
    simp only [Handle.get.go, List.foldr_cons, applyOv]
    cases smGet l.ov k with
    | none => exact ih
    | some op => rfl

/-- **`iter_refines`**: a forward or reverse prefix iteration through any nesting of transactions
yields exactly the scan of the versioned map with the pending operations applied: complete, strictly
ordered, duplicate-free -/
theorem Reads.iter {K : Bytes → Prop} (hK : WFKeys K) {h : Handle} {f : Bytes → Option Bytes} (hr : Reads K h f)
    (hl : LayersOK K h.layers) {p : Bytes} (hp : PfxOK K p) (hpk : keyOK p = true) (reverse : Bool) :
    ∃ out, h.iter p reverse = some out ∧ IsScan (specView h.layers f) p reverse out := by
  unfold Handle.iter specView
  simp only [hpk, Bool.not_true, Bool.false_eq_true, if_false]
  refine ⟨_, rfl, ?_⟩
  have hok := hl.ovKeys hK
  have hbase : IsScan f p reverse _ := (base_scan h hr.db hr.ver p reverse
    (match h.layers with | [] => true | l :: _ => l.seek) (hr.compatP p hp)).congr hr.base
  generalize ((VS.mk h.snap h.rver).iter (h.pfx ++ p) reverse _).map _ = base at hbase
  generalize h.layers = ls at hok
  -- one `Txn` at a time, from the store's own outwards
  induction ls with
  | nil => exact hbase
  | cons l ls ih =>
    have := hok l List.mem_cons_self
    exact (layer_scan l.ov this.1 this.2 _ p reverse _ (ih fun x hx => hok x (List.mem_cons_of_mem _ hx))).congr
      (applyOvR_iff l.ov _)

theorem Rep.reads_lss {K : Bytes → Prop} (hK : WFKeys K) {db : DB} {m : VMap} {ver : Nat} (h : Rep K db m ver)
    (ls : List Layer) :
    Reads K { snap := db, rver := maxVer, pfx := lssPrefix, layers := ls } (readAt m ver) :=
  ⟨h.wfl hK, Nat.le_refl _, fun _ hk => h.compatK hK (Or.inr rfl) hk, fun _ hp => h.compatP (Or.inr rfl) hp,
   fun k x => h.sees_lss k x⟩

theorem Rep.reads_hss {K : Bytes → Prop} (hK : WFKeys K) {db : DB} {m : VMap} {ver : Nat} (h : Rep K db m ver)
    {v : Nat} (hv : v ≤ maxVer) (ls : List Layer) :
    Reads K { snap := db, rver := v, pfx := hssPrefix, layers := ls } (readAt m v) :=
  ⟨h.wfl hK, hv, fun _ hk => h.compatK hK (Or.inl rfl) hk, fun _ hp => h.compatP (Or.inl rfl) hp,
   fun k x => h.sees_hss v k x⟩

end Canopy.Store
