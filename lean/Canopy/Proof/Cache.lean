import Canopy.Proof.Indexer
/-! The block cache on its own: what `Cache.add` and `Cache.touch` do to lookups; header reads and page queries
at most touch entries; and, under the keying by height, 64 misses evict every other entry (`reads_miss`,
`reads_evict`: for the witnesses of `Props/C10.lean`). -/
namespace Canopy.Store
open Canopy

theorem Cache.lookup_nil (k : Bytes) : Cache.lookup [] k = none := rfl

theorem Cache.lookup_cons (c : Cache) (k k' : Bytes) (b : BlockRes) :
    Cache.lookup ((k, b) :: c) k' = if k' = k then some b else c.lookup k' := by
  unfold Cache.lookup
  rw [List.find?_cons]
  by_cases h : k' = k
  · simp [h]
  · rw [if_neg h, beq_eq_false_iff_ne.mpr (Ne.symm h)]

theorem Cache.lookup_filter_ne (c : Cache) {k k' : Bytes} (h : k' ≠ k) :
    Cache.lookup (c.filter fun x => x.1 != k) k' = c.lookup k' := by
  unfold Cache.lookup
  rw [List.find?_filter]
  congr 2
  funext x
  by_cases hx : x.1 = k'
  · simp [hx, h]
  · simp [hx]

theorem Cache.lookup_add {c : Cache} {k k' : Bytes} {b b' : BlockRes} (h : (c.add k b).lookup k' = some b') :
    (k' = k ∧ b' = b) ∨ (k' ≠ k ∧ c.lookup k' = some b') := by
  have h' : Cache.lookup ((k, b) :: c.filter fun x => x.1 != k) k' = some b' := by
    obtain ⟨e, he, rfl⟩ := Option.map_eq_some_iff.mp h
    exact Option.map_eq_some_iff.mpr ⟨e, (List.take_prefix _ _).find?_eq_some he, rfl⟩
  rw [Cache.lookup_cons] at h'
  by_cases hk : k' = k
  · rw [if_pos hk] at h'; injection h' with h'
    exact Or.inl ⟨hk, h'.symm⟩
  · rw [if_neg hk, Cache.lookup_filter_ne c hk] at h'
    exact Or.inr ⟨hk, h'⟩

theorem Cache.lookup_touch (c : Cache) (k k' : Bytes) : (c.touch k).lookup k' = c.lookup k' := by
  unfold Cache.touch
  cases hf : c.find? (fun e => e.1 == k) with
  | none => rfl
  | some e =>
    have hek : e = (k, e.2) := by
      have : e.1 = k := by simpa using List.find?_some hf
      rw [← this]
    simp only
    rw [hek, Cache.lookup_cons]
    by_cases hk : k' = k
    · rw [if_pos hk, hk]
      unfold Cache.lookup
      rw [hf]; rfl
    · rw [if_neg hk, Cache.lookup_filter_ne c hk]

theorem Cache.lookup_add_self (c : Cache) (k : Bytes) (b : BlockRes) : (c.add k b).lookup k = some b := by
  simp [Cache.add, Cache.lookup, List.take_succ_cons]

theorem Cache.add_of_lookup_none {c : Cache} {k : Bytes} (b : BlockRes) (h : c.lookup k = none) :
    c.add k b = ((k, b) :: c).take 64 := by
  unfold Cache.add
  rw [List.filter_eq_self.mpr]
  intro x hx
  have := List.find?_eq_none.mp (Option.map_eq_none_iff.mp h) x hx
  simpa using this

theorem Cache.lookup_take_none {c : Cache} {k : Bytes} (n : Nat) (h : c.lookup k = none) : Cache.lookup (c.take n) k = none := by
  unfold Cache.lookup at h ⊢
  rw [Option.map_eq_none_iff, List.find?_eq_none] at h ⊢
  exact fun x hx => h x (List.mem_of_mem_take hx)

theorem getBlockHeaderByHeight_lookup (c : Cache) (v : IView) (h : Nat) (k : Bytes) :
    (getBlockHeaderByHeight .byHashKey c v h).2.lookup k = c.lookup k := by
  unfold getBlockHeaderByHeight
  simp only
  split
  · rfl
  · split
    · exact Cache.lookup_touch _ _ _
    · rfl

theorem getBlockForPage_lookup (c : Cache) (v : IView) (h : Nat) (t : Bool) (k : Bytes) :
    (getBlockForPage .none c v h t).2.lookup k = c.lookup k := by
  unfold getBlockForPage
  simp only
  split
  · exact Cache.lookup_touch _ _ _
  · rfl

theorem pageReads_lookup (v : IView) (hs : List Nat) (k : Bytes) : ∀ (acc : List BlockRes × Cache),
    (hs.foldl (fun (acc : List BlockRes × Cache) h =>
      let r := getBlockForPage .none acc.2 v h true
      (acc.1 ++ [r.1], r.2)) acc).2.lookup k = acc.2.lookup k := by
  induction hs with
  | nil => intro acc; rfl
  | cons h hs ih =>
    intro acc
    simp only [List.foldl_cons]
    rw [ih]
    exact getBlockForPage_lookup _ _ _ _ _

theorem getBlocks_lookup (c : Cache) (v : IView) (pn pp : Nat) (k : Bytes) :
    (getBlocks .none c v pn pp).2.lookup k = c.lookup k := by
  unfold getBlocks
  simp only
  split
  · simp only
    split
    · split
      · exact pageReads_lookup _ _ _ _
      · rw [getBlockForPage_lookup]; exact pageReads_lookup _ _ _ _
    · exact pageReads_lookup _ _ _ _
  · rfl

theorem getBlockByHeight_byHeight_miss {c : Cache} {h : Nat} (v : IView) (hl : c.lookup (be8 h) = none) :
    getBlockByHeight .byHeight c v h = (v.dbBlockByHeight h, c.add (be8 h) (v.dbBlockByHeight h)) := by
  simp only [getBlockByHeight, hl]

/-- once a view at `v` has missed height `h`, every reader is served what that view's database part said -/
theorem byHeight_miss_served (s : IState) (v h : Nat) (hm : s.cache.lookup (be8 h) = none) (w : IView) :
    (getBlockByHeight .byHeight (s.apply .byHeight (.getBlock (some v) h false)).cache w h).1 =
      (s.ro v).dbBlockByHeight h := by
  show (getBlockByHeight .byHeight (getBlockByHeight .byHeight s.cache (s.ro v) h).2 w h).1 = _
  rw [getBlockByHeight_byHeight_miss _ hm]
  simp only [getBlockByHeight, Cache.lookup_add_self]

theorem take_append_take {α : Type} (a x : List α) (m : Nat) : (a ++ x.take m).take m = (a ++ x).take m := by
  rw [List.take_append, List.take_append, List.take_take, Nat.min_eq_left (Nat.sub_le _ _)]

/-- reads by the store of pairwise distinct heights the cache does not hold are all misses: their entries line
up at the front, newest first -/
theorem reads_miss (hs : List Nat) : ∀ s : IState, s.cache.length ≤ 64 → (∀ h ∈ hs, h < B64) → hs.Nodup →
    (∀ h ∈ hs, s.cache.lookup (be8 h) = none) →
    (runIOps .byHeight s (hs.map fun h => .getBlock none h false)).cache =
      ((hs.reverse.map fun h => (be8 h, s.live.dbBlockByHeight h)) ++ s.cache).take 64 := by
  induction hs with
  | nil => intro s hl _ _ _; exact (List.take_of_length_le hl).symm
  | cons a hs ih =>
    intro s hl hb hn hf
    obtain ⟨hba, hb⟩ := List.forall_mem_cons.mp hb
    obtain ⟨hfa, hf⟩ := List.forall_mem_cons.mp hf
    have hstep : s.apply .byHeight (.getBlock none a false) =
        { s with cache := ((be8 a, s.live.dbBlockByHeight a) :: s.cache).take 64 } := by
      show { s with cache := (getBlockByHeight .byHeight s.cache s.live a).2 } = _
      rw [getBlockByHeight_byHeight_miss _ hfa, Cache.add_of_lookup_none _ hfa]
    rw [List.nodup_cons] at hn
    have hc := ih (s.apply .byHeight (.getBlock none a false)) (by rw [hstep]; exact List.length_take_le _ _)
      hb hn.2 (by
        intro h hh
        rw [hstep]
        refine Cache.lookup_take_none 64 ?_
        rw [Cache.lookup_cons, if_neg, hf h hh]
        intro e
        exact hn.1 (be8_inj (hb h hh) hba e ▸ hh))
    show (runIOps .byHeight (s.apply .byHeight (.getBlock none a false)) _).cache = _
    rw [hc, hstep]
    show (_ ++ List.take 64 _).take 64 = _
    rw [take_append_take, List.reverse_cons, List.map_append, List.append_assoc]
    rfl

/-- 64 of them leave nothing else in the cache -/
theorem reads_evict {hs : List Nat} {s : IState} (hl : s.cache.length ≤ 64) (hb : ∀ h ∈ hs, h < B64) (hn : hs.Nodup)
    (hf : ∀ h ∈ hs, s.cache.lookup (be8 h) = none) (h64 : hs.length = 64) {n : Nat} (hn64 : n < B64) (hk : n ∉ hs) :
    (runIOps .byHeight s (hs.map fun h => .getBlock none h false)).cache.lookup (be8 n) = none := by
  rw [reads_miss hs s hl hb hn hf, List.take_left' (by simp [h64])]
  unfold Cache.lookup
  rw [Option.map_eq_none_iff, List.find?_eq_none]
  intro e he hek
  obtain ⟨h, hh, rfl⟩ := List.mem_map.mp he
  rw [List.mem_reverse] at hh
  exact hk (be8_inj (hb h hh) hn64 (by simpa using hek) ▸ hh)

end Canopy.Store
