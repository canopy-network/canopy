import Canopy.Model.Dex
import Canopy.Proof.Guards
/-! Finite maps (`AM`), `stableSort` permutes, what each account, pool and sell-order function did when it succeeded
(`*_ok`), and the sell-order half of C20: `SInv` (for every chain the escrow pool holds the Σ of its open orders) is kept
by every order operation. Core Lean only. -/
namespace Canopy.Dex

namespace AM
variable {κ ν : Type} [DecidableEq κ]

theorem get?_set_self (m : List (κ × ν)) (k : κ) (v : ν) : get? (set m k v) k = some v := by
  induction m with
  | nil => simp [set, get?]
  | cons e m ih =>
    obtain ⟨k', v'⟩ := e
    by_cases h : k' = k <;> simp [set, get?, h, ih]

theorem get?_set_other {m : List (κ × ν)} {k k' : κ} {v : ν} (hne : k' ≠ k) :
    get? (set m k v) k' = get? m k' := by
  induction m with
  | nil => simp [set, get?, Ne.symm hne]
  | cons e m ih =>
    obtain ⟨k0, v0⟩ := e
    by_cases h : k0 = k
    · simp [set, get?, h, Ne.symm hne]
    · simp [set, get?, h, ih]

theorem get?_del_other {m : List (κ × ν)} {k k' : κ} (hne : k' ≠ k) :
    get? (del m k) k' = get? m k' := by
  induction m with
  | nil => simp [del, get?]
  | cons e m ih =>
    obtain ⟨k0, v0⟩ := e
    by_cases h : k0 = k
    · simp [del, get?, h, Ne.symm hne]
    · simp [del, get?, h, ih]

def keys (m : List (κ × ν)) : List κ := m.map (·.1)

theorem mem_of_get? (m : List (κ × ν)) (k : κ) (v : ν) (h : get? m k = some v) : (k, v) ∈ m := by
  induction m with
  | nil => cases h
  | cons e m ih =>
    obtain ⟨k0, v0⟩ := e
    unfold get? at h
    split at h
    · rename_i hk
      cases h; cases hk
      exact List.mem_cons_self
    · exact List.mem_cons_of_mem _ (ih h)

theorem mem_keys_of_get? (m : List (κ × ν)) (k : κ) (v : ν) (h : get? m k = some v) : k ∈ keys m :=
  List.mem_map_of_mem (mem_of_get? m k v h)

theorem get?_none_of_not_mem (m : List (κ × ν)) (k : κ) (h : k ∉ keys m) : get? m k = none :=
  Option.eq_none_iff_forall_ne_some.mpr fun v hv => h (mem_keys_of_get? m k v hv)

theorem mem_set (m : List (κ × ν)) (k : κ) (v : ν) (e : κ × ν) (h : e ∈ set m k v) : e = (k, v) ∨ e ∈ m := by
  induction m with
  | nil => exact Or.inl (List.mem_singleton.mp h)
  | cons e0 m ih =>
    unfold set at h
    split at h
    · exact (List.mem_cons.mp h).imp id (List.mem_cons_of_mem _)
    · rcases List.mem_cons.mp h with h | h
      · exact Or.inr (h ▸ List.mem_cons_self)
      · exact (ih h).imp id (List.mem_cons_of_mem _)

theorem keys_set (m : List (κ × ν)) (k : κ) (v : ν) :
    keys (set m k v) = if k ∈ keys m then keys m else keys m ++ [k] := by
  induction m with
  | nil => simp [set, keys]
  | cons e m ih =>
    obtain ⟨k0, v0⟩ := e
    by_cases h : k0 = k
    · simp [set, keys, h]
    · have hk : k ∈ keys ((k0, v0) :: m) ↔ k ∈ keys m := by simp [keys, Ne.symm h]
      simp only [set, if_neg h, hk]
      show k0 :: keys (set m k v) = _
      rw [ih]
      by_cases hm : k ∈ keys m <;> simp only [hm, if_true, if_false] <;> rfl

theorem keys_del (m : List (κ × ν)) (k : κ) : keys (del m k) = (keys m).erase k := by
  induction m with
  | nil => rfl
  | cons e m ih =>
    obtain ⟨k0, v0⟩ := e
    by_cases h : k0 = k <;> simp [del, keys, h]
    simpa [keys] using ih

theorem nodup_set {m : List (κ × ν)} {k : κ} {v : ν} (h : (keys m).Nodup) : (keys (set m k v)).Nodup := by
  rw [keys_set]
  split
  · exact h
  · rename_i hk
    exact List.nodup_append.mpr ⟨h, by simp, fun a ha b hb => by simp at hb; subst hb; exact fun e => hk (e ▸ ha)⟩

theorem nodup_del {m : List (κ × ν)} {k : κ} (h : (keys m).Nodup) : (keys (del m k)).Nodup := by
  rw [keys_del]; exact h.erase k

theorem get?_del_self {m : List (κ × ν)} {k : κ} (h : (keys m).Nodup) : get? (del m k) k = none :=
  get?_none_of_not_mem _ _ (by rw [keys_del]; exact fun hm => (h.mem_erase_iff.mp hm).1 rfl)

theorem forall_set {P : κ → ν → Prop} {m : List (κ × ν)} {k : κ} {v : ν}
    (hm : ∀ k' v', get? m k' = some v' → P k' v') (hv : P k v) : ∀ k' v', get? (set m k v) k' = some v' → P k' v' := by
  intro k' v' h
  by_cases hk : k' = k
  · subst hk; rw [get?_set_self] at h; cases h; exact hv
  · rw [get?_set_other hk] at h; exact hm k' v' h

theorem forall_del {P : κ → ν → Prop} {m : List (κ × ν)} {k : κ} (hnd : (keys m).Nodup)
    (hm : ∀ k' v', get? m k' = some v' → P k' v') : ∀ k' v', get? (del m k) k' = some v' → P k' v' := by
  intro k' v' h
  by_cases hk : k' = k
  · subst hk; rw [get?_del_self hnd] at h; cases h
  · rw [get?_del_other hk] at h; exact hm k' v' h

/-- weighted sum over a map -/
def wsum (f : κ → ν → Nat) : List (κ × ν) → Nat
  | [] => 0
  | (k, v) :: m => f k v + wsum f m

omit [DecidableEq κ] in
theorem wsum_append_one (f : κ → ν → Nat) (m : List (κ × ν)) (k : κ) (v : ν) :
    wsum f (m ++ [(k, v)]) = wsum f m + f k v := by
  induction m with
  | nil => simp [wsum]
  | cons e m ih => obtain ⟨k0, v0⟩ := e; simp [wsum, ih]; omega

theorem wsum_set_new (f : κ → ν → Nat) (m : List (κ × ν)) (k : κ) (v : ν) (h : get? m k = none) :
    wsum f (set m k v) = wsum f m + f k v := by
  induction m with
  | nil => simp [set, wsum]
  | cons e m ih =>
    obtain ⟨k0, v0⟩ := e
    by_cases h0 : k0 = k
    · simp [get?, h0] at h
    · simp [get?, h0] at h
      simp [set, h0, wsum, ih h]; omega

theorem wsum_set_old (f : κ → ν → Nat) (m : List (κ × ν)) (k : κ) (v v0 : ν) (h : get? m k = some v0) :
    wsum f (set m k v) + f k v0 = wsum f m + f k v := by
  induction m with
  | nil => simp [get?] at h
  | cons e m ih =>
    obtain ⟨k0, v1⟩ := e
    by_cases h0 : k0 = k
    · subst h0
      simp [get?] at h; subst h
      simp [set, wsum]; omega
    · simp [get?, h0] at h
      have := ih h
      simp [set, h0, wsum]; omega

theorem wsum_del (f : κ → ν → Nat) (m : List (κ × ν)) (k : κ) (v0 : ν) (h : get? m k = some v0) :
    wsum f (del m k) + f k v0 = wsum f m := by
  induction m with
  | nil => simp [get?] at h
  | cons e m ih =>
    obtain ⟨k0, v1⟩ := e
    by_cases h0 : k0 = k
    · subst h0
      simp [get?] at h; subst h
      simp [del, wsum]; omega
    · simp [get?, h0] at h
      have := ih h
      simp [del, h0, wsum]; omega

end AM

open List in
theorem insertSorted_perm {α : Type} (lt : α → α → Bool) (a : α) (l : List α) : insertSorted lt a l ~ a :: l := by
  induction l with
  | nil => exact Perm.refl _
  | cons b bs ih =>
    unfold insertSorted
    split
    · exact (Perm.cons b ih).trans (Perm.swap a b bs)
    · exact Perm.refl _

open List in
theorem stableSort_perm {α : Type} (lt : α → α → Bool) (l : List α) : stableSort lt l ~ l := by
  induction l with
  | nil => exact Perm.refl _
  | cons a l ih => exact (insertSorted_perm lt a _).trans (Perm.cons a ih)

/-- `ite_eq_iff` for a successful block, so that `simp only` applies it to `… = .ok r` alone -/
theorem ite_eq_ok {α : Type} {c : Prop} [Decidable c] {a b : M α} {r : α} :
    (if c then a else b) = .ok r ↔ c ∧ a = .ok r ∨ ¬c ∧ b = .ok r :=
  ite_eq_iff

theorem checkChainId_ok {c : Nat} {u : Unit} (h : checkChainId c = .ok u) : c ≠ 0 ∧ c ≤ maxChainId := by
  simp only [checkChainId, ite_error_eq_ok] at h
  omega

theorem maxChainId_lt {c : Nat} (h : c ≤ maxChainId) : c < U64 := by
  unfold maxChainId at h; unfold U64; omega

theorem escrowId_inj {c c' : Nat} (hc : c < U64) (hc' : c' < U64) (h : escrowId c = escrowId c') : c = c' := by
  unfold escrowId Gen.Dex.EscrowPoolAddend U64 at *
  omega

theorem getPool_setPool_self (s : State) (id : Nat) (p : Pool) : getPool (setPool s id p) id = p := by
  simp [getPool, setPool, AM.get?_set_self]

theorem getPool_setPool_other {s : State} {id id' : Nat} {p : Pool} (h : id' ≠ id) :
    getPool (setPool s id p) id' = getPool s id' := by
  simp [getPool, setPool, AM.get?_set_other h]

theorem poolAdd_self (s : State) (id n : Nat) :
    (getPool (poolAdd s id n) id).amount = ((getPool s id).amount + n) % U64 := by
  simp [poolAdd, getPool_setPool_self]

theorem poolAdd_other {s : State} {id id' n : Nat} (h : id' ≠ id) : getPool (poolAdd s id n) id' = getPool s id' := by
  simp [poolAdd, getPool_setPool_other h]

@[simp] theorem poolAdd_orders (s : State) (id n : Nat) : (poolAdd s id n).orders = s.orders := rfl
@[simp] theorem poolAdd_accounts (s : State) (id n : Nat) : (poolAdd s id n).accounts = s.accounts := rfl
@[simp] theorem setOrder_pools (s : State) (c : Nat) (o : SellOrder) : (setOrder s c o).pools = s.pools := rfl
@[simp] theorem setOrder_accounts (s : State) (c : Nat) (o : SellOrder) : (setOrder s c o).accounts = s.accounts := rfl
@[simp] theorem deleteOrder_pools (s : State) (c : Nat) (id : Bytes) : (deleteOrder s c id).pools = s.pools := rfl
@[simp] theorem deleteOrder_accounts (s : State) (c : Nat) (id : Bytes) : (deleteOrder s c id).accounts = s.accounts := rfl
@[simp] theorem setBalance_pools (s : State) (a : Bytes) (v : Nat) : (setBalance s a v).pools = s.pools := rfl
@[simp] theorem setBalance_orders (s : State) (a : Bytes) (v : Nat) : (setBalance s a v).orders = s.orders := rfl

theorem getPool_congr {s s' : State} (h : s'.pools = s.pools) (id : Nat) : getPool s' id = getPool s id := by
  simp [getPool, h]

theorem poolSub_ok {s s' : State} {id n : Nat} (h : poolSub s id n = .ok s') :
    n ≤ (getPool s id).amount ∧ s' = setPool s id { getPool s id with amount := (getPool s id).amount - n } := by
  simp only [poolSub, ite_error_eq_ok, Except.ok.injEq] at h
  exact ⟨by omega, h.2.symm⟩

/-- `s'` is `s` up to the accounts table, whose keys stay distinct -/
structure AccountsOnly (s s' : State) : Prop where
  orders : s'.orders = s.orders
  pools : s'.pools = s.pools
  next : s'.next = s.next
  locked : s'.locked = s.locked
  height : s'.height = s.height
  root : s'.root = s.root
  nodup : (AM.keys s.accounts).Nodup → (AM.keys s'.accounts).Nodup

theorem AccountsOnly.refl (s : State) : AccountsOnly s s := ⟨rfl, rfl, rfl, rfl, rfl, rfl, id⟩

theorem accountAdd_ok {s s' : State} {a : Bytes} {n : Nat} (h : accountAdd s a n = .ok s') :
    s' = s ∧ n = 0 ∨ s' = setBalance s a (balance s a + n) := by
  simp only [accountAdd, ite_eq_ok, ite_error_eq_ok, Except.ok.injEq] at h
  rcases h with ⟨hn, rfl⟩ | ⟨_, _, rfl⟩
  · exact Or.inl ⟨rfl, hn⟩
  · exact Or.inr rfl

theorem accountSub_ok {s s' : State} {a : Bytes} {n : Nat} (h : accountSub s a n = .ok s') :
    s' = s ∧ n = 0 ∨ s' = setBalance s a (balance s a - n) := by
  simp only [accountSub, ite_eq_ok, ite_error_eq_ok, Except.ok.injEq] at h
  rcases h with ⟨hn, rfl⟩ | ⟨_, _, rfl⟩
  · exact Or.inl ⟨rfl, hn⟩
  · exact Or.inr rfl

theorem balance_setBalance_self (s : State) (a : Bytes) (v : Nat) (hnd : (AM.keys s.accounts).Nodup) :
    balance (setBalance s a v) a = v := by
  unfold balance setBalance
  by_cases hv : v = 0
  · simp [hv, AM.get?_del_self hnd]
  · simp [hv, AM.get?_set_self]

theorem balance_setBalance_other (s : State) (a a' : Bytes) (v : Nat) (h : a' ≠ a) :
    balance (setBalance s a v) a' = balance s a' := by
  unfold balance setBalance
  by_cases hv : v = 0
  · simp [hv, AM.get?_del_other h]
  · simp [hv, AM.get?_set_other h]

theorem accountsOnly_setBalance {s : State} {a : Bytes} {v : Nat} : AccountsOnly s (setBalance s a v) := by
  refine ⟨rfl, rfl, rfl, rfl, rfl, rfl, fun hnd => ?_⟩
  unfold setBalance
  by_cases hv : v = 0
  · simp [hv]; exact AM.nodup_del hnd
  · simp [hv]; exact AM.nodup_set hnd

theorem accountsOnly_accountAdd {s s' : State} {a : Bytes} {n : Nat} (h : accountAdd s a n = .ok s') : AccountsOnly s s' := by
  rcases accountAdd_ok h with ⟨rfl, _⟩ | rfl
  · exact AccountsOnly.refl _
  · exact accountsOnly_setBalance

theorem accountsOnly_accountSub {s s' : State} {a : Bytes} {n : Nat} (h : accountSub s a n = .ok s') : AccountsOnly s s' := by
  rcases accountSub_ok h with ⟨rfl, _⟩ | rfl
  · exact AccountsOnly.refl _
  · exact accountsOnly_setBalance

theorem accountAdd_balance {s s' : State} {a : Bytes} {n : Nat} (h : accountAdd s a n = .ok s')
    (hnd : (AM.keys s.accounts).Nodup) :
    balance s' a = balance s a + n ∧ ∀ a', a' ≠ a → balance s' a' = balance s a' := by
  rcases accountAdd_ok h with ⟨rfl, rfl⟩ | rfl
  · exact ⟨rfl, fun _ _ => rfl⟩
  · exact ⟨balance_setBalance_self _ _ _ hnd, fun a' ha' => balance_setBalance_other _ _ _ _ ha'⟩

theorem getOrder_ok {s : State} {c : Nat} {id : Bytes} {o : SellOrder} :
    getOrder s c id = .ok o ↔ AM.get? s.orders (c, id) = some o := by
  unfold getOrder
  cases AM.get? s.orders (c, id) <;> simp

def escAmt (s : State) (c : Nat) : Nat := (getPool s (escrowId c)).amount

/-- Σ amounts of the open sell orders of chain `c` -/
def escrowSum (s : State) (c : Nat) : Nat :=
  AM.wsum (fun (k : Nat × Bytes) (o : SellOrder) => if k.1 = c then o.amount else 0) s.orders

structure Inv (s : State) : Prop where
  ordersNodup : (AM.keys s.orders).Nodup
  accountsNodup : (AM.keys s.accounts).Nodup
  eq : ∀ c, c ≤ maxChainId → escAmt s c = escrowSum s c

theorem escrowSum_setOrder_new (s : State) (chain : Nat) (o : SellOrder) (c : Nat)
    (h : AM.get? s.orders (chain, o.id) = none) :
    escrowSum (setOrder s chain o) c = escrowSum s c + (if chain = c then o.amount else 0) :=
  AM.wsum_set_new _ _ _ _ h

theorem escrowSum_setOrder_old (s : State) (chain : Nat) (o o0 : SellOrder) (c : Nat)
    (h : AM.get? s.orders (chain, o.id) = some o0) :
    escrowSum (setOrder s chain o) c + (if chain = c then o0.amount else 0)
      = escrowSum s c + (if chain = c then o.amount else 0) :=
  AM.wsum_set_old _ _ _ _ _ h

theorem escrowSum_deleteOrder (s : State) (chain : Nat) (id : Bytes) (o0 : SellOrder) (c : Nat)
    (h : AM.get? s.orders (chain, id) = some o0) :
    escrowSum (deleteOrder s chain id) c + (if chain = c then o0.amount else 0) = escrowSum s c :=
  AM.wsum_del _ _ _ _ h

theorem escrowSum_congr {s s' : State} (h : s'.orders = s.orders) (c : Nat) : escrowSum s' c = escrowSum s c := by
  simp [escrowSum, h]

theorem escAmt_congr {s s' : State} (h : s'.pools = s.pools) (c : Nat) : escAmt s' c = escAmt s c := by
  simp [escAmt, getPool_congr h]

/-- every stored order is stored under its own id (`SetOrder` keys by `order.Id`) -/
def Keyed (s : State) : Prop := ∀ k o, AM.get? s.orders k = some o → o.id = k.2

structure SInv (s : State) : Prop extends Inv s where
  keyed : Keyed s

theorem keyed_setOrder {s : State} {chain : Nat} {o : SellOrder} (h : Keyed s) : Keyed (setOrder s chain o) :=
  AM.forall_set (P := fun (k : Nat × Bytes) (o : SellOrder) => o.id = k.2) h rfl

theorem keyed_deleteOrder {s : State} {chain : Nat} {id : Bytes} (hnd : (AM.keys s.orders).Nodup) (h : Keyed s) :
    Keyed (deleteOrder s chain id) :=
  AM.forall_del (P := fun (k : Nat × Bytes) (o : SellOrder) => o.id = k.2) hnd h

theorem keyed_congr {s s' : State} (h : s'.orders = s.orders) (hk : Keyed s) : Keyed s' := by
  intro k o hko; rw [h] at hko; exact hk k o hko

/-- `n` moves from an account into the escrow pool of `chain`, which does not overflow: of what `SInv` reads, only that
pool changes -/
theorem escrowIn {s s1 : State} {a : Bytes} {chain n : Nat} (hi : SInv s) (hch : chain < U64)
    (h1 : accountSub s a n = .ok s1) (hfit : escAmt s chain + n < U64) :
    (poolAdd s1 (escrowId chain) n).orders = s.orders ∧ (AM.keys (poolAdd s1 (escrowId chain) n).accounts).Nodup ∧
    ∀ c, c < U64 → escAmt (poolAdd s1 (escrowId chain) n) c = if chain = c then escAmt s c + n else escAmt s c := by
  have a1 := accountsOnly_accountSub h1
  refine ⟨a1.orders, a1.nodup hi.accountsNodup, fun c hc => ?_⟩
  unfold escAmt at hfit ⊢
  by_cases h : chain = c
  · subst h; rw [poolAdd_self, if_pos rfl, getPool_congr a1.pools, Nat.mod_eq_of_lt hfit]
  · have : escrowId c ≠ escrowId chain := fun e => h (escrowId_inj hc hch e).symm
    rw [poolAdd_other this, if_neg h, getPool_congr a1.pools]

/-- `n` moves from the escrow pool of `chain` to an account -/
theorem escrowOut {s s1 s2 : State} {a : Bytes} {chain n : Nat} (hi : SInv s) (hch : chain < U64)
    (h1 : poolSub s (escrowId chain) n = .ok s1) (h2 : accountAdd s1 a n = .ok s2) :
    s2.orders = s.orders ∧ (AM.keys s2.accounts).Nodup ∧ n ≤ escAmt s chain ∧
    ∀ c, c < U64 → escAmt s2 c = if chain = c then escAmt s c - n else escAmt s c := by
  obtain ⟨hle, rfl⟩ := poolSub_ok h1
  have a2 := accountsOnly_accountAdd h2
  refine ⟨a2.orders, a2.nodup hi.accountsNodup, hle, fun c hc => ?_⟩
  unfold escAmt
  rw [getPool_congr a2.pools]
  by_cases h : chain = c
  · subst h; rw [getPool_setPool_self, if_pos rfl]
  · have : escrowId c ≠ escrowId chain := fun e => h (escrowId_inj hc hch e).symm
    rw [getPool_setPool_other this, if_neg h]

/-- writing an order into a state that has the order book of an invariant one: the distinct keys and `Keyed` come with
`setOrder`, the escrow equation is the caller's -/
theorem sinv_setOrder {s s2 : State} {chain : Nat} {o : SellOrder} (hi : SInv s) (hord : s2.orders = s.orders)
    (hacc : (AM.keys s2.accounts).Nodup)
    (heq : ∀ c, c ≤ maxChainId → escAmt s2 c = escrowSum (setOrder s2 chain o) c) : SInv (setOrder s2 chain o) where
  ordersNodup := by simp only [setOrder]; rw [hord]; exact AM.nodup_set hi.ordersNodup
  accountsNodup := hacc
  eq := fun c hc => (escAmt_congr (setOrder_pools _ _ _) c).trans (heq c hc)
  keyed := keyed_setOrder (keyed_congr hord hi.keyed)

theorem createOrder_ok {s s' : State} {m : CreateOrder} (h : createOrder s m = .ok s') :
    ∃ s1, accountSub s m.seller m.amount = .ok s1 ∧ m.chain ≤ maxChainId ∧
      s' = setOrder (poolAdd s1 (escrowId m.chain) m.amount) m.chain
        { id := m.id, committee := m.chain, data := m.data, amount := m.amount, requested := m.requested,
          sellerRecv := m.sellerRecv, seller := m.seller } := by
  simp only [createOrder, bind_eq_ok, throw_bind, pure_eq_ok, ite_error_eq_ok] at h
  obtain ⟨u, hu, _, _, _, _, _, _, _, s1, h1, rfl⟩ := h
  exact ⟨s1, h1, (checkChainId_ok hu).2, rfl⟩

theorem sinv_createOrder {s s' : State} {m : CreateOrder} (hi : SInv s) (h : createOrder s m = .ok s')
    (hfresh : AM.get? s.orders (m.chain, m.id) = none) (hfit : escAmt s m.chain + m.amount < U64) : SInv s' := by
  obtain ⟨s1, hs1, hch, rfl⟩ := createOrder_ok h
  obtain ⟨hord, hacc, hesc⟩ := escrowIn hi (maxChainId_lt hch) hs1 hfit
  refine sinv_setOrder hi hord hacc fun c hc => ?_
  rw [escrowSum_setOrder_new _ _ _ _ (by rw [hord]; exact hfresh), escrowSum_congr hord, hesc c (maxChainId_lt hc),
    hi.eq c hc]
  split <;> rfl

/-- an order of the book is overwritten under its id while the escrow of its chain moves by the difference of the amounts -/
theorem sinv_setOrder_replace {s s2 : State} {chain : Nat} {id : Bytes} {o o' : SellOrder} (hi : SInv s)
    (hord : s2.orders = s.orders) (hacc : (AM.keys s2.accounts).Nodup)
    (hget : AM.get? s.orders (chain, id) = some o) (hid : o'.id = o.id)
    (hesc : ∀ c, c < U64 →
      escAmt s2 c + (if chain = c then o.amount else 0) = escAmt s c + (if chain = c then o'.amount else 0)) :
    SInv (setOrder s2 chain o') := by
  refine sinv_setOrder hi hord hacc fun c hc => ?_
  have hsum := escrowSum_setOrder_old s2 chain o' o c (by rw [hord, hid, hi.keyed _ _ hget]; exact hget)
  rw [escrowSum_congr hord] at hsum
  have := hesc c (maxChainId_lt hc)
  have := hi.eq c hc
  omega

theorem lockOrder_ok {s s' : State} {chain : Nat} {l : LockOrder} (h : lockOrder s chain l = .ok s') :
    ∃ o, AM.get? s.orders (chain, l.id) = some o ∧
      s' = setOrder s chain { o with buyerRecv := l.buyerRecv, buyerSend := l.buyerSend, deadline := l.deadline } := by
  simp only [lockOrder, bind_eq_ok, throw_bind, pure_eq_ok, ite_error_eq_ok, getOrder_ok] at h
  obtain ⟨o, ho, _, rfl⟩ := h
  exact ⟨o, ho, rfl⟩

theorem resetOrder_ok {s s' : State} {chain : Nat} {id : Bytes} (h : resetOrder s chain id = .ok s') :
    ∃ o, AM.get? s.orders (chain, id) = some o ∧
      s' = setOrder s chain { o with buyerRecv := [], buyerSend := [], deadline := 0 } := by
  simp only [resetOrder, bind_eq_ok, pure_eq_ok, getOrder_ok] at h
  obtain ⟨o, ho, rfl⟩ := h
  exact ⟨o, ho, rfl⟩

theorem sinv_lockOrder {s s' : State} {chain : Nat} {l : LockOrder} (hi : SInv s) (h : lockOrder s chain l = .ok s') : SInv s' := by
  obtain ⟨o, hg, rfl⟩ := lockOrder_ok h
  exact sinv_setOrder_replace hi rfl hi.accountsNodup hg rfl fun _ _ => rfl

theorem sinv_resetOrder {s s' : State} {chain : Nat} {id : Bytes} (hi : SInv s) (h : resetOrder s chain id = .ok s') : SInv s' := by
  obtain ⟨o, hg, rfl⟩ := resetOrder_ok h
  exact sinv_setOrder_replace hi rfl hi.accountsNodup hg rfl fun _ _ => rfl

/-- what removing an order (close: to the buyer; delete: to the seller) does, exactly -/
theorem remove_exact {s s1 s2 : State} {chain : Nat} {id : Bytes} {o : SellOrder} {a : Bytes} (hi : SInv s) (hch : chain < U64)
    (h1 : poolSub s (escrowId chain) o.amount = .ok s1) (h2 : accountAdd s1 a o.amount = .ok s2) :
    (∀ c, c < U64 → escAmt (deleteOrder s2 chain id) c = if chain = c then escAmt s c - o.amount else escAmt s c) ∧
    o.amount ≤ escAmt s chain ∧
    balance (deleteOrder s2 chain id) a = balance s a + o.amount ∧
    (∀ a', a' ≠ a → balance (deleteOrder s2 chain id) a' = balance s a') ∧
    AM.get? (deleteOrder s2 chain id).orders (chain, id) = none := by
  obtain ⟨hord, _, hle, hesc⟩ := escrowOut hi hch h1 h2
  obtain ⟨_, rfl⟩ := poolSub_ok h1
  have hb := accountAdd_balance h2 hi.accountsNodup
  refine ⟨hesc, hle, hb.1, hb.2, ?_⟩
  simp only [deleteOrder]; rw [hord]
  exact AM.get?_del_self hi.ordersNodup

theorem sinv_remove {s s1 s2 : State} {chain : Nat} {id : Bytes} {o : SellOrder} {a : Bytes} (hi : SInv s) (hch : chain < U64)
    (hg : AM.get? s.orders (chain, id) = some o)
    (h1 : poolSub s (escrowId chain) o.amount = .ok s1) (h2 : accountAdd s1 a o.amount = .ok s2) :
    SInv (deleteOrder s2 chain id) := by
  obtain ⟨hord, hacc, _, hesc⟩ := escrowOut hi hch h1 h2
  refine { ordersNodup := ?_, accountsNodup := hacc, eq := ?_,
           keyed := keyed_deleteOrder (by rw [hord]; exact hi.ordersNodup) (keyed_congr hord hi.keyed) }
  · simp only [deleteOrder]; rw [hord]; exact AM.nodup_del hi.ordersNodup
  · intro c hc'
    have hsum := escrowSum_deleteOrder s2 chain id o c (by rw [hord]; exact hg)
    rw [escrowSum_congr hord] at hsum
    have := hi.eq c hc'
    rw [escAmt_congr (deleteOrder_pools _ _ _), hesc c (maxChainId_lt hc')]
    by_cases hcc : chain = c
    · subst hcc; rw [if_pos rfl] at hsum ⊢; omega
    · rw [if_neg hcc] at hsum ⊢; omega

theorem deleteOrderMsg_ok {s s' : State} {chain : Nat} {id : Bytes} (h : deleteOrderMsg s chain id = .ok s') :
    ∃ o s1 s2, chain ≤ maxChainId ∧ AM.get? s.orders (chain, id) = some o ∧ o.buyerRecv = [] ∧
      poolSub s (escrowId chain) o.amount = .ok s1 ∧ accountAdd s1 o.seller o.amount = .ok s2 ∧
      s' = deleteOrder s2 chain id := by
  simp only [deleteOrderMsg, bind_eq_ok, throw_bind, pure_eq_ok, ite_error_eq_ok, getOrder_ok, Decidable.not_not] at h
  obtain ⟨u, hu, o, ho, hb, s1, h1, s2, h2, rfl⟩ := h
  exact ⟨o, s1, s2, (checkChainId_ok hu).2, ho, hb, h1, h2, rfl⟩

theorem sinv_deleteOrderMsg {s s' : State} {chain : Nat} {id : Bytes} (hi : SInv s) (h : deleteOrderMsg s chain id = .ok s') : SInv s' := by
  obtain ⟨o, s1, s2, hch, hg, _, h1, h2, rfl⟩ := deleteOrderMsg_ok h
  exact sinv_remove hi (maxChainId_lt hch) hg h1 h2

theorem closeOrder_ok {s s' : State} {chain : Nat} {id : Bytes} (h : closeOrder s chain id = .ok s') :
    ∃ o s1 s2, AM.get? s.orders (chain, id) = some o ∧ o.buyerRecv ≠ [] ∧
      poolSub s (escrowId chain) o.amount = .ok s1 ∧ accountAdd s1 o.buyerRecv o.amount = .ok s2 ∧
      s' = deleteOrder s2 chain id := by
  simp only [closeOrder, bind_eq_ok, throw_bind, pure_eq_ok, ite_error_eq_ok, getOrder_ok] at h
  obtain ⟨o, ho, hb, _, _, s1, h1, s2, h2, rfl⟩ := h
  exact ⟨o, s1, s2, ho, hb, h1, h2, rfl⟩

theorem sinv_closeOrder {s s' : State} {chain : Nat} {id : Bytes} (hi : SInv s) (hch : chain < U64)
    (h : closeOrder s chain id = .ok s') : SInv s' := by
  obtain ⟨o, s1, s2, hg, _, h1, h2, rfl⟩ := closeOrder_ok h
  exact sinv_remove hi hch hg h1 h2

theorem editOrder_ok {s s' : State} {m : EditOrder} (h : editOrder s m = .ok s') :
    ∃ o s2, m.chain ≤ maxChainId ∧ AM.get? s.orders (m.chain, m.id) = some o ∧ o.buyerRecv = [] ∧
      ((m.amount > o.amount ∧ ∃ s1, accountSub s o.seller (m.amount - o.amount) = .ok s1 ∧
          s2 = poolAdd s1 (escrowId m.chain) (m.amount - o.amount)) ∨
       (m.amount < o.amount ∧ ∃ s1, poolSub s (escrowId m.chain) (o.amount - m.amount) = .ok s1 ∧
          accountAdd s1 o.seller (o.amount - m.amount) = .ok s2) ∨
       (m.amount = o.amount ∧ s2 = s)) ∧
      s' = setOrder s2 m.chain { id := o.id, committee := m.chain, data := m.data, amount := m.amount,
                                  requested := m.requested, sellerRecv := m.sellerRecv, seller := o.seller } := by
  simp only [editOrder, bind_eq_ok, throw_bind, pure_bind, pure_eq_ok, ite_eq_ok, ite_error_eq_ok, getOrder_ok,
    Decidable.not_not] at h
  obtain ⟨u, hu, _, _, _, _, o, ho, hb, _, h⟩ := h
  have hc := (checkChainId_ok hu).2
  rcases h with ⟨hgt, s1, h1, rfl⟩ | ⟨hgt, ⟨hlt, s1, h1, s2, h2, rfl⟩ | ⟨hlt, rfl⟩⟩
  · exact ⟨o, _, hc, ho, hb, Or.inl ⟨hgt, s1, h1, rfl⟩, rfl⟩
  · exact ⟨o, s2, hc, ho, hb, Or.inr (Or.inl ⟨hlt, s1, h1, h2⟩), rfl⟩
  · exact ⟨o, s, hc, ho, hb, Or.inr (Or.inr ⟨by omega, rfl⟩), rfl⟩

theorem sinv_editOrder {s s' : State} {m : EditOrder} (hi : SInv s) (h : editOrder s m = .ok s')
    (hfit : ∀ o, AM.get? s.orders (m.chain, m.id) = some o → escAmt s m.chain + (m.amount - o.amount) < U64) : SInv s' := by
  obtain ⟨o, s2, hch, hg, _, hcase, rfl⟩ := editOrder_ok h
  have hch64 := maxChainId_lt hch
  rcases hcase with ⟨hgt, s1, h1, rfl⟩ | ⟨hlt, s1, h1, h2⟩ | ⟨heq, rfl⟩
  · obtain ⟨hord, hacc, hesc⟩ := escrowIn hi hch64 h1 (hfit o hg)
    refine sinv_setOrder_replace hi hord hacc hg rfl fun c hc => ?_
    rw [hesc c hc]
    show _ = escAmt s c + (if m.chain = c then m.amount else 0)
    split <;> omega
  · obtain ⟨hord, hacc, hle, hesc⟩ := escrowOut hi hch64 h1 h2
    refine sinv_setOrder_replace hi hord hacc hg rfl fun c hc => ?_
    rw [hesc c hc]
    show _ = escAmt s c + (if m.chain = c then m.amount else 0)
    split
    · subst c; omega
    · rfl
  · exact sinv_setOrder_replace hi rfl hi.accountsNodup hg rfl fun c _ => by rw [heq]

/-- an instruction for an order that is not in the book finds nothing (inside a certificate it is then skipped: `orSkip`) -/
theorem gone_finds_nothing {s : State} {chain : Nat} {id : Bytes} (h : AM.get? s.orders (chain, id) = none) :
    closeOrder s chain id = .error .OrderNotFound ∧ resetOrder s chain id = .error .OrderNotFound ∧
    (∀ l : LockOrder, l.id = id → lockOrder s chain l = .error .OrderNotFound) ∧
    (∀ u, checkChainId chain = .ok u → deleteOrderMsg s chain id = .error .OrderNotFound) := by
  have hg : getOrder s chain id = .error .OrderNotFound := by simp [getOrder, h]
  refine ⟨by simp [closeOrder, hg, bind, Except.bind], by simp [resetOrder, hg, bind, Except.bind], ?_, ?_⟩
  · intro l hl; subst hl; simp [lockOrder, hg, bind, Except.bind]
  · intro u hu; simp [deleteOrderMsg, hu, hg, bind, Except.bind]

theorem sinv_orSkip {s : State} {r : M State} (hi : SInv s) (h : ∀ s', r = .ok s' → SInv s') : SInv (orSkip s r) := by
  unfold orSkip
  split
  · exact h _ rfl
  · exact hi

theorem sinv_handleCommitteeSwaps {s : State} {chain : Nat} (o : Orders) (hi : SInv s) (hch : chain < U64) :
    SInv (handleCommitteeSwaps s chain o) := by
  unfold handleCommitteeSwaps
  -- the three folds from the outside in: closes, then resets, then locks
  refine List.foldlRecOn (motive := SInv) _ _ ?_ fun s hs id _ => sinv_orSkip hs fun s' h => sinv_closeOrder hs hch h
  refine List.foldlRecOn (motive := SInv) _ _ ?_ fun s hs id _ => ?_
  · refine List.foldlRecOn (motive := SInv) _ _ hi fun s hs l _ => ?_
    split
    · exact hs
    · exact sinv_orSkip hs fun s' h => sinv_lockOrder hs h
  · split
    · exact hs
    · exact sinv_orSkip hs fun s' h => sinv_resetOrder hs h

end Canopy.Dex
