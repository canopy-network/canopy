import Canopy.Model.BftExec
/-! Small facts about the op-line encodings of M-bft-exec. -/
namespace Canopy.Bft

theorem blk_ext (a b : Nat) (h1 : blkHashOf a = blkHashOf b) (h2 : resHashOf a = resHashOf b) : a = b := by
  unfold blkHashOf at h1; unfold resHashOf at h2
  rw [← Nat.div_add_mod a 65536, h1, h2, Nat.div_add_mod]

theorem blk_enc (bh rh : Nat) (h : rh < 65536) : blkHashOf (encBlk bh rh) = bh ∧ resHashOf (encBlk bh rh) = rh := by
  unfold blkHashOf resHashOf encBlk
  rw [Nat.mul_comm, Nat.mul_add_div (by decide), Nat.mul_add_mod, Nat.div_eq_of_lt h, Nat.mod_eq_of_lt h]
  exact ⟨rfl, rfl⟩

end Canopy.Bft
