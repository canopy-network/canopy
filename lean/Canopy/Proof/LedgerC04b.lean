import Canopy.Proof.LedgerC04
/-! C04, second part: automatic begin/end-block actions, byzantine handling, certificate results, parameter changes. -/
namespace Canopy.Ledger
open AMap

/-- `ForceUnstakeValidator` does nothing, or starts the unstaking of an existing validator that is not yet unstaking -/
theorem forceUnstakeValidator_cases (L : Ledger) (a : Addr) :
    (forceUnstakeValidator L a = L ∧ ∀ v, valGet? L a = some v → v.unstakingHeight ≠ 0) ∨
    ∃ val, valGet? L a = some val ∧ val.unstakingHeight = 0 ∧
      forceUnstakeValidator L a = setValidatorUnstaking L a val ((L.height + L.params.unstakingBlocks) % U64) := by
  unfold forceUnstakeValidator
  split
  · next hv => exact Or.inl ⟨rfl, fun v hv' => by rw [hv] at hv'; cases hv'⟩
  · next val hv =>
    split
    · next hu => exact Or.inl ⟨rfl, fun v hv' => by rw [hv] at hv'; cases hv'; exact hu⟩
    · next hu => exact Or.inr ⟨val, hv, Decidable.not_not.1 hu, rfl⟩

theorem forceUnstakeValidator_moves (L : Ledger) (a : Addr) : Moves L (forceUnstakeValidator L a) := by
  rcases forceUnstakeValidator_cases L a with ⟨e, _⟩ | ⟨val, hv, _, e⟩
  · rw [e]; exact Moves.refl L
  · rw [e]; exact moves_of_money (setValidatorUnstaking_money ..) (stakeSum_setValidatorUnstaking _ hv rfl)

theorem forceUnstakeMaxPaused_moves (L : Ledger) : Moves L (forceUnstakeMaxPaused L) := by
  unfold forceUnstakeMaxPaused
  dsimp only
  have h1 := foldl_rel Moves.refl Moves.trans forceUnstakeValidator_moves (dueAt L.paused L.height) L
  have h2 := foldl_rel SameBal.refl SameBal.trans (f := fun L a => { L with paused := KSet.del L.paused (L.height, a) })
    (fun L a => ⟨rfl, rfl, rfl, rfl⟩) (dueAt L.paused L.height) ((dueAt L.paused L.height).foldl forceUnstakeValidator L)
  exact h1.trans h2.moves

/-- what a successful step of `DeleteFinishedUnstaking` did: the stake went back to the output address, then the record
was deleted -/
theorem finishUnstakingStep_ok {L L' : Ledger} {a : Addr} (h : finishUnstakingStep L a = .ok L') :
    ∃ val L1, valGet? L a = some val ∧ accountAdd L val.output val.stake = .ok L1 ∧ deleteValidator L1 a val = .ok L' := by
  unfold finishUnstakingStep at h
  split at h
  · cases h
  · next val hv =>
    split at h
    · cases h
    · next L1 h1 => exact ⟨val, L1, hv, h1, h⟩

theorem finishUnstakingStep_moves {L L' : Ledger} {a : Addr} (h : finishUnstakingStep L a = .ok L') : Moves L L' := by
  obtain ⟨val, L1, hv, h1, h⟩ := finishUnstakingStep_ok h
  obtain ⟨t1, b1⟩ := accountAdd_bal h1
  obtain ⟨acc, vs, rfl, _⟩ := accountAdd_ok h1
  have hv1 : valGet? { L with accounts := acc, vesting := vs } a = some val := hv
  obtain ⟨t, b⟩ := deleteValidator_bal hv1 h
  exact ⟨by omega, by omega⟩

/-- what a successful `DeleteFinishedUnstaking` did: one step per marker due at this height, then the markers go -/
theorem deleteFinishedUnstaking_run {L L' : Ledger} (h : deleteFinishedUnstaking L = .ok L') :
    ∃ L1, (dueAt L.unstaking L.height).foldlM finishUnstakingStep L = .ok L1 ∧
      L' = (dueAt L.unstaking L.height).foldl (fun L a => { L with unstaking := KSet.del L.unstaking (L.height, a) }) L1 := by
  unfold deleteFinishedUnstaking at h
  dsimp only at h
  split at h
  · cases h
  · next L1 h1 => exact ⟨L1, h1, (Except.ok.inj h).symm⟩

theorem deleteFinishedUnstaking_moves {L L' : Ledger} (h : deleteFinishedUnstaking L = .ok L') : Moves L L' := by
  obtain ⟨L1, h1, rfl⟩ := deleteFinishedUnstaking_run h
  have m1 := foldlM_rel Moves.refl Moves.trans (fun L x L' h => finishUnstakingStep_moves h) _ h1
  have h2 := foldl_rel SameBal.refl SameBal.trans (f := fun L a => { L with unstaking := KSet.del L.unstaking (L.height, a) })
    (fun L a => ⟨rfl, rfl, rfl, rfl⟩) (dueAt L.unstaking L.height) L1
  exact m1.trans h2.moves

/-- what `FundCommitteeRewardPools` is scheduled to mint at this height: `InitialTokensPerBlock >> halvenings` -/
def scheduledMint (L : Ledger) : Nat := L.cfg.initialTokensPerBlock / 2 ^ (L.height / L.cfg.blocksPerHalvening)

theorem foldl_mintToPool (per : Nat) : ∀ (cs : List Nat) (L : Ledger), InvSupply L → L.supply.total + per * cs.length < U64 →
    Step (per * cs.length) 0 L (cs.foldl (fun L c => mintToPool L c per) L)
  | [], L, _, _ => by simpa using Moves.refl L
  | c :: cs, L, hi, hx => by
    simp only [List.length_cons, Nat.mul_succ] at hx ⊢
    have s1 := mintToPool_mints (id := c) hi (x := per) (by omega)
    have i1 : InvSupply (mintToPool L c per) := s1.inv hi (by unfold mintToPool; exact addToTotal_lt _ _)
    have s2 := foldl_mintToPool per cs (mintToPool L c per) i1 (by have := s1.1; omega)
    simp only [List.foldl_cons]
    have := s1.trans s2
    simpa [Nat.add_comm] using this

/-- what a successful `FundCommitteeRewardPools` did: nothing, or of the scheduled mint the part `A` left after the DAO's
percentage is shared equally among the subsidized committees and the rest goes to the DAO pool -/
theorem fundCommitteeRewardPools_run {L L' : Ledger} (h : fundCommitteeRewardPools L = .ok L') :
    L' = L ∨ ∃ A, A ≤ scheduledMint L ∧
      L' = (subsidizedCommittees L).foldl (fun X c => mintToPool X c (A / (subsidizedCommittees L).length))
        (mintToPool L Canopy.Gen.LedgerFacts.daoPoolId (scheduledMint L - A)) := by
  unfold fundCommitteeRewardPools at h
  obtain ⟨_, h⟩ := ite_error_eq_ok.1 h
  dsimp only at h
  rcases ite_eq_iff.1 h with ⟨_, h⟩ | ⟨_, h⟩
  · exact Or.inl (Except.ok.inj h).symm
  · refine Or.inr ⟨_, ?_, (Except.ok.inj h).symm⟩
    unfold scheduledMint
    split
    · exact Nat.zero_le _
    · split
      · exact Nat.le_refl _
      · exact safeMulDiv_le _ _ (by omega)

/-- `FundCommitteeRewardPools` mints at most the scheduled amount — provided the recorded total does not overflow
(hypothesis; the code adds unguarded, see `mintToPool_wraps`) -/
theorem fundCommitteeRewardPools_mints {L L' : Ledger} (hi : InvSupply L) (hx : L.supply.total + scheduledMint L < U64)
    (h : fundCommitteeRewardPools L = .ok L') : ∃ m, m ≤ scheduledMint L ∧ Step m 0 L L' := by
  rcases fundCommitteeRewardPools_run h with rfl | ⟨A, hA, rfl⟩
  · exact ⟨0, Nat.zero_le _, Moves.refl _⟩
  · generalize subsidizedCommittees L = paid
    generalize scheduledMint L = T at hx hA ⊢
    have hper : A / paid.length * paid.length ≤ A := Nat.div_mul_le_self A paid.length
    have s1 := mintToPool_mints (id := Canopy.Gen.LedgerFacts.daoPoolId) hi (x := T - A) (by omega)
    have i1 : InvSupply (mintToPool L Canopy.Gen.LedgerFacts.daoPoolId (T - A)) :=
      s1.inv hi (by unfold mintToPool; exact addToTotal_lt _ _)
    have s2 := foldl_mintToPool (A / paid.length) paid _ i1 (by have := s1.1; omega)
    exact ⟨(T - A) + A / paid.length * paid.length, by omega, by simpa using s1.trans s2⟩

theorem beginBlockMint_mints {L L' : Ledger} (hi : InvSupply L) (hx : L.supply.total + scheduledMint L < U64)
    (h : beginBlockMint L = .ok L') : ∃ m, m ≤ scheduledMint L ∧ Step m 0 L L' := by
  unfold beginBlockMint at h
  split at h
  · cases h; exact ⟨0, Nat.zero_le _, Moves.refl L⟩
  · exact fundCommitteeRewardPools_mints hi hx h

/-- what every successful `HandleMessagePause` keeps, `SetValidatorsPaused` keeps (the addresses it skips change nothing) -/
theorem setValidatorsPaused_keeps (P : Ledger → Prop) (hstep : ∀ s a s', P s → handlePause s a = .ok s' → P s') (chain : Nat) :
    ∀ (as : List Addr) (L : Ledger), P L → P (setValidatorsPaused L chain as)
  | [], _, hp => hp
  | a :: as, L, hp => by
    unfold setValidatorsPaused
    split
    · exact setValidatorsPaused_keeps P hstep chain as L hp
    · split
      · exact setValidatorsPaused_keeps P hstep chain as L hp
      · split
        · next L1 h1 => exact setValidatorsPaused_keeps P hstep chain as L1 (hstep L a L1 hp h1)
        · exact setValidatorsPaused_keeps P hstep chain as L hp

theorem incrementNonSigners_eq (chain : Nat) : ∀ (as : List Addr) (L : Ledger),
    ∃ ns, incrementNonSigners L chain as = { L with nonSigners := ns }
  | [], L => ⟨L.nonSigners, rfl⟩
  | a :: as, L => by
    unfold incrementNonSigners
    obtain ⟨ns, e⟩ := incrementNonSigners_eq chain as
      { L with nonSigners := AMap.set L.nonSigners a _ }
    exact ⟨ns, e⟩

theorem indexHeights_ok (a : Addr) : ∀ (hs : List Nat) (L L' : Ledger), indexHeights L a hs = .ok L' →
    ∃ d, L' = { L with doubleSigners := d }
  | [], L, L', h => ⟨L.doubleSigners, (Except.ok.inj h).symm⟩
  | x :: hs, L, L', h => by
    unfold indexHeights at h
    simp only [ite_error_eq_ok] at h
    obtain ⟨d, e⟩ := indexHeights_ok a hs _ L' h.2
    exact ⟨d, e⟩

theorem indexDoubleSigners_ok : ∀ (ds : List (Addr × List Nat)) (L : Ledger) (r : Ledger × List Addr),
    indexDoubleSigners L ds = .ok r → ∃ d, r.1 = { L with doubleSigners := d }
  | [], L, r, h => by obtain rfl := Except.ok.inj h; exact ⟨L.doubleSigners, rfl⟩
  | (a, hs) :: rest, L, r, h => by
    unfold indexDoubleSigners at h
    simp only [ite_error_eq_ok] at h
    obtain ⟨_, h⟩ := h
    split at h
    · cases h
    · next L1 h1 =>
      split at h
      · cases h
      · next L2 more h2 =>
        obtain rfl := Except.ok.inj h
        obtain ⟨d1, rfl⟩ := indexHeights_ok a hs L L1 h1
        obtain ⟨d, e⟩ := indexDoubleSigners_ok rest _ (L2, more) h2
        exact ⟨d, e⟩

/-- `HandleByzantine` is made of three kinds of steps: auto-pausing a non-signer, slashing an existing validator, and
writing the non-signer counters and the double-signer index. What all three keep, it keeps. -/
theorem handleByzantine_keeps {L : Ledger} {chain : Nat} {members : List (Addr × Nat × Bool)} {ds : List (Addr × List Nat)}
    {r : Ledger × Nat} (P : Ledger → Prop) (hpause : ∀ s a s', P s → handlePause s a = .ok s' → P s')
    (hslash : ∀ s a val c p s', P s → valGet? s a = some val → slashValidator s a val c p = .ok s' → P s')
    (hidx : ∀ s ns d, P s → P { s with nonSigners := ns, doubleSigners := d })
    (h : handleByzantine L chain members ds = .ok r) (hp : P L) : P r.1 := by
  unfold handleByzantine at h
  split at h
  · cases h
  · next L1 h1 =>
    have p1 : P L1 := by
      split at h1
      · unfold slashAndResetNonSigners at h1
        dsimp only at h1
        split at h1
        · cases h1
        · next L2 h2 =>
          obtain rfl := Except.ok.inj h1
          exact hidx L2 [] L2.doubleSigners (slashValidatorsWith_keeps P (fun s a val s' => hslash s a val _ _ s')
            (setValidatorsPaused_keeps P hpause chain _ L hp) h2)
      · obtain rfl := Except.ok.inj h1; exact hp
    dsimp only at h
    split at h
    · cases h
    · next L3 h3 =>
      obtain rfl := Except.ok.inj h
      unfold handleDoubleSigners at h3
      split at h3
      · cases h3
      · next rs hr =>
        obtain ⟨d, e⟩ := indexDoubleSigners_ok ds _ rs hr
        obtain ⟨ns, e1⟩ := incrementNonSigners_eq chain
          (members.filterMap fun (a, _, signed) => if signed then none else some a) L1
        rw [e1] at e
        refine slashValidatorsWith_keeps P (fun s a val s' => hslash s a val _ _ s') ?_ h3
        rw [e]; exact hidx L1 ns d p1

theorem handleByzantine_burns {L : Ledger} {chain : Nat} {members : List (Addr × Nat × Bool)} {ds : List (Addr × List Nat)}
    {r : Ledger × Nat} (h : handleByzantine L chain members ds = .ok r) : Burns L r.1 :=
  handleByzantine_keeps (Burns L) (fun _ _ _ b h => b.trans (handlePause_moves h).burns)
    (fun _ _ _ _ _ _ b hv h => b.trans (slashValidator_burns hv h))
    (fun _ _ _ b => b.trans (SameBal.moves ⟨rfl, rfl, rfl, rfl⟩).burns) h (Burns.refl L)

/-- what a successful `UpsertCommitteeData` did: one committee-data record, with one more sample and the awarded
percents added, is written -/
theorem upsertCommitteeData_run {L L' : Ledger} {chain qh qrh : Nat} {pay : List (Addr × Nat × Nat)}
    (h : upsertCommitteeData L chain qh qrh pay = .ok L') :
    ∃ percents, pay.foldlM (fun ps (e : Addr × Nat × Nat) => if e.2.2 = chain then addPercent ps e.1 e.2.1 else pure ps)
        (getCommitteeData L chain).percents = .ok percents ∧
      L' = putCommitteeData L { chainId := chain, lastRootHeight := qrh, lastChainHeight := qh,
                                samples := (getCommitteeData L chain).samples + 1, percents := percents } := by
  unfold upsertCommitteeData at h
  simp only [ite_error_eq_ok] at h
  obtain ⟨_, _, h⟩ := h
  split at h
  · cases h
  · next percents hps =>
    simp only [ite_error_eq_ok] at h
    exact ⟨percents, hps, (Except.ok.inj h.2).symm⟩

/-- what a successful `HandleCertificateResults` did: byzantine handling, then the committee data with the payment
percents reduced by the non-signer share -/
theorem handleCertificateResults_run {L L' : Ledger} {qh qrh : Nat} {members : List (Addr × Nat × Bool)}
    {ds : List (Addr × List Nat)} {pay : List (Addr × Nat × Nat)}
    (h : handleCertificateResults L qh qrh members ds pay = .ok L') :
    ∃ r, handleByzantine L L.cfg.chainId members ds = .ok r ∧
      upsertCommitteeData r.1 L.cfg.chainId qh qrh (pay.map fun (a, p, c) => (a, reducePercentage p r.2, c)) = .ok L' := by
  unfold handleCertificateResults at h
  simp only [ite_error_eq_ok] at h
  obtain ⟨_, _, _, h⟩ := h
  split at h
  · cases h
  · next r hr => exact ⟨r, hr, h⟩

theorem putCommitteeData_sameBal (L : Ledger) (d : CommitteeData) : SameBal L (putCommitteeData L d) := by
  unfold putCommitteeData; split <;> exact ⟨rfl, rfl, rfl, rfl⟩

/-- `HandleCertificateResults` (own chain): slashes burn, nothing is minted -/
theorem handleCertificateResults_burns {L L' : Ledger} {qh qrh : Nat} {members : List (Addr × Nat × Bool)}
    {ds : List (Addr × List Nat)} {pay : List (Addr × Nat × Nat)}
    (h : handleCertificateResults L qh qrh members ds pay = .ok L') : Burns L L' := by
  obtain ⟨r, hr, h⟩ := handleCertificateResults_run h
  obtain ⟨_, _, rfl⟩ := upsertCommitteeData_run h
  exact (handleByzantine_burns hr).trans (putCommitteeData_sameBal _ _).moves.burns

theorem setUnstakingIfBelowMinimum_moves {L : Ledger} {a : Addr} {val : Validator} (hv : valGet? L a = some val) :
    Moves L (setUnstakingIfBelowMinimum L a val).2 := by
  rcases setUnstakingIfBelowMinimum_cases L a val with e | ⟨f, _, _, e⟩
  · rw [e]; exact Moves.refl L
  · rw [e]; exact moves_of_money (setValidatorUnstaking_money ..) (stakeSum_setValidatorUnstaking _ hv rfl)

theorem conformMinStakeStep_moves (L : Ledger) (a : Addr) : Moves L (conformMinStakeStep L a) := by
  unfold conformMinStakeStep
  split
  · next val hv => exact setUnstakingIfBelowMinimum_moves hv
  · exact Moves.refl L

/-- one step of the committee-trimming scan: nothing to trim, or the tallies are re-weighed for the trimmed list and the
record is written with it -/
theorem conformTrimStep_cases {acc acc' : Ledger × Nat} {a : Addr} (h : conformTrimStep acc a = .ok acc') :
    acc'.1 = acc.1 ∨ ∃ val cs L1, valGet? acc.1 a = some val ∧ acc.1.params.maxCommittees < val.committees.length ∧
      cs = trimCommittees val.committees acc.1.params.maxCommittees acc.2 ∧
      Reweigh (some val) (some { val with committees := cs }) acc.1 L1 ∧
      acc'.1 = valPut L1 a { val with committees := cs } := by
  obtain ⟨L, idx⟩ := acc
  unfold conformTrimStep at h
  dsimp only at h
  split at h
  · obtain rfl := Except.ok.inj h; exact Or.inl rfl
  · next val hv =>
    split at h
    · obtain rfl := Except.ok.inj h; exact Or.inl rfl
    · next hlen =>
      split at h
      · cases h
      · next L1 h1 =>
        obtain rfl := Except.ok.inj h
        exact Or.inr ⟨val, _, L1, hv, Nat.lt_of_not_le hlen, rfl,
          reindex_reweigh (L := L) (st := L.supply.staked) (dl := L.supply.delegatedOnly) h1 rfl rfl, rfl⟩

theorem conformTrimStep_moves {acc acc' : Ledger × Nat} {a : Addr} (h : conformTrimStep acc a = .ok acc') : Moves acc.1 acc'.1 := by
  rcases conformTrimStep_cases h with e | ⟨val, cs, L1, hv, _, _, r, e⟩
  · rw [e]; exact Moves.refl _
  · rw [e]
    obtain ⟨t, hb⟩ := r.sameBal.write (a := a) (o := some val) (congrArg _ hv) (bal_valPut L1 a { val with committees := cs })
    exact ⟨by rw [t], by rw [Nat.add_zero, Nat.add_zero]; exact Nat.add_right_cancel hb⟩

/-- `ConformStateToParamUpdate` is a scan of forced unstakes (if a minimum stake was raised) followed by a scan of
committee trimmings (if `MaxCommittees` was lowered): what both kinds of step keep, it keeps -/
theorem conformStateToParamUpdate_keeps {L L' : Ledger} {prev : Params} (P : Ledger → Prop)
    (hmin : ∀ s a, P s → P (conformMinStakeStep s a))
    (htrim : ∀ acc a acc', P acc.1 → conformTrimStep acc a = .ok acc' → P acc'.1)
    (h : conformStateToParamUpdate L prev = .ok L') (hp : P L) : P L' := by
  unfold conformStateToParamUpdate at h
  dsimp only at h
  have p1 : P (conformMinStake L prev) := by
    unfold conformMinStake
    split
    · exact foldl_keeps P hmin _ L hp
    · exact hp
  split at h
  · obtain rfl := Except.ok.inj h; exact p1
  · split at h
    · cases h
    · next r hr =>
      obtain rfl := Except.ok.inj h
      exact foldlM_keeps (fun s => P s.1) _ (fun a _ s s' hs => htrim s a s' hs) _ r p1 hr

theorem conformStateToParamUpdate_moves {L L' : Ledger} {prev : Params} (h : conformStateToParamUpdate L prev = .ok L') : Moves L L' :=
  conformStateToParamUpdate_keeps (Moves L) (fun s a m => m.trans (conformMinStakeStep_moves s a))
    (fun _ _ _ m h => m.trans (conformTrimStep_moves h)) h (Moves.refl L)

/-- what a successful `HandleMessageChangeParameter` did: the parameter is written, then the state conformed -/
theorem handleChangeParameter_run {L L' : Ledger} {space key : String} {v s e : Nat}
    (h : handleChangeParameter L space key v s e = .ok L') :
    ∃ p, L.params.setUint space key v = .ok p ∧ conformStateToParamUpdate { L with params := p } L.params = .ok L' := by
  unfold handleChangeParameter at h
  split at h
  · cases h
  · split at h
    · cases h
    · next p hp => exact ⟨p, hp, h⟩

theorem handleChangeParameter_moves {L L' : Ledger} {space key : String} {v s e : Nat}
    (h : handleChangeParameter L space key v s e = .ok L') : Moves L L' := by
  obtain ⟨p, _, h⟩ := handleChangeParameter_run h
  have m := conformStateToParamUpdate_moves h
  exact ⟨m.1, m.2⟩

end Canopy.Ledger
