import Canopy.Model.Evidence
import Canopy.Proof.Guards
/-!
Helper lemmas for C14, ledger side: the double-signer index is checked before and written with every
slash (`OnceInv`), the slash tracker bounds what is charged per (validator, committee) and block
(`CapInv`), and the stake arithmetic. The property statements are in `Canopy.Props.C14`.
-/
namespace Canopy.Evidence
open Canopy.Gate
open Canopy.Gen.Evidence (slashBlocked slashCapped cappedPercent stakeAfterSlash safeMulDiv)

theorem upd2_self {β} (f : Addr → UInt64 → β) (a : Addr) (c : UInt64) (v : β) : upd2 f a c v a c = v :=
  if_pos ⟨rfl, rfl⟩

theorem upd2_true_mono {f : Addr → UInt64 → Bool} (a : Addr) (x : UInt64) {b : Addr} {y : UInt64} (h : f b y = true) :
    upd2 f a x true b y = true := by
  unfold upd2
  split
  · rfl
  · exact h

/-- `applySlash` writes `vals` and the ghost `charged`, nothing else -/
theorem applySlash_frame (m : UInt64) (L : Ledger) (a : Addr) (v : Val) (c p : UInt64) (cs : List UInt64) :
    (applySlash m L a v c p cs).indexed = L.indexed ∧ (applySlash m L a v c p cs).slashLog = L.slashLog ∧
    (applySlash m L a v c p cs).tracker = L.tracker ∧
    (applySlash m L a v c p cs).charged = upd2 L.charged a c (L.charged a c + p.toNat) := by
  simp only [applySlash]
  split <;> exact ⟨rfl, rfl, rfl, rfl⟩

theorem applySlash_stake (m : UInt64) (L : Ledger) (a : Addr) (v : Val) (c p : UInt64) (cs : List UInt64) :
    stakeOf (applySlash m L a v c p cs) a = stakeAfterSlash v.stake p := by
  unfold applySlash
  dsimp only
  split
  · rename_i h
    have h0 : stakeAfterSlash v.stake p = 0 := by simpa using h
    simp [stakeOf, upd1, h0]
  · simp [stakeOf, upd1]

theorem slashValidator_index (P : Params) (L : Ledger) (a : Addr) (v : Val) (c p : UInt64) :
    (slashValidator P L a v c p).indexed = L.indexed ∧ (slashValidator P L a v c p).slashLog = L.slashLog := by
  simp only [slashValidator, apply_ite Ledger.indexed, apply_ite Ledger.slashLog,
    (applySlash_frame _ _ _ _ _ _ _).1, (applySlash_frame _ _ _ _ _ _ _).2.1, ite_self, and_self]

/-- what every `SlashValidator` call keeps, the loop of `SlashValidators` keeps -/
theorem slashValidators_inv {P : Params} {c p : UInt64} {I : Ledger → Prop}
    (step : ∀ L a v, I L → I (slashValidator P L a v c p)) (as : List Addr) (L : Ledger) (h : I L) :
    I (slashValidators P L c p as) := by
  induction as generalizing L with
  | nil => exact h
  | cons a as ih =>
    rw [slashValidators]
    split
    · exact ih L h
    · exact ih _ (step L a _ h)

theorem slashValidators_index (P : Params) (c p : UInt64) (as : List Addr) (L : Ledger) :
    (slashValidators P L c p as).indexed = L.indexed ∧ (slashValidators P L c p as).slashLog = L.slashLog :=
  slashValidators_inv (I := fun L' => L'.indexed = L.indexed ∧ L'.slashLog = L.slashLog)
    (fun L' a v h => (slashValidator_index P L' a v c p).imp (·.trans h.1) (·.trans h.2)) as L ⟨rfl, rfl⟩

/-- `HandleDoubleSigners` is the indexing loop followed by `SlashDoubleSigners` on the collected addresses -/
theorem handleDoubleSigners_ok {P : Params} {addrOf : KeyId → Option Addr} {L L' : Ledger} {c : UInt64}
    {dss : List (Option DS)} (h : handleDoubleSigners P addrOf L c dss = .ok L') :
    ∃ L1 sl, indexAll addrOf L dss = .ok (L1, sl) ∧ L' = slashValidators P L1 c P.dsPercent sl := by
  unfold handleDoubleSigners at h
  rcases h1 : indexAll addrOf L dss with e | ⟨L1, sl⟩
  · rw [h1] at h; cases h
  · rw [h1] at h; cases h; exact ⟨L1, sl, rfl, rfl⟩

/-- every pair ever handed to slashing is in the index, and no pair was handed over twice -/
def OnceInv (L : Ledger) : Prop := L.slashLog.Nodup ∧ ∀ p ∈ L.slashLog, L.indexed p.1 p.2 = true

/-- `IndexDoubleSigner` of a pair the index does not hold -/
theorem OnceInv.index {L : Ledger} (inv : OnceInv L) {a : Addr} {x : UInt64} (hfresh : L.indexed a x = false) :
    OnceInv { L with indexed := upd2 L.indexed a x true, slashLog := (a, x) :: L.slashLog } := by
  constructor
  · refine List.nodup_cons.mpr ⟨fun hm => ?_, inv.1⟩
    exact Bool.false_ne_true (hfresh.symm.trans (inv.2 _ hm))
  · intro p hp
    rcases List.mem_cons.mp hp with rfl | hp
    · exact upd2_self ..
    · exact upd2_true_mono _ _ (inv.2 p hp)

/-- the invariant reads index and log only -/
theorem OnceInv.of_eq {L L' : Ledger} (inv : OnceInv L) (h : L'.indexed = L.indexed ∧ L'.slashLog = L.slashLog) :
    OnceInv L' := by
  unfold OnceInv
  rw [h.1, h.2]
  exact inv

/-- the tracker equals what was really charged, and never exceeds the cap -/
def CapInv (P : Params) (L : Ledger) : Prop :=
  ∀ a c, (L.tracker a c).toNat = L.charged a c ∧ L.charged a c ≤ P.maxSlash.toNat

/-- `L'` is `L` after some `IndexDoubleSigner` calls, each on a pair the index did not hold: both invariants are
kept (tracker and charges are not written) and the index only grows -/
structure Indexed (L L' : Ledger) : Prop where
  once : OnceInv L → OnceInv L'
  cap : ∀ {P}, CapInv P L → CapInv P L'
  mono : ∀ b y, L.indexed b y = true → L'.indexed b y = true

theorem Indexed.refl (L : Ledger) : Indexed L L := ⟨id, id, fun _ _ h => h⟩

theorem Indexed.trans {L L1 L2 : Ledger} (i : Indexed L L1) (j : Indexed L1 L2) : Indexed L L2 :=
  ⟨j.once ∘ i.once, j.cap ∘ i.cap, fun b y h => j.mono b y (i.mono b y h)⟩

theorem Indexed.fresh {L L' : Ledger} (i : Indexed L L') {b : Addr} {y : UInt64} (h : L'.indexed b y = false) :
    L.indexed b y = false :=
  Bool.eq_false_iff.mpr fun hL => Bool.eq_false_iff.mp h (i.mono b y hL)

/-- the per-height loop: every listed height was fresh and is indexed afterwards -/
theorem indexHeights_ok {a : Addr} {hs : List UInt64} {L L' : Ledger} (h : indexHeights L a hs = .ok L') :
    Indexed L L' ∧ ∀ x ∈ hs, L.indexed a x = false ∧ L'.indexed a x = true := by
  induction hs generalizing L with
  | nil =>
    cases h
    exact ⟨.refl _, fun _ hx => (List.not_mem_nil hx).elim⟩
  | cons x hs ih =>
    rw [indexHeights, ite_error_eq_ok, Bool.not_eq_true] at h
    obtain ⟨hfresh, h⟩ := h
    obtain ⟨i, i2⟩ := ih h
    have step : Indexed L { L with indexed := upd2 L.indexed a x true, slashLog := (a, x) :: L.slashLog } :=
      ⟨fun inv => inv.index hfresh, id, fun _ _ => upd2_true_mono a x⟩
    refine ⟨step.trans i, fun y hy => ?_⟩
    rcases List.mem_cons.mp hy with rfl | hy
    · exact ⟨hfresh, i.mono a y (upd2_self ..)⟩
    · exact ⟨step.fresh (i2 y hy).1, (i2 y hy).2⟩

theorem indexAll_ok {addrOf : KeyId → Option Addr} {dss : List (Option DS)} {L L' : Ledger} {sl : List Addr}
    (h : indexAll addrOf L dss = .ok (L', sl)) :
    Indexed L L' ∧ ∀ ds, some ds ∈ dss →
      ∃ a, addrOf ds.id = some a ∧ ∀ x ∈ ds.heights, L.indexed a x = false ∧ L'.indexed a x = true := by
  induction dss generalizing L sl with
  | nil =>
    cases h
    exact ⟨.refl _, fun _ hd => (List.not_mem_nil hd).elim⟩
  | cons o dss ih =>
    rcases o with _ | d
    · cases h
    rw [indexAll] at h
    simp only [ite_error_eq_ok] at h
    obtain ⟨-, -, h⟩ := h
    rcases haddr : addrOf d.id with _ | a
    · rw [haddr] at h; cases h
    rcases h1 : indexHeights L a d.heights with e | L1
    · simp only [haddr, h1, reduceCtorEq] at h
    rcases h2 : indexAll addrOf L1 dss with e | ⟨L2, sl2⟩
    · simp only [haddr, h1, h2, reduceCtorEq] at h
    simp only [haddr, h1, h2, Except.ok.injEq, Prod.mk.injEq] at h
    obtain ⟨rfl, rfl⟩ := h
    obtain ⟨i, i2⟩ := indexHeights_ok h1
    obtain ⟨j, j2⟩ := ih h2
    refine ⟨i.trans j, fun ds hds => ?_⟩
    rcases List.mem_cons.mp hds with e | hds
    · cases e
      exact ⟨a, haddr, fun x hx => ⟨(i2 x hx).1, j.mono a x (i2 x hx).2⟩⟩
    · obtain ⟨a', ha', hh⟩ := j2 ds hds
      exact ⟨a', ha', fun x hx => ⟨i.fresh (hh x hx).1, (hh x hx).2⟩⟩

theorem stepOp_once (P : Params) (addrOf : KeyId → Option Addr) (L : Ledger) (op : Op) (inv : OnceInv L) :
    OnceInv (stepOp P addrOf L op) := by
  cases op with
  | doubleSign c dss =>
    simp only [stepOp]
    split
    · rename_i L' h
      obtain ⟨L1, sl, h1, rfl⟩ := handleDoubleSigners_ok h
      exact ((indexAll_ok h1).1.once inv).of_eq (slashValidators_index P c P.dsPercent sl L1)
    · exact inv
  | slash c p as => exact inv.of_eq (slashValidators_index P c p as L)

theorem runBlocks_once (P : Params) (addrOf : KeyId → Option Addr) (blocks : List (List Op)) (L : Ledger)
    (inv : OnceInv L) : OnceInv (runBlocks P addrOf L blocks) :=
  List.foldlRecOn (motive := OnceInv) blocks (runBlock P addrOf) inv fun _ inv ops _ =>
    List.foldlRecOn (motive := OnceInv) ops (stepOp P addrOf) inv fun L inv op _ => stepOp_once P addrOf L op inv

theorem newBlock_cap {P : Params} {L : Ledger} : CapInv P (newBlock L) := by
  intro a c
  exact ⟨rfl, Nat.zero_le _⟩

/-- arithmetic of one scoped slash: the new tracker value is the old plus the applied percentage, without
wrap-around, and stays within the cap -/
theorem scoped_arith {t p mx p' : UInt64} (hlt : t < mx) (hp : p.toNat + mx.toNat < 2 ^ 64)
    (hp' : p' = if slashCapped t p mx then cappedPercent t mx else p) :
    (t + p').toNat = t.toNat + p'.toNat ∧ t.toNat + p'.toNat ≤ mx.toNat := by
  rw [UInt64.lt_iff_toNat_lt] at hlt
  by_cases hc : slashCapped t p mx = true
  · -- the reduced percentage `mx - t` fills the budget exactly
    have hsub : (mx - t).toNat = mx.toNat - t.toNat :=
      UInt64.toNat_sub_of_le _ _ (UInt64.le_iff_toNat_le.mpr (Nat.le_of_lt hlt))
    rw [hp', if_pos hc, cappedPercent, UInt64.toNat_add, hsub, Nat.add_sub_cancel' (Nat.le_of_lt hlt),
      Nat.mod_eq_of_lt mx.toNat_lt]
    exact ⟨rfl, Nat.le_refl _⟩
  · have hadd : (t + p).toNat = t.toNat + p.toNat := by
      rw [UInt64.toNat_add, Nat.mod_eq_of_lt (Nat.lt_trans (Nat.add_lt_add_right hlt _) (Nat.add_comm _ _ ▸ hp))]
    rw [hp', if_neg hc, hadd]
    rw [slashCapped, decide_eq_true_eq, ge_iff_le, UInt64.le_iff_toNat_le, hadd, Nat.not_le] at hc
    exact ⟨rfl, Nat.le_of_lt hc⟩

/-- the scoped branch, spelled out: nothing happens, or some percentage `p'` within the remaining budget is
added to the tracker (without wrap-around), charged, and taken from the stake -/
theorem slashValidator_scoped {P : Params} (hs : P.committeeScoped = true) (L : Ledger) (a : Addr) (v : Val)
    (c p : UInt64) (hp : p.toNat + P.maxSlash.toNat < 2 ^ 64) :
    (slashValidator P L a v c p = L) ∨
    (∃ p' : UInt64, (L.tracker a c + p').toNat = (L.tracker a c).toNat + p'.toNat ∧
      (L.tracker a c).toNat + p'.toNat ≤ P.maxSlash.toNat ∧
      (slashValidator P L a v c p).tracker = upd2 L.tracker a c (L.tracker a c + p') ∧
      (slashValidator P L a v c p).charged = upd2 L.charged a c (L.charged a c + p'.toNat) ∧
      stakeOf (slashValidator P L a v c p) a = stakeAfterSlash v.stake p') := by
  unfold slashValidator
  rw [if_pos hs]
  by_cases hc : (!v.committees.contains c) = true
  · rw [if_pos hc]; exact .inl rfl
  rw [if_neg hc]
  dsimp only
  by_cases hb : slashBlocked (L.tracker a c) P.maxSlash = true
  · rw [if_pos hb]; exact .inl rfl
  rw [if_neg hb]
  have hlt : L.tracker a c < P.maxSlash := by simpa [slashBlocked] using hb
  obtain ⟨h1, h2⟩ := scoped_arith hlt hp rfl
  exact .inr ⟨_, h1, h2, (applySlash_frame ..).2.2.1, (applySlash_frame ..).2.2.2, applySlash_stake ..⟩

theorem slashValidator_cap {P : Params} {c p : UInt64} (hs : P.committeeScoped = true)
    (hp : p.toNat + P.maxSlash.toNat < 2 ^ 64) (L : Ledger) (a : Addr) (v : Val) (inv : CapInv P L) :
    CapInv P (slashValidator P L a v c p) := by
  rcases slashValidator_scoped hs L a v c p hp with e | ⟨p', h1, h2, et, ec, -⟩
  · rw [e]; exact inv
  · intro a' c'
    rw [et, ec]
    unfold upd2
    split
    · rw [h1, ← (inv a c).1]; exact ⟨rfl, h2⟩
    · exact inv a' c'

theorem slashValidators_cap {P : Params} {c p : UInt64} {as : List Addr} {L : Ledger} (hs : P.committeeScoped = true)
    (hp : p.toNat + P.maxSlash.toNat < 2 ^ 64) (inv : CapInv P L) : CapInv P (slashValidators P L c p as) :=
  slashValidators_inv (slashValidator_cap hs hp) as L inv

/-- the percentages of a block's operations stay clear of 64-bit wrap-around (always, for the percentages
`ValidatorParams.Check` admits: they are at most 100) -/
def OpsBounded (P : Params) (ops : List Op) : Prop :=
  ∀ op ∈ ops, match op with
    | .slash _ p _ => p.toNat + P.maxSlash.toNat < 2 ^ 64
    | .doubleSign _ _ => True

theorem stepOp_cap {P : Params} (addrOf : KeyId → Option Addr) (hs : P.committeeScoped = true)
    (hds : P.dsPercent.toNat + P.maxSlash.toNat < 2 ^ 64) (L : Ledger) (op : Op)
    (hb : match op with | .slash _ p _ => p.toNat + P.maxSlash.toNat < 2 ^ 64 | .doubleSign _ _ => True)
    (inv : CapInv P L) : CapInv P (stepOp P addrOf L op) := by
  cases op with
  | doubleSign c dss =>
    simp only [stepOp]
    split
    · rename_i L' h
      obtain ⟨L1, sl, h1, rfl⟩ := handleDoubleSigners_ok h
      exact slashValidators_cap hs hds ((indexAll_ok h1).1.cap inv)
    · exact inv
  | slash c p as =>
    simp only [stepOp]
    exact slashValidators_cap hs hb inv

theorem runOps_cap {P : Params} (addrOf : KeyId → Option Addr) (hs : P.committeeScoped = true)
    (hds : P.dsPercent.toNat + P.maxSlash.toNat < 2 ^ 64) (ops : List Op) (hb : OpsBounded P ops) (L : Ledger) (inv : CapInv P L) :
    CapInv P (runOps P addrOf L ops) :=
  List.foldlRecOn (motive := CapInv P) ops (stepOp P addrOf) inv fun L inv op hop =>
    stepOp_cap addrOf hs hds L op (hb op hop) inv

/-- keeping `(100−p)`% rounded down and weighing the result with `d+p` loses at most one unit of `s·d`,
because `(100−p)(d+p) = 100d + p(100−d−p) ≥ 100d` -/
theorem floor_chain (s p d : Nat) (h : d + p ≤ 100) : s * d ≤ s * (100 - p) / 100 * (d + p) + 100 := by
  obtain ⟨r, hr⟩ : ∃ r, d + p + r = 100 := ⟨100 - (d + p), Nat.add_sub_cancel' h⟩
  have e : 100 - p = d + r := by rw [← hr, Nat.add_right_comm, Nat.add_sub_cancel]
  have hAB : 100 * d ≤ (100 - p) * (d + p) := by
    rw [e, ← hr, Nat.mul_comm (d + r), Nat.mul_add (d + p), Nat.add_mul (d + p), Nat.mul_comm r d]
    exact Nat.add_le_add_left (Nat.mul_le_mul_right r (Nat.le_add_right d p)) _
  have h1 : 100 * (s * d) ≤ s * (100 - p) * (d + p) := by
    rw [Nat.mul_left_comm, Nat.mul_assoc]
    exact Nat.mul_le_mul_left s hAB
  -- split `s(100−p)` into the part the division keeps and the remainder, which weighs less than 100·100
  have h2 : s * (100 - p) * (d + p) = 100 * (s * (100 - p) / 100 * (d + p)) + s * (100 - p) % 100 * (d + p) := by
    rw [← Nat.mul_assoc, ← Nat.add_mul, Nat.div_add_mod]
  have h3 : s * (100 - p) % 100 * (d + p) ≤ 99 * 100 :=
    Nat.mul_le_mul (Nat.le_of_lt_succ (Nat.mod_lt _ (by decide))) h
  clear hAB e hr h
  omega

/-- with `ch`% of a budget of `m ≤ 100`% spent, the percentage of the stake out of the budget's reach -/
theorem out_of_reach_le {m ch : Nat} (hm : m ≤ 100) (h : ch ≤ m) : 100 - m + ch ≤ 100 :=
  Nat.le_trans (Nat.add_le_add_left h _) (Nat.le_of_eq (Nat.sub_add_cancel hm))

theorem stakeAfterSlash_floor (s p : UInt64) (hp : p.toNat ≤ 100) :
    (stakeAfterSlash s p).toNat = s.toNat * (100 - p.toNat) / 100 := by
  unfold stakeAfterSlash
  split
  · -- `percent = 100` or no stake: nothing is left
    rename_i h
    simp only [ge_iff_le, Bool.or_eq_true, decide_eq_true_eq] at h
    rcases h with h | rfl
    · rw [Nat.le_antisymm hp (UInt64.le_iff_toNat_le.mp h), Nat.sub_self, Nat.mul_zero]; rfl
    · rw [UInt64.toNat_zero, Nat.zero_mul]
  split
  · -- `percent = 0`
    rename_i h0
    rw [of_decide_eq_true h0]
    exact (Nat.mul_div_cancel _ (by decide)).symm
  · -- `SafeMulDiv(stake, 100 - percent, 100)`: the quotient is at most the stake, so it fits
    have hsub : (100 - p).toNat = 100 - p.toNat := UInt64.toNat_sub_of_le _ _ (UInt64.le_iff_toNat_le.mpr hp)
    unfold safeMulDiv
    rw [if_neg (by decide), UInt64.toNat_ofNat', hsub]
    exact Nat.mod_eq_of_lt (Nat.lt_of_le_of_lt
      (Nat.div_le_of_le_mul (Nat.mul_comm 100 _ ▸ Nat.mul_le_mul_left _ (Nat.sub_le _ _))) s.toNat_lt)

/-- the potential that one slash lowers by at most one rounding unit: stake × the percentage the remaining budget of
the committee still guarantees, `100 − (maxSlash − charged)`, in the additive form it has while
`charged ≤ maxSlash ≤ 100` (`CapInv`) -/
def potential (P : Params) (L : Ledger) (a : Addr) (c : UInt64) : Nat :=
  (stakeOf L a).toNat * (100 - P.maxSlash.toNat + L.charged a c)

theorem slashOne_step {P : Params} (hs : P.committeeScoped = true) (hmax : P.maxSlash.toNat ≤ 100)
    (L : Ledger) (a : Addr) (c p : UInt64) (hp : p.toNat + P.maxSlash.toNat < 2 ^ 64) (inv : CapInv P L) :
    potential P L a c ≤ potential P (slashValidators P L c p [a]) a c + 100 := by
  rw [slashValidators]
  rcases hv : L.vals a with _ | v
  · exact Nat.le_add_right _ _
  show _ ≤ potential P (slashValidator P L a v c p) a c + 100
  rcases slashValidator_scoped hs L a v c p hp with e | ⟨p', -, h2, -, ec, es⟩
  · rw [e]; exact Nat.le_add_right _ _
  · rw [(inv a c).1] at h2
    unfold potential
    rw [es, ec, upd2_self, show stakeOf L a = v.stake by rw [stakeOf, hv],
      stakeAfterSlash_floor v.stake p' (Nat.le_trans (Nat.le_trans (Nat.le_add_left _ _) h2) hmax),
      ← Nat.add_assoc]
    exact floor_chain _ _ _ (Nat.add_assoc .. ▸ out_of_reach_le hmax h2)

/-- several slashes of one validator by one committee within a block -/
theorem slashMany_potential {P : Params} (hs : P.committeeScoped = true) (hmax : P.maxSlash.toNat ≤ 100)
    (a : Addr) (c : UInt64) (ps : List UInt64) (hps : ∀ p ∈ ps, p.toNat + P.maxSlash.toNat < 2 ^ 64)
    (L : Ledger) (inv : CapInv P L) :
    potential P L a c ≤ 100 * (stakeOf (ps.foldl (fun L p => slashValidators P L c p [a]) L) a).toNat + 100 * ps.length := by
  induction ps generalizing L with
  | nil =>
    simp only [List.foldl_nil, List.length_nil, Nat.mul_zero, Nat.add_zero]
    unfold potential
    rw [Nat.mul_comm]
    exact Nat.mul_le_mul_right _ (out_of_reach_le hmax (inv a c).2)
  | cons p ps ih =>
    have hp := hps p List.mem_cons_self
    have := ih (fun q hq => hps q (List.mem_cons_of_mem _ hq)) (slashValidators P L c p [a])
      (slashValidators_cap hs hp inv)
    rw [List.foldl_cons, List.length_cons, Nat.mul_succ, ← Nat.add_assoc]
    exact Nat.le_trans (slashOne_step hs hmax L a c p hp inv) (Nat.add_le_add_right this 100)

end Canopy.Evidence
