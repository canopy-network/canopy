import Canopy.Model.SignBytes
import Canopy.Proof.ProtoTx
/-! Injectivity of the sign-bytes encodings (C19 b). Every `canon*` is `encFields (assemble x.slots)`, hence
injective on well-formed contents by `slots_inj`; the projections the sign-bytes functions apply keep
well-formedness, and field number 1 tells the sign bytes of the message kinds apart. Core Lean only. -/
namespace Canopy.SignBytes
open Canopy Canopy.Proto

structure ViewC.WF (v : ViewC) : Prop where
  h1 : v.networkId < 2 ^ 64
  h2 : v.chainId < 2 ^ 64
  h3 : v.height < 2 ^ 64
  h4 : v.rootHeight < 2 ^ 64
  h5 : v.round < 2 ^ 64
  h6 : v.phase < 2 ^ 64

theorem view_fields_wf {v : ViewC} (h : v.WF) : ∀ f ∈ assemble v.slots, f.WF := by
  refine assemble_wf rfl ?_
  simp only [ViewC.slots, List.forall_mem_cons, List.not_mem_nil, false_imp_iff, implies_true, and_true]
  exact ⟨forall_uintO h.h1, forall_uintO h.h2, forall_uintO h.h3, forall_uintO h.h4, forall_uintO h.h5, forall_uintO h.h6⟩

theorem canonView_inj (v₁ v₂ : ViewC) (h₁ : v₁.WF) (h₂ : v₂.WF) (h : canonView v₁ = canonView v₂) : v₁ = v₂ := by
  have hs := slots_inj (view_fields_wf h₁) (view_fields_wf h₂) h rfl
  simp only [ViewC.slots, List.cons.injEq, Prod.mk.injEq, true_and, and_true] at hs
  obtain ⟨e1, e2, e3, e4, e5, e6⟩ := hs
  cases v₁; cases v₂
  simp only [ViewC.mk.injEq]
  exact ⟨uintO_inj e1, uintO_inj e2, uintO_inj e3, uintO_inj e4, uintO_inj e5, uintO_inj e6⟩

structure QcC.WF (q : QcC) : Prop where
  header : ∀ h, q.header = some h → h.WF ∧ Small (canonView h)
  results : ∀ r, q.results = some r → Small r
  rh : Small q.resultsHash
  block : Small q.block
  bh : Small q.blockHash
  pk : Small q.proposerKey
  sig : ∀ r, q.signature = some r → Small r

theorem qc_fields_wf {q : QcC} (h : q.WF) : ∀ f ∈ assemble q.slots, f.WF := by
  refine assemble_wf rfl ?_
  simp only [QcC.slots, List.forall_mem_cons, List.not_mem_nil, false_imp_iff, implies_true, and_true]
  exact ⟨msgO_wf h.header, forall_msgO h.results, forall_lenO h.rh, forall_lenO h.block,
    forall_lenO h.bh, forall_lenO h.pk, forall_msgO h.sig⟩

theorem canonQc_inj (q₁ q₂ : QcC) (h₁ : q₁.WF) (h₂ : q₂.WF) (h : canonQc q₁ = canonQc q₂) : q₁ = q₂ := by
  have hs := slots_inj (qc_fields_wf h₁) (qc_fields_wf h₂) h rfl
  simp only [QcC.slots, List.cons.injEq, Prod.mk.injEq, true_and, and_true] at hs
  obtain ⟨e1, e2, e3, e4, e5, e6, e7⟩ := hs
  cases q₁; cases q₂
  simp only [QcC.mk.injEq]
  exact ⟨msgO_inj canonView_inj h₁.header h₂.header e1, msgO_id_inj e2, lenO_inj e3, lenO_inj e4, lenO_inj e5, lenO_inj e6, msgO_id_inj e7⟩

theorem signProjection_wf {q : QcC} (h : q.WF) : q.signProjection.WF := by
  unfold QcC.signProjection
  split
  · exact ⟨h.header, by simp, small_nil, small_nil, small_nil, h.pk, by simp⟩
  · exact ⟨h.header, by simp, h.rh, small_nil, h.bh, h.pk, by simp⟩

theorem signProjection_header (q : QcC) : q.signProjection.header = q.header := by
  unfold QcC.signProjection
  split <;> rfl

theorem signProjection_pk (q : QcC) : q.signProjection.proposerKey = q.proposerKey := by
  unfold QcC.signProjection
  split <;> rfl

theorem isElectionVote_of_header {q₁ q₂ : QcC} (h : q₁.header = q₂.header) : q₁.isElectionVote = q₂.isElectionVote := by
  unfold QcC.isElectionVote
  rw [h]

theorem qcSignBytes_inj {q₁ q₂ : QcC} (h₁ : q₁.WF) (h₂ : q₂.WF) (h : qcSignBytes q₁ = qcSignBytes q₂) :
    q₁.signProjection = q₂.signProjection :=
  canonQc_inj _ _ (signProjection_wf h₁) (signProjection_wf h₂) h

/-- emptying fields never lengthens the canonical encoding: of the certificate inside a leader message,
and of the one inside a pacemaker message -/
theorem canonQc_strip_le (q : QcC) :
    (canonQc { q with results := none, block := [] }).length ≤ (canonQc q).length := by
  simp only [canonQc, QcC.slots, assemble, encFields, List.flatMap_cons, List.flatMap_nil, List.append_nil,
    List.length_append, List.flatMap_append, msgO, lenO, List.isEmpty_nil, if_true, List.map_nil, List.length_nil]
  omega

theorem canonQc_header_le (q : QcC) :
    (canonQc ⟨q.header, none, [], [], [], [], none⟩).length ≤ (canonQc q).length := by
  simp only [canonQc, QcC.slots, assemble, encFields, List.flatMap_cons, List.flatMap_nil, List.append_nil,
    List.length_append, List.flatMap_append, msgO, lenO, List.isEmpty_nil, if_true, List.map_nil]
  omega

theorem strip_wf {q : QcC} (h : q.WF) : ({ q with results := none, block := [] } : QcC).WF :=
  ⟨h.header, by simp, h.rh, small_nil, h.bh, h.pk, h.sig⟩

theorem voteProjection_wf {q : QcC} (h : q.WF) : (voteProjection q).WF :=
  ⟨h.header, by simp [voteProjection], h.rh, small_nil, h.bh, h.pk, by simp [voteProjection]⟩

structure DseC.WF (d : DseC) : Prop where
  a : ∀ q, d.voteA = some q → q.WF ∧ Small (canonQc q)
  b : ∀ q, d.voteB = some q → q.WF ∧ Small (canonQc q)

theorem dse_fields_wf {d : DseC} (h : d.WF) : ∀ f ∈ assemble d.slots, f.WF := by
  refine assemble_wf rfl ?_
  simp only [DseC.slots, List.forall_mem_cons, List.not_mem_nil, false_imp_iff, implies_true, and_true]
  exact ⟨msgO_wf h.a, msgO_wf h.b⟩

theorem canonDse_inj (d₁ d₂ : DseC) (h₁ : d₁.WF) (h₂ : d₂.WF) (h : canonDse d₁ = canonDse d₂) : d₁ = d₂ := by
  have hs := slots_inj (dse_fields_wf h₁) (dse_fields_wf h₂) h rfl
  simp only [DseC.slots, List.cons.injEq, Prod.mk.injEq, true_and, and_true] at hs
  cases d₁; cases d₂
  simp only [DseC.mk.injEq]
  exact ⟨msgO_inj canonQc_inj h₁.a h₂.a hs.1, msgO_inj canonQc_inj h₁.b h₂.b hs.2⟩

structure MsgC.WF (m : MsgC) : Prop where
  header : ∀ h, m.header = some h → h.WF ∧ Small (canonView h)
  vrf : ∀ g, m.vrf = some g → g.WF ∧ Small (canonSig g)
  qc : ∀ q, m.qc = some q → q.WF ∧ Small (canonQc q)
  highQc : ∀ q, m.highQc = some q → q.WF ∧ Small (canonQc q)
  evidence : ∀ d ∈ m.evidence, d.WF ∧ Small (canonDse d)
  vdf : ∀ r, m.vdf = some r → Small r
  signature : ∀ g, m.signature = some g → g.WF ∧ Small (canonSig g)
  ts : m.timestamp < 2 ^ 64
  rc : m.rcBuildHeight < 2 ^ 64

theorem msg_fields_wf {m : MsgC} (h : m.WF) : ∀ f ∈ assemble m.slots, f.WF := by
  refine assemble_wf rfl ?_
  simp only [MsgC.slots, List.forall_mem_cons, List.not_mem_nil, false_imp_iff, implies_true, and_true]
  exact ⟨msgO_wf h.header, msgO_wf h.vrf, msgO_wf h.qc, msgO_wf h.highQc,
    forall_repO fun a ha => (h.evidence a ha).2, forall_msgO h.vdf, msgO_wf h.signature,
    forall_uintO h.ts, forall_uintO h.rc⟩

theorem canonMsg_inj (m₁ m₂ : MsgC) (h₁ : m₁.WF) (h₂ : m₂.WF) (h : canonMsg m₁ = canonMsg m₂) : m₁ = m₂ := by
  have hs := slots_inj (msg_fields_wf h₁) (msg_fields_wf h₂) h rfl
  simp only [MsgC.slots, List.cons.injEq, Prod.mk.injEq, true_and, and_true] at hs
  obtain ⟨e1, e2, e3, e4, e5, e6, e7, e8, e9⟩ := hs
  cases m₁; cases m₂
  simp only [MsgC.mk.injEq]
  exact ⟨msgO_inj canonView_inj h₁.header h₂.header e1, msgO_inj canonSig_inj h₁.vrf h₂.vrf e2,
    msgO_inj canonQc_inj h₁.qc h₂.qc e3, msgO_inj canonQc_inj h₁.highQc h₂.highQc e4,
    repO_inj canonDse_inj h₁.evidence h₂.evidence e5, msgO_id_inj e6, msgO_inj canonSig_inj h₁.signature h₂.signature e7,
    uintO_inj e8, uintO_inj e9⟩

theorem proposerProjection_wf {m : MsgC} (h : m.WF) : m.proposerProjection.WF := by
  refine ⟨h.header, h.vrf, ?_, h.highQc, h.evidence, by simp [MsgC.proposerProjection], by simp [MsgC.proposerProjection],
    by simp [MsgC.proposerProjection], by simp [MsgC.proposerProjection]⟩
  intro q' hq'
  simp only [MsgC.proposerProjection, Option.map_eq_some_iff] at hq'
  obtain ⟨q, hq, rfl⟩ := hq'
  exact ⟨strip_wf (h.qc q hq).1, Nat.lt_of_le_of_lt (canonQc_strip_le q) (h.qc q hq).2⟩

theorem pacemakerProjection_wf (q : QcC) (h : q.WF ∧ Small (canonQc q)) : (MsgC.pacemakerProjection q).WF := by
  refine ⟨?_, ?_, ?qc, ?_, ?_, ?_, ?_, ?_, ?_⟩
  case qc =>
    intro q' hq'
    obtain rfl := Option.some.inj hq'
    exact ⟨⟨h.1.header, by simp, small_nil, small_nil, small_nil, small_nil, by simp⟩,
      Nat.lt_of_le_of_lt (canonQc_header_le q) h.2⟩
  all_goals simp [MsgC.pacemakerProjection, MsgC.empty]

theorem msgSignBytes_proposer (m : MsgC) (h : m.isProposer = true) : msgSignBytes m = canonMsg m.proposerProjection := by
  simp [msgSignBytes, h]

theorem msgSignBytes_replica (m : MsgC) (q : QcC) (h0 : m.isProposer = false) (h : m.isReplica = true) (hq : m.qc = some q) :
    msgSignBytes m = qcSignBytes (voteProjection q) := by
  simp [msgSignBytes, h0, h, hq]

theorem msgSignBytes_pacemaker (m : MsgC) (q : QcC) (h0 : m.isProposer = false) (h1 : m.isReplica = false)
    (h : m.isPacemaker = true) (hq : m.qc = some q) : msgSignBytes m = canonMsg (MsgC.pacemakerProjection q) := by
  simp [msgSignBytes, h0, h1, h, hq]

theorem isProposer_header (m : MsgC) (h : m.isProposer = true) :
    ∃ v, m.header = some v ∧ (v.phase = phElection ∨ v.phase = phPropose ∨ v.phase = phPrecommit ∨ v.phase = phCommit) := by
  unfold MsgC.isProposer at h
  cases hh : m.header with
  | none => simp [hh] at h
  | some v =>
    simp only [hh, Bool.or_eq_true, beq_iff_eq, or_assoc] at h
    exact ⟨v, rfl, h⟩

theorem isReplica_qc (m : MsgC) (h : m.isReplica = true) :
    ∃ q v, m.qc = some q ∧ q.header = some v ∧
      (v.phase = phElectionVote ∨ v.phase = phProposeVote ∨ v.phase = phPrecommitVote) := by
  unfold MsgC.isReplica at h
  cases hq : m.qc with
  | none => simp [hq] at h
  | some q =>
    cases hv : q.header with
    | none => simp [hq, hv] at h
    | some v =>
      simp only [hq, hv, Bool.and_eq_true, Bool.or_eq_true, beq_iff_eq, or_assoc] at h
      exact ⟨q, v, rfl, hv, h.2⟩

theorem isPacemaker_qc (m : MsgC) (h : m.isPacemaker = true) : ∃ q, m.qc = some q := by
  unfold MsgC.isPacemaker at h
  cases hq : m.qc with
  | none => simp [hq] at h
  | some q => exact ⟨q, rfl⟩

/-- a leader message and a replica vote never share sign bytes: the view, phase included, is inside
both encodings under field number 1 -/
theorem proposer_replica_disjoint (m₁ m₂ : MsgC) (h₁ : m₁.WF) (h₂ : m₂.WF) (p₁ : m₁.isProposer = true)
    (n₂ : m₂.isProposer = false) (r₂ : m₂.isReplica = true) : msgSignBytes m₁ ≠ msgSignBytes m₂ := by
  intro h
  obtain ⟨v₁, hv₁, hp⟩ := isProposer_header m₁ p₁
  obtain ⟨q, v₂, hq, hv₂, hr⟩ := isReplica_qc m₂ r₂
  rw [msgSignBytes_proposer m₁ p₁, msgSignBytes_replica m₂ q n₂ r₂ hq] at h
  have w₁ := proposerProjection_wf h₁
  have w₂ := signProjection_wf (voteProjection_wf (h₂.qc q hq).1)
  have ha := encFields_inj (msg_fields_wf w₁) (qc_fields_wf w₂) h
  have e : msgO canonView m₁.proposerProjection.header = msgO canonView (voteProjection q).signProjection.header :=
    slot_head_eq (by simp) (by simp) ha
  rw [signProjection_header] at e
  simp only [MsgC.proposerProjection, voteProjection, hv₁, hv₂, msgO, List.cons.injEq, WireVal.len.injEq, and_true] at e
  have := canonView_inj v₁ v₂ (h₁.header v₁ hv₁).1 ((h₂.qc q hq).1.header v₂ hv₂).1 e
  subst this
  simp only [phElection, phPropose, phPrecommit, phCommit, phElectionVote, phProposeVote, phPrecommitVote] at hp hr
  omega

/-- a pacemaker message carries no top-level header, a leader message does: field number 1 tells
their sign bytes apart -/
theorem proposer_pacemaker_disjoint (m₁ m₂ : MsgC) (h₁ : m₁.WF) (h₂ : m₂.WF) (p₁ : m₁.isProposer = true)
    (n₂ : m₂.isProposer = false) (r₂ : m₂.isReplica = false) (k₂ : m₂.isPacemaker = true) :
    msgSignBytes m₁ ≠ msgSignBytes m₂ := by
  intro h
  obtain ⟨v₁, hv₁, _⟩ := isProposer_header m₁ p₁
  obtain ⟨q, hq⟩ := isPacemaker_qc m₂ k₂
  rw [msgSignBytes_proposer m₁ p₁, msgSignBytes_pacemaker m₂ q n₂ r₂ k₂ hq] at h
  have w₁ := proposerProjection_wf h₁
  have w₂ := pacemakerProjection_wf q (h₂.qc q hq)
  have ha := encFields_inj (msg_fields_wf w₁) (msg_fields_wf w₂) h
  have e : msgO canonView m₁.proposerProjection.header = msgO canonView (MsgC.pacemakerProjection q).header :=
    slot_head_eq (by simp) (by simp) ha
  simp [MsgC.proposerProjection, MsgC.pacemakerProjection, MsgC.empty, hv₁, msgO] at e

end Canopy.SignBytes
