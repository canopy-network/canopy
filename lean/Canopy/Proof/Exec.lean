import Canopy.Model.Exec
/-! The node of `Model/Exec.lean` read as a function of its committed state: one equation per path
(`produce_eq`, `validate_eq`, `commit_eq`) in terms of `exec` / `verdict` of the committed state, the
invariant `Coherent` that the equation for `commit` needs, and its preservation by every operation.
The property theorems (`Props/C03.lean`, `Props/C07.lean`, `Props/C11.lean`) rewrite with these. -/
namespace Canopy.Exec
set_option linter.unusedSectionVars false

variable {σ β ρ ε : Type} [DecidableEq β] [DecidableEq ρ] (S : Sys σ β ρ ε)

theorem accepted_or_rejected (s : σ) (b : β) :
    (∃ s', exec S s b = some s' ∧ verdict S s b = .ok (S.claim b)) ∨
    (exec S s b = none ∧ ∀ r, verdict S s b ≠ .ok r) := by
  unfold exec verdict
  cases S.applyBlock s b with
  | error e => exact .inr ⟨rfl, fun _ h => nomatch h⟩
  | ok p =>
    by_cases hr : p.2 = S.claim b
    · exact .inl ⟨p.1, by simp [hr]⟩
    · exact .inr (by simp [hr])

theorem reset_reset (n : Node σ β ρ) : reset S (reset S n) = reset S n := by
  simp only [reset, ite_self, apply_ite]
  cases S.resetClearsCache <;> rfl

/-- `finish` reads of the node only height, archive and, through its own reset, the cached result -/
theorem finish_reset (n : Node σ β ρ) (s' : σ) (b : β) (r : ρ) (v : Nat) :
    finish S (reset S n) s' b r v = finish S n s' b r v := by
  simp only [finish, reset]
  cases S.resetClearsCache <;> rfl

/-- leader path: result and mempool copy come from `applyBlock` on the committed state, whatever the
working copies hold; the controller's copy is reset -/
theorem produce_eq (n : Node σ β ρ) (b : β) :
    produce S n b =
      (reset S { n with mem := match S.applyBlock n.committed b with
                                | .ok (s', _) => s'
                                | .error _ => S.partialState n.committed b },
       (S.applyBlock n.committed b).map (·.2)) := by
  unfold produce
  cases S.applyBlock n.committed b <;> rfl

theorem produce_frame (n : Node σ β ρ) (b : β) :
    (produce S n b).1.committed = n.committed ∧ (produce S n b).1.working = n.committed
      ∧ (produce S n b).1.height = n.height ∧ (produce S n b).1.archive = n.archive
      ∧ (produce S n b).1.cached = if S.resetClearsCache then none else n.cached := by
  rw [produce_eq]
  exact ⟨rfl, rfl, rfl, rfl, rfl⟩

/-- replica path, for ANY node state (dirty working copy, stale cached result, anything): the verdict
is the verdict on the committed state; an accepted block is cached with its post-state in the working
copy, a rejected one leaves a reset node without cached result -/
theorem validate_eq (n : Node σ β ρ) (b : β) :
    validate S n b =
      if S.height b ≠ n.height then (roundInterrupt n, .wrongHeight) else
      (match exec S n.committed b with
        | some s' => { n with working := s', cached := some b }
        | none => roundInterrupt n,
       verdict S n.committed b) := by
  by_cases hh : S.height b = n.height
  · simp only [validate, validateRaw, reset, exec, verdict, hh, ne_eq, not_true_eq_false, if_false]
    cases S.applyBlock n.committed b with
    | error e => rfl
    | ok p => by_cases hr : p.2 = S.claim b <;> simp [hr, roundInterrupt]
  · simp only [validate, validateRaw, reset, ne_eq, hh, not_false_eq_true, if_true]
    rfl

theorem validateRaw_computes (n : Node σ β ρ) (b : β) (hh : S.height b = n.height) :
    (validateRaw S n b).2 = verdict S n.committed b := by
  simp only [validateRaw, reset, verdict, hh, ne_eq, not_true_eq_false, if_false]
  cases S.applyBlock n.committed b <;> rfl

theorem validateRaw_frame (n : Node σ β ρ) (b : β) :
    (validateRaw S n b).1.committed = n.committed ∧ (validateRaw S n b).1.height = n.height
      ∧ (validateRaw S n b).1.mem = n.mem ∧ (validateRaw S n b).1.archive = n.archive
      ∧ (validateRaw S n b).1.lastCert = n.lastCert := by
  simp only [validateRaw]
  split
  · exact ⟨rfl, rfl, rfl, rfl, rfl⟩
  · split <;> exact ⟨rfl, rfl, rfl, rfl, rfl⟩

theorem validate_frame (n : Node σ β ρ) (b : β) :
    (validate S n b).1.committed = n.committed ∧ (validate S n b).1.height = n.height
      ∧ (validate S n b).1.archive = n.archive := by
  rw [validate_eq]
  split
  · exact ⟨rfl, rfl, rfl⟩
  · cases exec S n.committed b <;> exact ⟨rfl, rfl, rfl⟩

variable {S}

theorem validate_reject {n : Node σ β ρ} {b : β} (hx : ∀ r, (validate S n b).2 ≠ .ok r) :
    (validate S n b).1 = roundInterrupt n := by
  rw [validate_eq] at hx ⊢
  split
  · rfl
  · rw [if_neg ‹_›] at hx
    rcases accepted_or_rejected S n.committed b with ⟨s', _, hv⟩ | ⟨he, _⟩
    · exact absurd hv (hx _)
    · simp only [he]

/-- a replay executes `applyBlock` of the committed state — outside sync always, and on the sync path
when the header's last certificate is written into the working store first (`indexesLastCert`);
which version of that certificate the node had stored is then irrelevant -/
theorem replayExec_eq (n : Node σ β ρ) (b : β) {sync : Bool}
    (hs : sync = false ∨ S.indexesLastCert = true) :
    replayExec S n b sync = S.applyBlock n.committed b := by
  rcases hs with h | h <;> simp [replayExec, stale, h]

/-- commit with the cached result: nothing is executed, the working copy is committed as it is -/
theorem commit_cached {n : Node σ β ρ} {b : β} (sync : Bool) (v : Nat) (hh : S.height b = n.height)
    (hc : n.cached = some b) :
    commit S n b sync v = (finish S n n.working b (S.claim b) v, .ok (S.claim b)) := by
  simp only [commit, hh, hc, ne_eq, not_true_eq_false, if_false, if_true]

/-- commit by replay (no cached result for this block), for ANY working copy and ANY stored version
of the last certificate -/
theorem commit_replay {n : Node σ β ρ} {b : β} {sync : Bool} {v : Nat}
    (hs : sync = false ∨ S.indexesLastCert = true) (hh : S.height b = n.height)
    (hc : n.cached ≠ some b) :
    commit S n b sync v =
      (match exec S n.committed b with
        | some s' => finish S n s' b (S.claim b) v
        | none => reset S n,
       verdict S n.committed b) := by
  simp only [commit, hh, ne_eq, not_true_eq_false, if_false, hc, replayExec_eq (reset S n) b hs,
    exec, verdict, reset_reset, finish_reset]
  simp only [reset]
  cases S.applyBlock n.committed b with
  | error e => rfl
  | ok p => by_cases hr : p.2 = S.claim b <;> simp [hr]

/-- a commit at the node's height either appends the block, or answers something else than `ok` and
leaves a reset node — whatever is executed -/
theorem commit_finish_or_reset {n : Node σ β ρ} {b : β} (sync : Bool) (v : Nat)
    (hh : S.height b = n.height) :
    (∃ s', commit S n b sync v = (finish S n s' b (S.claim b) v, .ok (S.claim b))) ∨
    ((commit S n b sync v).1 = reset S n ∧ ∀ r, (commit S n b sync v).2 ≠ .ok r) := by
  by_cases hc : n.cached = some b
  · exact .inl ⟨n.working, commit_cached sync v hh hc⟩
  · simp only [commit, hh, ne_eq, not_true_eq_false, if_false, hc, reset_reset, finish_reset]
    cases replayExec S (reset S n) b sync with
    | error e => exact .inr ⟨rfl, fun _ h => nomatch h⟩
    | ok p =>
      by_cases hr : p.2 = S.claim b
      · exact .inl ⟨p.1, by simp [hr]⟩
      · exact .inr (by simp [hr])

/-- a rejected peer block leaves committed state, height and archive unchanged and the working copy
equal to the committed state -/
theorem commit_reject_unchanged {n : Node σ β ρ} {b : β} {sync : Bool} {v : Nat}
    (hx : ∀ r, (commit S n b sync v).2 ≠ .ok r) :
    (commit S n b sync v).1.committed = n.committed ∧ (commit S n b sync v).1.height = n.height ∧
    (commit S n b sync v).1.archive = n.archive ∧
    (S.height b = n.height → (commit S n b sync v).1.working = n.committed) := by
  by_cases hh : S.height b = n.height
  · rcases commit_finish_or_reset sync v hh with ⟨s', h⟩ | ⟨h, _⟩
    · exact absurd (congrArg Prod.snd h) (hx _)
    · rw [h]; exact ⟨rfl, rfl, rfl, fun _ => rfl⟩
  · simp only [commit, ne_eq, hh, not_false_eq_true, if_true, false_implies, and_self]

theorem coherent_of_cached_none {n : Node σ β ρ} (h : n.cached = none) : Coherent S n := by
  unfold Coherent
  rw [h]
  trivial

variable (S) in
theorem coherent_init (s : σ) (h : Nat) : Coherent S (init s h : Node σ β ρ) :=
  coherent_of_cached_none rfl

/-- with `resetClearsCache` every operation but an accepted validation ends without cached result -/
theorem coherent_step (hclr : S.resetClearsCache = true) {n : Node σ β ρ} (op : Op β)
    (hn : Coherent S n) : Coherent S (step S n op) := by
  have hreset : ∀ m : Node σ β ρ, (reset S m).cached = none := fun m => by simp only [reset, hclr, if_true]
  cases op with
  | interrupt => exact coherent_of_cached_none rfl
  | restart => exact coherent_of_cached_none rfl
  | produce b =>
    apply coherent_of_cached_none
    simp only [step, (produce_frame S n b).2.2.2.2, hclr, if_true]
  | validate b =>
    simp only [step, validate_eq]
    split
    · exact coherent_of_cached_none rfl
    · next hh =>
      cases hx : exec S n.committed b with
      | none => exact coherent_of_cached_none rfl
      | some s' => exact ⟨Nat.le_of_eq (Decidable.not_not.1 hh), fun _ => hx⟩
  | commit b sync v =>
    simp only [step]
    by_cases hh : S.height b = n.height
    · apply coherent_of_cached_none
      rcases commit_finish_or_reset sync v hh with ⟨s', h⟩ | ⟨h, _⟩ <;> rw [h] <;> exact hreset _
    · simp only [commit, ne_eq, hh, not_false_eq_true, if_true]
      exact hn

theorem coherent_run (hclr : S.resetClearsCache = true) {n : Node σ β ρ} (ops : List (Op β))
    (hn : Coherent S n) : Coherent S (run S n ops) := by
  induction ops generalizing n with
  | nil => exact hn
  | cons op rest ih => exact ih (coherent_step hclr op hn)

/-- commit on a coherent node at its height — cached result or replay, live or sync: the cached
result is the one the replay would compute, so both are the same function of the committed state -/
theorem commit_eq {n : Node σ β ρ} {b : β} {sync : Bool} {v : Nat}
    (hs : sync = false ∨ S.indexesLastCert = true) (hn : Coherent S n) (hh : S.height b = n.height) :
    commit S n b sync v =
      (match exec S n.committed b with
        | some s' => finish S n s' b (S.claim b) v
        | none => reset S n,
       verdict S n.committed b) := by
  by_cases hc : n.cached = some b
  · have hx : exec S n.committed b = some n.working := by
      unfold Coherent at hn
      rw [hc] at hn
      exact hn.2 hh
    rcases accepted_or_rejected S n.committed b with ⟨_, _, hv⟩ | ⟨he, _⟩
    · rw [commit_cached sync v hh hc, hv, hx]
    · rw [he] at hx; cases hx
  · exact commit_replay hs hh hc

/-- **every path computes `applyBlock` of the committed state**: on a coherent node, at the block's
height, validation, commit (cached result or replay, live or sync) and proposal answer, and commit moves
to, what the committed state alone determines -/
theorem Coherent.computes {n : Node σ β ρ} (hn : Coherent S n) {b : β} (hh : S.height b = n.height)
    (sync : Bool) (v : Nat) (hs : sync = false ∨ S.indexesLastCert = true) :
    (validate S n b).2 = verdict S n.committed b ∧
    (commit S n b sync v).2 = verdict S n.committed b ∧
    (commit S n b sync v).1.committed = (exec S n.committed b).getD n.committed ∧
    (commit S n b sync v).1.working = (commit S n b sync v).1.committed ∧
    (produce S n b).2 = (S.applyBlock n.committed b).map (·.2) := by
  rw [commit_eq hs hn hh, validate_eq, if_neg (Decidable.not_not.2 hh), produce_eq]
  cases exec S n.committed b <;> exact ⟨rfl, rfl, rfl, rfl, rfl⟩

end Canopy.Exec
