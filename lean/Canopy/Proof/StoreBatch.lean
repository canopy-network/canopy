import Canopy.Proof.StoreSorted
/-! Applying a pebble batch to the key space, as a finite-map update (`smGet_applyBatch`; C10, C09).
A batch whose operations are all on keys of versions above `v` (`Above`) leaves every entry of a version up
to `v` in place (`AgreeUpTo`), which is all a reader at `v` depends on: block commits, index commits and
rollbacks are such batches. -/
namespace Canopy.Store

def opKey : BatchOp → Bytes
  | .put k _ => k
  | .del k => k

/-- what the key holds after the operation (`none` = deleted) -/
def opRes : BatchOp → Option Bytes
  | .put _ v => some v
  | .del _ => none

/-- the last operation of the batch on `key` (`some none` = deleted), `none` = untouched -/
def batchLookup : List BatchOp → Bytes → Option (Option Bytes)
  | [], _ => none
  | op :: b, key =>
    match batchLookup b key with
    | some r => some r
    | none => if key = opKey op then some (opRes op) else none

theorem batchLookup_cons (op : BatchOp) (b : List BatchOp) (key : Bytes) :
    batchLookup (op :: b) key = match batchLookup b key with
      | some r => some r
      | none => if key = opKey op then some (opRes op) else none := rfl

theorem batchLookup_append (a b : List BatchOp) (key : Bytes) :
    batchLookup (a ++ b) key = match batchLookup b key with
      | some r => some r
      | none => batchLookup a key := by
  induction a with
  | nil => simp only [List.nil_append, batchLookup]; cases batchLookup b key <;> rfl
  | cons op a ih =>
    simp only [List.cons_append, batchLookup_cons, ih]
    cases batchLookup b key <;> rfl

theorem batchLookup_of_not_key {b : List BatchOp} {key : Bytes} (h : ∀ op ∈ b, opKey op ≠ key) :
    batchLookup b key = none := by
  induction b with
  | nil => rfl
  | cons op b ih =>
    rw [batchLookup_cons, ih fun o ho => h o (List.mem_cons_of_mem _ ho),
      if_neg (Ne.symm (h op List.mem_cons_self))]

theorem batchLookup_map_none {α : Type} (l : List α) (g : α → BatchOp) (key : Bytes)
    (h : ∀ a ∈ l, opKey (g a) ≠ key) : batchLookup (l.map g) key = none := by
  apply batchLookup_of_not_key
  intro op hop
  obtain ⟨a, ha, rfl⟩ := List.mem_map.mp hop
  exact h a ha

/-- a batch made of one operation per element of `l`, on pairwise distinct keys `F a` (repeated
elements repeat the same operation) -/
theorem batchLookup_map_inj {α : Type} [DecidableEq α] (l : List α) (g : α → BatchOp) (F : α → Bytes)
    (hF : ∀ a b, F a = F b → a = b) (hk : ∀ a, opKey (g a) = F a) (k0 : α) :
    batchLookup (l.map g) (F k0) = if k0 ∈ l then some (opRes (g k0)) else none := by
  induction l with
  | nil => rfl
  | cons a l ih =>
    rw [List.map_cons, batchLookup_cons, ih, hk]
    by_cases hm : k0 ∈ l
    · simp [hm]
    · by_cases ha : k0 = a
      · subst ha; simp [hm]
      · have : F k0 ≠ F a := fun h => ha (hF _ _ h)
        simp [hm, ha, this]

/-- the puts of `commitBatch`: one per pending operation, on distinct keys -/
theorem batchLookup_ov_puts (ov : Overlay) (hs : SSorted ov) (F : Bytes → Bytes) (hF : ∀ a b, F a = F b → a = b)
    (G : TOp → Bytes) (k : Bytes) :
    batchLookup (ov.map fun e => BatchOp.put (F e.1) (G e.2)) (F k) = (smGet ov k).map fun op => some (G op) := by
  induction ov with
  | nil => rfl
  | cons a ov ih =>
    obtain ⟨k0, op0⟩ := a
    simp only [List.map_cons, batchLookup_cons, ih hs.tail, smGet, opKey, opRes]
    by_cases hk : k = k0
    · subst hk
      rw [smGet_none_of_head_lt hs]
      simp
    · have : F k ≠ F k0 := fun h => hk (hF _ _ h)
      simp only [hk, this, if_false]
      cases smGet ov k <;> rfl

theorem mem_filterMap_delOf {ov : Overlay} {F : Bytes → Bytes} {op : BatchOp} (h : op ∈ ov.filterMap (delOf F)) :
    ∃ a ∈ ov, op = BatchOp.del (F a.1) := by
  obtain ⟨a, ha, heq⟩ := List.mem_filterMap.mp h
  unfold delOf at heq
  cases hop : a.2 with
  | set v => rw [hop] at heq; cases heq
  | del => rw [hop] at heq; injection heq with heq; exact ⟨a, ha, heq.symm⟩

/-- the deletions `purgeLssTombstones` appends: one per pending delete -/
theorem batchLookup_ov_dels (ov : Overlay) (hs : SSorted ov) (F : Bytes → Bytes) (hF : ∀ a b, F a = F b → a = b)
    (k : Bytes) :
    batchLookup (ov.filterMap (delOf F)) (F k) =
      match smGet ov k with
      | some .del => some none
      | _ => none := by
  induction ov with
  | nil => rfl
  | cons a ov ih =>
    obtain ⟨k0, op0⟩ := a
    by_cases hk : k = k0
    · subst hk
      have hn := smGet_none_of_head_lt hs
      simp only at hn
      cases op0 with
      | set v =>
        simp only [List.filterMap_cons, delOf, ih hs.tail, hn, smGet, if_true]
      | del =>
        simp only [List.filterMap_cons, delOf, batchLookup_cons, ih hs.tail, hn, smGet, opKey, opRes, if_true]
    · have hne : F k ≠ F k0 := fun h => hk (hF _ _ h)
      cases op0 with
      | set v =>
        simp only [List.filterMap_cons, delOf, ih hs.tail, smGet, hk, if_false]
      | del =>
        simp only [List.filterMap_cons, delOf, batchLookup_cons, ih hs.tail, smGet, opKey, hk, hne, if_false]
        cases smGet ov k with
        | none => rfl
        | some op => cases op <;> rfl

def applyOp (db : DB) : BatchOp → DB
  | .put k v => smSet db k v
  | .del k => smDel db k

theorem applyBatch_cons (db : DB) (op : BatchOp) (b : List BatchOp) :
    applyBatch db (op :: b) = applyBatch (applyOp db op) b := by
  unfold applyBatch applyOp
  cases op <;> rfl

theorem sorted_applyOp {db : DB} (hs : SSorted db) (op : BatchOp) : SSorted (applyOp db op) := by
  cases op with
  | put k v => exact sorted_smSet hs k v
  | del k => exact sorted_smDel hs k

theorem sorted_applyBatch {db : DB} (hs : SSorted db) (b : List BatchOp) : SSorted (applyBatch db b) := by
  induction b generalizing db with
  | nil => exact hs
  | cons op b ih => rw [applyBatch_cons]; exact ih (sorted_applyOp hs op)

theorem smGet_applyBatch {db : DB} (hs : SSorted db) (b : List BatchOp) (key : Bytes) :
    smGet (applyBatch db b) key = match batchLookup b key with
      | some r => r
      | none => smGet db key := by
  induction b generalizing db with
  | nil => rfl
  | cons op b ih =>
    rw [applyBatch_cons, ih (sorted_applyOp hs op), batchLookup_cons]
    cases batchLookup b key with
    | some r => rfl
    | none =>
      cases op with
      | put k v => simp only [applyOp, smGet_smSet, opKey, opRes]; by_cases h : key = k <;> simp [h]
      | del k => simp only [applyOp, smGet_smDel hs, opKey, opRes]; by_cases h : key = k <;> simp [h]

theorem mem_applyBatch {db : DB} (b : List BatchOp) {e : Entry} (h : e ∈ applyBatch db b) :
    e ∈ db ∨ BatchOp.put e.1 e.2 ∈ b := by
  induction b generalizing db with
  | nil => exact Or.inl h
  | cons op b ih =>
    rw [applyBatch_cons] at h
    rcases ih h with h | h
    · cases op with
      | put k v =>
        rcases mem_of_mem_smSet h with rfl | h
        · exact Or.inr List.mem_cons_self
        · exact Or.inl h
      | del k => exact Or.inl (mem_of_mem_smDel h)
    · exact Or.inr (List.mem_cons_of_mem _ h)

/-- `a` and `b` hold the same at every key of a version ≤ `v`, which is all a read at `v` depends on -/
def AgreeUpTo (v : Nat) (a b : DB) : Prop := ∀ u w, w ≤ v → smGet a (mkKey u w) = smGet b (mkKey u w)

theorem AgreeUpTo.refl (v : Nat) (a : DB) : AgreeUpTo v a a := fun _ _ _ => rfl
theorem AgreeUpTo.trans {v : Nat} {a b c : DB} (h1 : AgreeUpTo v a b) (h2 : AgreeUpTo v b c) : AgreeUpTo v a c :=
  fun u w hw => (h1 u w hw).trans (h2 u w hw)
theorem AgreeUpTo.mono {v v' : Nat} {a b : DB} (h : AgreeUpTo v a b) (hv : v' ≤ v) : AgreeUpTo v' a b :=
  fun u w hw => h u w (Nat.le_trans hw hv)
theorem AgreeUpTo.symm {v : Nat} {a b : DB} (h : AgreeUpTo v a b) : AgreeUpTo v b a := fun u w hw => (h u w hw).symm

/-- every operation of the batch is on a key of a version above `v` -/
def Above (v : Nat) (b : List BatchOp) : Prop := ∀ op ∈ b, v < versionOf (opKey op)

theorem lt_versionOf_mkKey (u : Bytes) {v w : Nat} (hv : v < w) (hw : w ≤ maxVer) : v < versionOf (mkKey u w) := by
  rw [versionOf_mkKey u hw]; exact hv

theorem Above.agree {db : DB} (hs : SSorted db) {v : Nat} (hv : v ≤ maxVer) {b : List BatchOp} (h : Above v b) :
    AgreeUpTo v (applyBatch db b) db := fun u w hw => by
  rw [smGet_applyBatch hs, batchLookup_of_not_key fun op hop e => ?_]
  have := h op hop
  rw [e, versionOf_mkKey u (Nat.le_trans hw hv)] at this
  exact Nat.not_lt_of_le hw this

end Canopy.Store
