import Canopy.Proof.LedgerSupply
/-! C12: the staking invariant and its building blocks. -/
namespace Canopy.Ledger
open AMap

set_option linter.unusedSimpArgs false
set_option linter.unusedVariables false

/-! ### the quantities -/

/-- Σ stake over delegates -/
def dstakeSum (L : Ledger) : Nat := sumBy (fun v : Validator => if v.delegate then v.stake else 0) L.validators
/-- Σ stake over the validator records that list committee `c` (with multiplicity) -/
def comSum (L : Ledger) (c : Nat) : Nat := sumBy (fun v : Validator => v.stake * v.committees.count c) L.validators
/-- the same over delegates only -/
def dcomSum (L : Ledger) (c : Nat) : Nat :=
  sumBy (fun v : Validator => if v.delegate then v.stake * v.committees.count c else 0) L.validators

def comGet (L : Ledger) (c : Nat) : Nat := NMap.get L.supply.committee c
def delGet (L : Ledger) (c : Nat) : Nat := NMap.get L.supply.delegated c

/-- the tallies of the supply record equal the sums over the validator records -/
structure Tallies (L : Ledger) : Prop where
  staked : L.supply.staked = stakeSum L
  delegated : L.supply.delegatedOnly = dstakeSum L
  committee : ∀ c, comGet L c = comSum L c
  committeeDelegated : ∀ c, delGet L c = dcomSum L c

/-- every unstaking / paused marker refers to an existing validator in exactly that status, and vice versa -/
structure Markers (L : Ledger) : Prop where
  unstaking : ∀ h a, KSet.has L.unstaking (h, a) = true ↔ ∃ v, valGet? L a = some v ∧ v.unstakingHeight = h ∧ h ≠ 0
  paused : ∀ h a, KSet.has L.paused (h, a) = true ↔ ∃ v, valGet? L a = some v ∧ v.maxPausedHeight = h ∧ h ≠ 0
  exclusive : ∀ a v, valGet? L a = some v → v.unstakingHeight ≠ 0 → v.maxPausedHeight = 0

/-- no key is stored twice (the store is a map) -/
structure WF (L : Ledger) : Prop where
  validators : NodupKeys L.validators
  unstaking : NodupKeys L.unstaking
  paused : NodupKeys L.paused
  committee : NodupKeys L.supply.committee
  delegated : NodupKeys L.supply.delegated

/-- C12 invariant -/
structure InvStaking (L : Ledger) : Prop where
  tallies : Tallies L
  markers : Markers L
  wf : WF L

/-! ### an executable version (for `decide`d witnesses and non-vacuity examples) -/

def chainIds (L : Ledger) : List Nat :=
  L.supply.committee.map (·.1) ++ L.supply.delegated.map (·.1) ++ (L.validators.map (·.2.committees)).flatten

def talliesB (L : Ledger) : Bool :=
  L.supply.staked == stakeSum L && L.supply.delegatedOnly == dstakeSum L &&
  (chainIds L).all fun c => comGet L c == comSum L c && delGet L c == dcomSum L c

def markersB (L : Ledger) : Bool :=
  (L.unstaking.all fun e => match valGet? L e.1.2 with | some v => v.unstakingHeight == e.1.1 && e.1.1 != 0 | none => false) &&
  (L.paused.all fun e => match valGet? L e.1.2 with | some v => v.maxPausedHeight == e.1.1 && e.1.1 != 0 | none => false) &&
  (L.validators.all fun e =>
    (e.2.unstakingHeight == 0 || KSet.has L.unstaking (e.2.unstakingHeight, e.1)) &&
    (e.2.maxPausedHeight == 0 || KSet.has L.paused (e.2.maxPausedHeight, e.1)) &&
    (e.2.unstakingHeight == 0 || e.2.maxPausedHeight == 0))

/-- the empty blocks at heights `L.height, L.height+1, …` (`n` of them) all apply -/
def emptyBlocksOk : Nat → Ledger → Bool
  | 0, _ => true
  | n + 1, L => match emptyBlock L with
    | .ok L' => emptyBlocksOk n L'
    | .error _ => false

end Canopy.Ledger
