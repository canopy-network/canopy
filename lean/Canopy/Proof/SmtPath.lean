import Canopy.Proof.SmtProofFixed
/-! A Merkle proof is a walk from the top of the tree: the node it stands at and the siblings it passed. `Path` names
where such a walk stands. Along a walk the verifier's hash fold reaches the value of the top node (`Path.fold`, what
completeness needs), and under the hash idealisation a fold that reaches it went along a walk (`path_of_fold`, what
soundness needs). Core only. -/
namespace Canopy.Smt
open Trie

/-- `s` is a node of the tree `t` -/
inductive Sub (t : Trie) : Trie → Prop
  | refl : Sub t t
  | left {g : Key} {a b : Trie} : Sub t (node g a b) → Sub t a
  | right {g : Key} {a b : Trie} : Sub t (node g a b) → Sub t b

theorem Sub.pick {t : Trie} {g : Key} {a b : Trie} (h : Sub t (node g a b)) (c : Bool) : Sub t (pick c a b) := by
  cases c
  · exact h.left
  · exact h.right

theorem Sub.wf {n : Nat} {t s : Trie} (hw : WF n t) (h : Sub t s) : WF n s := by
  induction h with
  | refl => exact hw
  | left _ ih => exact ih.1
  | right _ ih => exact ih.2.1

theorem Sub.mem {t s : Trie} (h : Sub t s) {kv : Key × Bytes} (hm : kv ∈ s.toList) : kv ∈ t.toList := by
  induction h with
  | refl => exact hm
  | left _ ih => exact ih (mem_toList_node.mpr (Or.inl hm))
  | right _ ih => exact ih (mem_toList_node.mpr (Or.inr hm))

/-- a walk from the top of `t` stands at the node `c`; `acc` holds the siblings it passed, nearest first, each with its
side (`true` = the sibling is the right child); `br` is the shortest prefix that tells `c` from its sibling: the
parent's prefix and the side bit (empty at the top) -/
inductive Path (t : Trie) : Key → Trie → List (Trie × Bool) → Prop
  | top : Path t [] t []
  | down {br p : Key} {l r : Trie} {acc : List (Trie × Bool)} (b : Bool) :
      Path t br (node p l r) acc → Path t (p ++ [b]) (pick b l r) ((pick (!b) l r, !b) :: acc)

namespace Path
variable {n : Nat} {t c : Trie} {br : Key} {acc : List (Trie × Bool)}

theorem sub (h : Path t br c acc) : Sub t c := by
  induction h with
  | top => exact Sub.refl
  | down b _ ih => exact ih.pick b

theorem wf (hw : WF n t) (h : Path t br c acc) : WF n c := h.sub.wf hw

theorem br_prefix (hw : WF n t) (h : Path t br c acc) : br <+: c.key := by
  cases h with
  | top => exact List.nil_prefix
  | down b h => exact pick_prefix (h.wf hw) b

theorem mem_iff (hw : WF n t) (h : Path t br c acc) (kv : Key × Bytes) :
    kv ∈ c.toList ↔ kv ∈ t.toList ∧ br <+: kv.1 := by
  induction h with
  | top => exact ⟨fun h => ⟨h, List.nil_prefix⟩, And.left⟩
  | down b h ih =>
    rw [mem_toList_pick (h.wf hw), ih]
    exact ⟨fun ⟨⟨hm, _⟩, hb⟩ => ⟨hm, hb⟩, fun ⟨hm, hb⟩ => ⟨⟨hm, (h.br_prefix hw).trans (prefix_of_snoc_prefix hb)⟩, hb⟩⟩

theorem sibs (hw : WF n t) (h : Path t br c acc) : ∀ s ∈ acc, Sub t s.1 ∧ s.1.key ≠ [] := by
  induction h with
  | top => exact nofun
  | down b h ih => exact List.forall_mem_cons.mpr ⟨⟨h.sub.pick _, pick_key_ne_nil (h.wf hw) _⟩, ih⟩

theorem top_iff (hw : WF n t) (htop : t.key = []) (h : Path t br c acc) : c.key = [] ↔ acc = [] := by
  cases h with
  | top => exact iff_of_true htop rfl
  | down b h => exact iff_of_false (pick_key_ne_nil (h.wf hw) b) (List.cons_ne_nil _ _)

/-- the verifier's `branchBits`, computed from the keys of `c` and its sibling, is the length of `br` -/
theorem branchBits_eq (H4 : Bytes → Bytes → Bytes → Bytes → Bytes) (hw : WF n t) (h : Path t br c acc)
    (hne : acc ≠ []) : branchBits c.key (acc.map (toPNode H4)) = br.length := by
  cases h with
  | top => exact absurd rfl hne
  | down b h =>
    have hn := h.wf hw
    simp only [List.map_cons, branchBits, toPNode, decodeKey_encodeKey _ (pick_key_ne_nil hn _),
      gcp_of_diverge (pick_prefix hn b) (pick_prefix hn (!b)), List.length_append, List.length_singleton]

/-- along a walk the hash fold rebuilds, parent by parent, the value of the top node -/
theorem fold (H4 : Bytes → Bytes → Bytes → Bytes → Bytes) (hw : WF n t) (htop : t.key = []) (h : Path t br c acc) :
    foldFixed H4 c.key (c.value H4) (acc.map (toPNode H4)) = some (t.value H4) := by
  induction h with
  | top => rfl
  | down b h ih =>
    have hn := h.wf hw
    have hcur := pick_prefix hn b
    have hsib := pick_prefix hn (!b)
    have hlt := length_lt_of_snoc_prefix hcur
    have hlt' := length_lt_of_snoc_prefix hsib
    refine foldFixed_cons_eq_some.mpr ?_
    simp only [toPNode, decodeKey_encodeKey _ (pick_key_ne_nil hn _), gcp_of_diverge hcur hsib]
    refine ⟨by omega, (h.top_iff hw htop).trans List.map_eq_nil_iff.symm, ?_⟩
    -- one step of the fold rebuilds the parent from the two children
    rw [← ih]
    cases b <;> rfl

end Path

/-- the node hash tells every inner node `(a, b)` of `t` apart from every OTHER 4-tuple that passes the verifier's checks
`Ok`: the hash input of a real node has no second admissible reading. (`H4Inj H4` gives this for every `Ok`; for the
code's unframed hash it is a property of the tree: no node can be re-split into well-formed pieces.) -/
def ParseUnique (H4 : Bytes → Bytes → Bytes → Bytes → Bytes) (Ok : Bytes → Bytes → Bytes → Bytes → Prop) (t : Trie) : Prop :=
  ∀ g a b, Sub t (node g a b) → ∀ x y z w, Ok x y z w →
    H4 (encodeKey a.key) (a.value H4) (encodeKey b.key) (b.value H4) = H4 x y z w →
    encodeKey a.key = x ∧ a.value H4 = y ∧ encodeKey b.key = z ∧ b.value H4 = w

/-- a fold that reaches the value of the top node went along a walk: `(cur, hv)` are key and value of the node where it
stands, and `branchBits` is the length of that node's `br` -/
theorem path_of_fold (H4 : Bytes → Bytes → Bytes → Bytes → Bytes) {Ok : Bytes → Bytes → Bytes → Bytes → Prop}
    {HvOk : Bytes → Prop} {n : Nat} {t : Trie} (hU : ParseUnique H4 Ok t) (hStep : ∀ a b c d, HvOk (H4 a b c d))
    (hw : WF n t) (htop : t.key = []) :
    ∀ (rest : List PNode) (cur : Key) (hv : Bytes),
      (∀ p ∈ rest, ∀ (c : Key) (h' : Bytes), c ≠ [] → c.length ≤ n → HvOk h' →
        Ok p.key p.value (encodeKey c) h' ∧ Ok (encodeKey c) h' p.key p.value) → HvOk hv →
      (cur = [] ↔ rest = []) → cur.length ≤ n →
      foldFixed H4 cur hv rest = some (t.value H4) →
      ∃ br s acc, Path t br s acc ∧ s.key = cur ∧ s.value H4 = hv ∧ br.length = branchBits cur rest := by
  intro rest
  induction rest with
  | nil =>
    intro cur hv _ _ hc _ hf
    obtain rfl := hc.mpr rfl
    obtain rfl : hv = t.value H4 := Option.some.inj hf
    exact ⟨[], t, [], Path.top, htop, rfl, rfl⟩
  | cons p rest ih =>
    intro cur hv hOk hHv hc hlen hf
    have hcur : cur ≠ [] := mt hc.mp (List.cons_ne_nil _ _)
    obtain ⟨h1, hg0, hf⟩ := foldFixed_cons_eq_some.mp hf
    have hglt : (gcp cur (decodeKey p.key)).length < cur.length := by
      have := (gcp_prefix_left cur (decodeKey p.key)).length_le
      have := (gcp_prefix_right cur (decodeKey p.key)).length_le
      omega
    have hHv' : HvOk (if p.bitmask = 0 then H4 p.key p.value (encodeKey cur) hv else H4 (encodeKey cur) hv p.key p.value) := by
      split <;> exact hStep _ _ _ _
    have hOkp := hOk p List.mem_cons_self cur hv hcur hlen hHv
    -- the parent: by induction the fold stands at a node of the tree
    obtain ⟨_, s', acc, hp', hkey', hval', -⟩ := ih _ _ (fun q hq => hOk q (List.mem_cons_of_mem _ hq)) hHv' hg0
      (by omega) hf
    have hws' := hp'.wf hw
    cases s' with
    | leaf k' v' =>
      exfalso
      have : k'.length = n := hws'
      rw [show k' = _ from hkey'] at this
      omega
    | node g a b =>
      obtain rfl : g = _ := hkey'
      simp only [Trie.value] at hval'
      -- the hash identifies the child on the path: the right one when the sibling is the left child (bitmask 0)
      obtain ⟨c, e1, e2⟩ : ∃ c, encodeKey (pick c a b).key = encodeKey cur ∧ (pick c a b).value H4 = hv := by
        by_cases hb : p.bitmask = 0
        · rw [if_pos hb] at hval'
          obtain ⟨_, _, e3, e4⟩ := hU _ a b hp'.sub _ _ _ _ hOkp.1 hval'
          exact ⟨true, e3, e4⟩
        · rw [if_neg hb] at hval'
          obtain ⟨e3, e4, _, _⟩ := hU _ a b hp'.sub _ _ _ _ hOkp.2 hval'
          exact ⟨false, e3, e4⟩
      have ek : (pick c a b).key = cur := encodeKey_injective (pick_key_ne_nil hws' c) hcur e1
      exact ⟨_, _, _, hp'.down c, ek, e2, List.length_append⟩

end Canopy.Smt
