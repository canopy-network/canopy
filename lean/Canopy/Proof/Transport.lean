import Canopy.Model.Transport
/-!
Helper lemmas for C17 (framing): header/frame round trip, the chunking loop, nonce arithmetic, what one
`Read` does, the honest frames of a writer (`Sealed`), the invariant of an honest direction (`Inv`) and
the invariant of a reader facing an arbitrary attacker wire (`AttackerItem`, `RInv`). Core Lean only.
-/
namespace Canopy.Transport
open Canopy Gen.Transport

theorem dataMax_pos : 0 < dataMax := by decide
theorem frameSize_eq : frameSize = headerSize + dataMax := by decide
theorem headerSize_eq : headerSize = 4 := by decide
theorem dataMax_lt : dataMax < 4294967296 := by decide

theorem le32Decode_le32 (n : Nat) (h : n < 4294967296) (rest : Bytes) :
    le32Decode (le32 n ++ rest) = n := by
  simp only [le32, List.cons_append, List.nil_append, le32Decode, UInt8.toNat_ofNat']
  -- the four bytes are the base-256 digits of `n`, peeled off one division at a time
  have a := Nat.div_add_mod n 256
  have b := Nat.div_add_mod (n / 256) 256
  have c := Nat.div_add_mod (n / 65536) 256
  rw [Nat.div_div_eq_div_mul] at b c
  have d : n / 16777216 % 256 = n / 16777216 := Nat.mod_eq_of_lt (Nat.div_lt_of_lt_mul h)
  omega

theorem fitPad_length (junk : Bytes) (n : Nat) : (fitPad junk n).length = n := by
  simp [fitPad]

theorem mkFrame_length {c : Bytes} (junk : Bytes) (h : c.length ≤ dataMax) : (mkFrame c junk).length = frameSize := by
  simp only [mkFrame, List.length_append, fitPad_length, le32, List.length_cons, List.length_nil, frameSize_eq, headerSize_eq]
  omega

theorem parseFrame_mkFrame {c : Bytes} (junk : Bytes) (h : c.length ≤ dataMax) : parseFrame (mkFrame c junk) = .ok c := by
  unfold parseFrame mkFrame
  rw [List.append_assoc, le32Decode_le32 _ (Nat.lt_of_le_of_lt h dataMax_lt), if_neg (Nat.not_lt.2 h)]
  congr 1
  have : (le32 c.length).length = headerSize := rfl
  rw [← this, List.drop_left, List.take_left]

theorem chunks_flatten (d : Bytes) : (chunks d).flatten = d := by
  fun_induction chunks d with
  | case1 d h => rw [List.eq_nil_of_length_eq_zero h, List.flatten_nil]
  | case2 d h1 h2 => exact List.append_nil d
  | case3 d h1 h2 ih => rw [List.flatten_cons, ih, List.take_append_drop]

theorem chunks_bound (d : Bytes) : ∀ c ∈ chunks d, 0 < c.length ∧ c.length ≤ dataMax := by
  fun_induction chunks d with
  | case1 d h => simp
  | case2 d h1 h2 => exact List.forall_mem_singleton.2 ⟨Nat.pos_of_ne_zero h1, Nat.le_of_lt h2⟩
  | case3 d h1 h2 ih =>
    intro c hc
    simp only [List.mem_cons] at hc
    rcases hc with rfl | hc
    · rw [List.length_take, Nat.min_eq_left (Nat.le_of_not_lt h2)]
      exact ⟨dataMax_pos, Nat.le_refl _⟩
    · exact ih c hc

theorem chunks_length (d : Bytes) : (chunks d).length = (d.length + dataMax - 1) / dataMax := by
  have hp := dataMax_pos
  fun_induction chunks d with
  | case1 d h => rw [h, Nat.zero_add, Nat.div_eq_of_lt (Nat.sub_lt hp Nat.one_pos)]; rfl
  | case2 d h1 h2 =>
    rw [Nat.sub_add_comm (Nat.pos_of_ne_zero h1), Nat.add_div_right _ hp,
      Nat.div_eq_of_lt (Nat.lt_of_le_of_lt (Nat.sub_le _ _) h2)]; rfl
  | case3 d h1 h2 ih =>
    rw [List.length_cons, ih, List.length_drop, ← Nat.add_div_right _ hp, Nat.sub_add_cancel (Nat.le_of_not_lt h2),
      Nat.sub_add_comm (Nat.pos_of_ne_zero h1)]

theorem chunksOf_flatten (ds : List (Bytes × Bytes)) : (chunksOf ds).flatten = (ds.map (·.2)).flatten := by
  induction ds with
  | nil => rfl
  | cons d ds ih =>
    simp only [chunksOf, List.flatMap_cons, List.flatten_append, chunks_flatten, List.map_cons, List.flatten_cons] at ih ⊢
    rw [ih]

theorem chunksOf_append (a b : List (Bytes × Bytes)) : chunksOf (a ++ b) = chunksOf a ++ chunksOf b :=
  List.flatMap_append

theorem inc_toNat (c : UInt64) (h : c.toNat < 18446744073709551615) :
    (incrementNonce c).toNat = c.toNat + 1 := by
  unfold incrementNonce
  have hne : (c == 18446744073709551615) = false := by
    rw [beq_eq_false_iff_ne]
    intro he
    rw [he] at h
    exact absurd h (by decide)
  simp only [hne, Bool.false_eq_true, if_false, UInt64.toNat_add]
  exact Nat.mod_eq_of_lt (Nat.succ_lt_succ h)

/-- the wrap the code comments as "should never happen": after 2^64-1 the counter restarts at 1, re-using nonce 1 -/
theorem inc_wraps : incrementNonce 18446744073709551615 = 1 ∧ incrementNonce 0 = 1 := by decide

theorem nonceAt_toNat (n0 : UInt64) (j : Nat) (h : n0.toNat + j ≤ 18446744073709551615) :
    (nonceAt n0 j).toNat = n0.toNat + j := by
  induction j generalizing n0 with
  | zero => rfl
  | succ j ih =>
    have h1 := inc_toNat n0 (by omega)
    rw [nonceAt, ih _ (by omega), h1]; omega

theorem nonceAt_inj (n0 : UInt64) (i j : Nat) (hi : n0.toNat + i ≤ 18446744073709551615)
    (hj : n0.toNat + j ≤ 18446744073709551615) (h : nonceAt n0 i = nonceAt n0 j) : i = j := by
  have := congrArg UInt64.toNat h
  rw [nonceAt_toNat _ _ hi, nonceAt_toNat _ _ hj] at this
  omega

theorem nonceAt_add (n : UInt64) (i j : Nat) : nonceAt n (i + j) = nonceAt (nonceAt n i) j := by
  induction i generalizing n with
  | zero => simp [nonceAt]
  | succ i ih => rw [Nat.add_right_comm, nonceAt, nonceAt, ih]

theorem nonceAt_succ (n0 : UInt64) (j : Nat) : nonceAt n0 (j + 1) = incrementNonce (nonceAt n0 j) := by
  rw [nonceAt_add n0 j 1]; rfl

/-- no nonce is used twice among the frames sent and the next one to be sent -/
def Fresh (n0 : UInt64) (len : Nat) : Prop :=
  ∀ i j, i ≤ len → j ≤ len → nonceAt n0 i = nonceAt n0 j → i = j

theorem fresh_of_bound (n0 : UInt64) (len : Nat) (h : n0.toNat + len ≤ 18446744073709551615) : Fresh n0 len :=
  fun i j hi hj he => nonceAt_inj n0 i j (Nat.le_trans (Nat.add_le_add_left hi _) h)
    (Nat.le_trans (Nat.add_le_add_left hj _) h) he

theorem take_ne_nil {l : Bytes} {n : Nat} (hl : l ≠ []) (hn : 1 ≤ n) : l.take n ≠ [] :=
  fun h => (List.take_eq_nil_iff.mp h).elim (by omega) hl

theorem read_unread {r : Reader} (hu : r.unread ≠ []) (n : Nat) (ch : Chan) :
    r.read n ch = (.data (r.unread.take n), { r with unread := r.unread.drop n }, ch) := by
  rw [Reader.read, if_pos hu]

theorem read_empty {r : Reader} {ch : Chan} (hu : r.unread = []) (hw : ch.wire = []) (n : Nat) :
    r.read n ch = (if ch.closed then .err .eof else .blocked, r, ch) := by
  simp only [Reader.read, hu, hw, ne_eq, not_true_eq_false, if_false]

theorem read_sealed {r : Reader} {ch : Chan} {c junk : Bytes} {rest : List Wire} (hu : r.unread = [])
    (hw : ch.wire = .sealed r.key r.nonce (mkFrame c junk) :: rest) (hc : c.length ≤ dataMax) (n : Nat) :
    r.read n ch = (.data (c.take n), ⟨r.key, incrementNonce r.nonce, c.drop n⟩, { ch with wire := rest }) := by
  simp only [Reader.read, hu, hw, openWire, mkFrame_length junk hc, parseFrame_mkFrame junk hc, ne_eq,
    not_true_eq_false, if_false, and_self, if_true]

theorem read_reject {r : Reader} {ch : Chan} {w : Wire} {rest : List Wire} (hu : r.unread = [])
    (hw : ch.wire = w :: rest) (ho : openWire r.key r.nonce w = none) (n : Nat) :
    ∃ e ch', r.read n ch = (.err e, r, ch') ∧ ch'.wire ⊆ ch.wire := by
  rw [hw]
  cases w with
  | cut =>
    cases rest with
    | nil => exact ⟨.short, ⟨[], ch.closed⟩, by simp [Reader.read, hu, hw], List.nil_subset _⟩
    | cons x rest' =>
      exact ⟨.decrypt, ⟨.cut :: rest', ch.closed⟩, by simp [Reader.read, hu, hw],
        List.cons_subset_cons _ (List.subset_cons_self _ _)⟩
  | _ => exact ⟨.decrypt, ⟨rest, ch.closed⟩, by simp [Reader.read, hu, hw, ho], List.subset_cons_self _ _⟩

def resData : ReadRes → Bytes
  | .data b => b
  | _ => []

theorem delivered_cons (r : ReadRes) (rs : List ReadRes) : delivered (r :: rs) = resData r ++ delivered rs := by
  cases r <;> rfl

theorem readUntilErr_cons {r : Reader} {ch : Chan} {n : Nat} {ns : List Nat} {res r' ch'}
    (h : r.read n ch = (res, r', ch')) (hne : ∀ e, res ≠ .err e) :
    readUntilErr r ch (n :: ns) = (res :: (readUntilErr r' ch' ns).1, (readUntilErr r' ch' ns).2) := by
  cases res with
  | err e => exact absurd rfl (hne e)
  | _ => simp [readUntilErr, h]

theorem readUntilErr_err {r : Reader} {ch : Chan} {n : Nat} {ns : List Nat} {e r' ch'}
    (h : r.read n ch = (.err e, r', ch')) :
    readUntilErr r ch (n :: ns) = ([.err e], r', ch') := by
  simp [readUntilErr, h]

/-- `ws` are honest frames of the chunks `cs`, sealed under `key` with consecutive nonces from `n`
(each with whatever padding the pool held) -/
inductive Sealed (key : Nat) : UInt64 → List Wire → List Bytes → Prop
  | nil (n : UInt64) : Sealed key n [] []
  | cons (n : UInt64) (c junk : Bytes) (ws : List Wire) (cs : List Bytes) :
      0 < c.length ∧ c.length ≤ dataMax → Sealed key (incrementNonce n) ws cs →
      Sealed key n (Wire.sealed key n (mkFrame c junk) :: ws) (c :: cs)

theorem Sealed.length_eq {key n ws cs} (h : Sealed key n ws cs) : ws.length = cs.length := by
  induction h with
  | nil => rfl
  | cons _ _ _ _ _ _ _ ih => simp [ih]

theorem Sealed.append {key n ws cs ws2 cs2} (h : Sealed key n ws cs)
    (h2 : Sealed key (nonceAt n cs.length) ws2 cs2) : Sealed key n (ws ++ ws2) (cs ++ cs2) := by
  induction h with
  | nil n => exact h2
  | cons n c junk ws cs hc _ ih => exact .cons n c junk _ _ hc (ih h2)

theorem Sealed.get {key n0 H cs} (h : Sealed key n0 H cs) (i : Nat) (hi : i < cs.length) :
    ∃ junk, H[i]? = some (.sealed key (nonceAt n0 i) (mkFrame cs[i] junk)) ∧
      (0 < cs[i].length ∧ cs[i].length ≤ dataMax) := by
  induction h generalizing i with
  | nil => simp at hi
  | cons n c junk ws cs hc _ ih =>
    cases i with
    | zero => exact ⟨junk, rfl, hc⟩
    | succ i => exact ih i (Nat.lt_of_succ_lt_succ hi)

theorem sealChunks_sealed (key : Nat) (junk : Bytes) (n : UInt64) {cs : List Bytes}
    (hb : ∀ c ∈ cs, 0 < c.length ∧ c.length ≤ dataMax) :
    Sealed key n (sealChunks key junk n cs).2 cs ∧ (sealChunks key junk n cs).1 = nonceAt n cs.length := by
  induction cs generalizing n with
  | nil => exact ⟨.nil n, rfl⟩
  | cons c cs ih =>
    have := ih (incrementNonce n) (fun c hc => hb c (List.mem_cons_of_mem _ hc))
    simp only [sealChunks, List.length_cons, nonceAt]
    exact ⟨.cons n c junk _ cs (hb c (List.mem_cons_self ..)) this.1, this.2⟩

theorem writeMany_sealed (w : Writer) (ds : List (Bytes × Bytes)) :
    Sealed w.key w.nonce (writeMany w ds).2 (chunksOf ds) := by
  induction ds generalizing w with
  | nil => exact .nil _
  | cons d ds ih =>
    obtain ⟨junk, data⟩ := d
    have hsc := sealChunks_sealed w.key junk w.nonce (chunks_bound data)
    have := ih (w.write junk data).1
    simp only [writeMany, chunksOf, List.flatMap_cons, Writer.write] at this ⊢
    refine hsc.1.append ?_
    rw [← hsc.2]; exact this

theorem writeMany_fresh (key : Nat) (ds : List (Bytes × Bytes))
    (hlen : (chunksOf ds).length ≤ 18446744073709551615) :
    Sealed key 0 (writeMany ⟨key, 0⟩ ds).2 (chunksOf ds) ∧ Fresh 0 (chunksOf ds).length :=
  ⟨writeMany_sealed ⟨key, 0⟩ ds, fresh_of_bound 0 _ (by simpa using hlen)⟩

/-- invariant of an honest direction: what was written = what was delivered ++ what the reader
holds back ++ the plaintext of the frames in flight, and the nonces line up -/
structure Inv (d : Dir) (wr del : Bytes) : Prop where
  key : d.w.key = d.r.key
  open_ : d.ch.closed = false
  flight : ∃ cs, Sealed d.r.key d.r.nonce d.ch.wire cs ∧ d.w.nonce = nonceAt d.r.nonce cs.length ∧
    wr = del ++ d.r.unread ++ cs.flatten

theorem Inv.afterHandshake (key k : Nat) : Inv (Dir.afterHandshake key k) [] [] :=
  ⟨rfl, rfl, [], .nil _, rfl, rfl⟩

/-- `Dir.init key` is `Dir.afterHandshake key 0` -/
theorem Inv.init (key : Nat) : Inv (Dir.init key) [] [] := Inv.afterHandshake key 0

theorem Inv.write {d wr del} (h : Inv d wr del) (junk data : Bytes) :
    Inv (d.write junk data).1 (wr ++ data) del := by
  obtain ⟨hk, ho, cs, hs, hn, hw⟩ := h
  have hsc := sealChunks_sealed d.w.key junk d.w.nonce (chunks_bound data)
  refine ⟨hk, ho, cs ++ chunks data, ?_, ?_, ?_⟩
  · simp only [Dir.write, Writer.write]
    refine hs.append ?_
    rw [← hn, ← hk]; exact hsc.1
  · simp only [Dir.write, Writer.write, List.length_append, nonceAt_add, ← hn]
    exact hsc.2
  · simp only [Dir.write, Writer.write, List.flatten_append, chunks_flatten, hw, List.append_assoc]

theorem Inv.read {d wr del} (h : Inv d wr del) (n : Nat) :
    Inv (d.read n).2 wr (del ++ resData (d.read n).1) ∧ (∀ e, (d.read n).1 ≠ .err e) ∧
      (1 ≤ n → ((d.read n).1 = .blocked ∧ del = wr) ∨ ∃ b, (d.read n).1 = .data b ∧ b ≠ []) := by
  obtain ⟨hk, ho, cs, hs, hn, hw⟩ := h
  simp only [Dir.read]
  by_cases hu : d.r.unread = []
  · rw [hu, List.append_nil] at hw
    generalize hwire : d.ch.wire = wire at hs
    generalize hnon : d.r.nonce = rn at hs hn
    cases hs with
    | nil _ =>
      subst hnon
      have hdel : del = wr := by rw [hw, List.flatten_nil, List.append_nil]
      rw [read_empty hu hwire, ho]
      exact ⟨⟨hk, ho, [], by rw [hwire]; exact .nil _, hn, by simp [hdel, hu, resData]⟩,
        nofun, fun _ => .inl ⟨rfl, hdel⟩⟩
    | cons _ c junk ws cs' hc hs' =>
      subst hnon
      rw [read_sealed hu hwire hc.2]
      refine ⟨⟨hk, ho, cs', hs', hn, ?_⟩, nofun,
        fun hn1 => .inr ⟨_, rfl, take_ne_nil (List.length_pos_iff.mp hc.1) hn1⟩⟩
      simp only [resData, hw, List.flatten_cons, List.append_assoc, List.take_append_drop]
  · rw [read_unread hu]
    refine ⟨⟨hk, ho, cs, hs, hn, ?_⟩, nofun, fun hn1 => .inr ⟨_, rfl, take_ne_nil hu hn1⟩⟩
    simp only [resData, hw, List.append_assoc]
    rw [← List.append_assoc (List.take n _), List.take_append_drop]

theorem run_inv {d wr del} (h : Inv d wr del) (ops : List Op) :
    Inv (run d ops).2 (wr ++ written ops) (del ++ delivered (run d ops).1) ∧
      ∀ r ∈ (run d ops).1, ∀ e, r ≠ .err e := by
  induction ops generalizing d wr del with
  | nil => simpa [run, written, delivered] using h
  | cons op ops ih =>
    cases op with
    | write junk data =>
      have := ih (h.write junk data)
      simpa [run, written, List.append_assoc] using this
    | read n =>
      have h1 := h.read n
      have := ih h1.1
      simp only [run, written, delivered_cons, List.mem_cons, forall_eq_or_imp]
      refine ⟨by simpa [List.append_assoc] using this.1, h1.2.1, this.2⟩

theorem Inv.prefix {d wr del} (h : Inv d wr del) : del <+: wr := by
  obtain ⟨_, _, cs, _, _, hw⟩ := h
  exact ⟨d.r.unread ++ cs.flatten, by rw [hw, List.append_assoc]⟩

theorem Inv.complete {d wr del} (h : Inv d wr del) (hw : d.ch.wire = []) (hu : d.r.unread = []) : del = wr := by
  obtain ⟨_, _, cs, hs, _, hwr⟩ := h
  have := hs.length_eq
  rw [hw] at this
  have : cs = [] := List.eq_nil_of_length_eq_zero this.symm
  simp [hwr, hu, this]

/-- what an intermediary WITHOUT the key can put on the wire, given the honest frames `H` ever sent on
this direction: honest frames in any arrangement (reorder, duplicate, replay, drop), non-ciphertexts
(bit flips, fabricated bytes), a truncated frame, or frames sealed under a different key (other
direction, other session) -/
def AttackerItem (key : Nat) (H : List Wire) (w : Wire) : Prop :=
  w ∈ H ∨ (∃ id, w = .garbage id) ∨ w = .cut ∨ (∃ k n p, w = .sealed k n p ∧ k ≠ key)

theorem mem_insertAt {α} {l : List α} {i : Nat} {a b : α} (h : b ∈ insertAt l i a) : b ∈ l ∨ b = a := by
  simp only [insertAt, List.mem_append, List.mem_cons] at h
  rcases h with h | h | h
  · exact Or.inl (List.mem_of_mem_take h)
  · exact Or.inr h
  · exact Or.inl (List.mem_of_mem_drop h)

theorem applyFault_attacker {key : Nat} {H : List Wire} {ch ch' : Chan} {f : Fault}
    (hA : ∀ w ∈ ch.wire, AttackerItem key H w) (h : applyFault H ch f = some ch') :
    ∀ w ∈ ch'.wire, AttackerItem key H w := by
  intro w hw
  have hins : ∀ {i a}, w ∈ insertAt ch.wire i a → AttackerItem key H a → AttackerItem key H w :=
    fun hw ha => (mem_insertAt hw).elim (hA w) (· ▸ ha)
  cases f with
  | flip i id =>
    obtain ⟨-, rfl⟩ := Option.ite_some_none_eq_some.1 h
    exact (List.mem_or_eq_of_mem_set hw).elim (hA w) fun h1 => .inr (.inl ⟨id, h1⟩)
  | swap i j =>
    simp only [applyFault] at h; split at h
    · rename_i a b ha hb
      cases h
      rcases List.mem_or_eq_of_mem_set hw with h1 | rfl
      · rcases List.mem_or_eq_of_mem_set h1 with h2 | rfl
        · exact hA w h2
        · exact hA w (List.mem_of_getElem? hb)
      · exact hA w (List.mem_of_getElem? ha)
    · cases h
  | dup i =>
    simp only [applyFault] at h; split at h
    · rename_i a ha
      cases h
      exact hins hw (hA a (List.mem_of_getElem? ha))
    · cases h
  | replay hh j =>
    simp only [applyFault] at h; split at h
    · rename_i a ha
      obtain ⟨-, rfl⟩ := Option.ite_some_none_eq_some.1 h
      exact hins hw (.inl (List.mem_of_getElem? ha))
    · cases h
  | drop i =>
    obtain ⟨-, rfl⟩ := Option.ite_some_none_eq_some.1 h
    exact hA w (List.mem_of_mem_eraseIdx hw)
  | inject i id =>
    obtain ⟨-, rfl⟩ := Option.ite_some_none_eq_some.1 h
    exact hins hw (.inr (.inl ⟨id, rfl⟩))
  | trunc i mid =>
    obtain ⟨-, rfl⟩ := Option.ite_some_none_eq_some.1 h
    rcases List.mem_append.1 hw with h1 | h1
    · exact hA w (List.mem_of_mem_take h1)
    · split at h1
      · exact .inr (.inr (.inl (List.mem_singleton.1 h1)))
      · cases h1
  | close => cases h; exact hA w hw

theorem applyFaults_attacker {key : Nat} {H : List Wire} (fs : List Fault) {ch : Chan}
    (hA : ∀ w ∈ ch.wire, AttackerItem key H w) : ∀ w ∈ (applyFaults H ch fs).wire, AttackerItem key H w := by
  induction fs generalizing ch with
  | nil => exact hA
  | cons f fs ih =>
    simp only [applyFaults]
    apply ih
    cases h : applyFault H ch f with
    | none => exact hA
    | some ch' => exact applyFault_attacker hA h

/-- ideal AEAD + fresh nonces: the only wire item an attacker can offer that opens at position `j` is
the honest `j`-th frame itself -/
theorem open_only_honest {key n0 H cs} (hS : Sealed key n0 H cs) (hF : Fresh n0 cs.length)
    {w : Wire} (hw : AttackerItem key H w) {j : Nat} (hj : j ≤ cs.length) {p : Bytes}
    (ho : openWire key (nonceAt n0 j) w = some p) : H[j]? = some w := by
  rcases hw with hm | ⟨id, rfl⟩ | rfl | ⟨k, n, p', rfl, hk⟩
  · -- an honest frame, the `i`-th say, opens under its own nonce only, and that is the `j`-th's only if `i = j`
    obtain ⟨i, hi, rfl⟩ := List.getElem_of_mem hm
    have hic : i < cs.length := hS.length_eq ▸ hi
    obtain ⟨junk, h1, -⟩ := hS.get i hic
    rw [List.getElem?_eq_getElem hi, Option.some.injEq] at h1
    rw [h1, openWire, Option.ite_some_none_eq_some] at ho
    rw [← hF i j (Nat.le_of_lt hic) hj ho.1.2.1, List.getElem?_eq_getElem hi]
  · nomatch ho
  · nomatch ho
  · rw [openWire, if_neg fun h => hk h.1] at ho
    nomatch ho

/-- the reader has opened exactly the first `j` honest frames -/
structure RInv (key : Nat) (n0 : UInt64) (cs : List Bytes) (j : Nat) (r : Reader) (del : Bytes) : Prop where
  key : r.key = key
  nonce : r.nonce = nonceAt n0 j
  le : j ≤ cs.length
  acc : del ++ r.unread = (cs.take j).flatten

/-- reader invariant at the start of the session: the handshake frames have been consumed -/
theorem RInv.session (key : Nat) (hs ds : List (Bytes × Bytes)) :
    RInv key 0 (chunksOf (hs ++ ds)) (chunksOf hs).length ⟨key, nonceAt 0 (chunksOf hs).length, []⟩ (chunksOf hs).flatten := by
  refine ⟨rfl, rfl, by simp [chunksOf_append], ?_⟩
  simp [chunksOf_append]

theorem RInv.prefix_take {key n0 cs j r del} (h : RInv key n0 cs j r del) {k : Nat} (hjk : j ≤ k) :
    del <+: (cs.take k).flatten := by
  obtain ⟨t, ht⟩ := List.take_prefix_take_left (l := cs) hjk
  exact ⟨r.unread ++ t.flatten, by rw [← List.append_assoc, h.acc, ← List.flatten_append, ht]⟩

theorem RInv.prefix {key n0 cs j r del} (h : RInv key n0 cs j r del) : del <+: cs.flatten := by
  simpa using h.prefix_take h.le

theorem lcp_cons_drop (w : Wire) (rest H : List Wire) (j : Nat) :
    lcp (w :: rest) (H.drop j) = if H[j]? = some w then lcp rest (H.drop (j + 1)) + 1 else 0 := by
  rcases Nat.lt_or_ge j H.length with hj | hj
  · rw [List.drop_eq_getElem_cons hj, List.getElem?_eq_getElem hj]
    simp only [lcp, Option.some.injEq, eq_comm]
  · rw [List.drop_eq_nil_of_le hj, List.getElem?_eq_none hj]
    simp [lcp]

/-- complete case analysis of one `Read` against an attacker-controlled wire. `K` is the position up
to which the wire continues the honest frame sequence untouched; reads do not move it. A read
returns data (left-over bytes, or the chunk of the next honest frame), or blocks on an empty open
wire, or errs — and it errs only once the plaintext of all `K` frames has been delivered. -/
theorem read_spec {key n0 H cs} (hS : Sealed key n0 H cs) (hF : Fresh n0 cs.length)
    {j r del} (hR : RInv key n0 cs j r del) (ch : Chan) (hA : ∀ w ∈ ch.wire, AttackerItem key H w)
    {K : Nat} (hK : j + lcp ch.wire (H.drop j) = K) (n : Nat) :
    (∃ b j' r' ch', r.read n ch = (.data b, r', ch') ∧ RInv key n0 cs j' r' (del ++ b) ∧
        ch'.wire ⊆ ch.wire ∧ j' + lcp ch'.wire (H.drop j') = K ∧
        j' + ch'.wire.length = j + ch.wire.length ∧ (1 ≤ n → b ≠ [])) ∨
    (r.read n ch = (.blocked, r, ch) ∧ ch.wire = [] ∧ K = j) ∨
    (∃ e ch', r.read n ch = (.err e, r, ch') ∧ ch'.wire ⊆ ch.wire ∧ del = (cs.take K).flatten) := by
  by_cases hu : r.unread = []
  · have hdel : del = (cs.take j).flatten := by rw [← hR.acc, hu, List.append_nil]
    rcases hwire : ch.wire with _ | ⟨w, rest⟩
    · have hKj : K = j := by rw [← hK, hwire]; rfl
      rw [read_empty hu hwire]
      cases ch.closed with
      | false => exact .inr (.inl ⟨rfl, rfl, hKj⟩)
      | true => exact .inr (.inr ⟨.eof, ch, rfl, hwire ▸ List.Subset.refl _, hKj ▸ hdel⟩)
    · rw [hwire, lcp_cons_drop] at hK
      by_cases hget : H[j]? = some w
      · -- the next honest frame, intact
        rw [if_pos hget] at hK
        have hj : j < cs.length := hS.length_eq ▸ (List.getElem?_eq_some_iff.1 hget).1
        obtain ⟨junk, h1, h2⟩ := hS.get j hj
        obtain rfl : .sealed key (nonceAt n0 j) (mkFrame cs[j] junk) = w := Option.some.inj (h1.symm.trans hget)
        refine .inl ⟨_, j + 1, _, _, read_sealed hu (by rw [hR.key, hR.nonce]; exact hwire) h2.2 n,
          ⟨hR.key, by rw [hR.nonce, nonceAt_succ], hj, ?_⟩, List.subset_cons_self _ _,
          (Nat.add_right_comm ..).trans hK, Nat.add_right_comm ..,
          take_ne_nil (List.length_pos_iff.mp h2.1)⟩
        rw [hdel, List.take_add_one, List.getElem?_eq_getElem hj, List.flatten_append, List.append_assoc]
        simp
      · -- a deviation: it does not open (ideal AEAD), whatever it is
        rw [if_neg hget] at hK
        obtain rfl : j = K := hK
        have hop : openWire r.key r.nonce w = none := by
          rw [hR.key, hR.nonce]
          cases hop : openWire key (nonceAt n0 j) w with
          | none => rfl
          | some p => exact absurd (open_only_honest hS hF (hA w (hwire ▸ List.mem_cons_self ..)) hR.le hop) hget
        obtain ⟨e, ch', he, hsub⟩ := read_reject hu hwire hop n
        exact .inr (.inr ⟨e, ch', he, hwire ▸ hsub, hdel⟩)
  · -- left-over bytes of the last chunk
    refine .inl ⟨_, j, _, ch, read_unread hu n ch, ⟨hR.key, hR.nonce, hR.le, ?_⟩, List.Subset.refl _, hK, rfl,
      take_ne_nil hu⟩
    simp only [List.append_assoc, List.take_append_drop]; exact hR.acc

theorem readMany_prefix {key n0 H cs} (hS : Sealed key n0 H cs) (hF : Fresh n0 cs.length)
    {j r del} (hR : RInv key n0 cs j r del) (ch : Chan) (hA : ∀ w ∈ ch.wire, AttackerItem key H w) (ns : List Nat) :
    del ++ delivered (readMany r ch ns).1 <+: cs.flatten := by
  induction ns generalizing j r del ch with
  | nil => simpa [readMany, delivered] using hR.prefix
  | cons n ns ih =>
    simp only [readMany, delivered_cons, ← List.append_assoc]
    rcases read_spec hS hF hR ch hA rfl n with
      ⟨b, j', r', ch', he, hR', hsub, -, -, -⟩ | ⟨he, -, -⟩ | ⟨e, ch', he, hsub, -⟩
    · rw [he]; exact ih hR' ch' fun w hw => hA w (hsub hw)
    · rw [he]; exact ih (by simpa [resData] using hR) ch hA
    · rw [he]; exact ih (by simpa [resData] using hR) ch' fun w hw => hA w (hsub hw)

/-- a caller that stops at the first error, facing any attacker wire. With `K` the position up to
which the wire continues the honest frames untouched: what is delivered stays within the plaintext
of the first `K` frames; an error appears only once all of it has been delivered; a deviation is
never waited on; and with non-empty buffers enough reads do hit the error. -/
theorem readUntilErr_spec {key n0 H cs} (hS : Sealed key n0 H cs) (hF : Fresh n0 cs.length)
    (ns : List Nat) {j r del} (hR : RInv key n0 cs j r del) (ch : Chan)
    (hA : ∀ w ∈ ch.wire, AttackerItem key H w) {K : Nat} (hK : j + lcp ch.wire (H.drop j) = K) :
    del ++ delivered (readUntilErr r ch ns).1 <+: (cs.take K).flatten ∧
    (∀ e, .err e ∈ (readUntilErr r ch ns).1 →
      del ++ delivered (readUntilErr r ch ns).1 = (cs.take K).flatten) ∧
    (K < j + ch.wire.length → .blocked ∉ (readUntilErr r ch ns).1) ∧
    (K < j + ch.wire.length → (∀ n ∈ ns, 1 ≤ n) → (cs.take K).flatten.length < del.length + ns.length →
      ∃ e, .err e ∈ (readUntilErr r ch ns).1) := by
  induction ns generalizing j r del ch with
  | nil =>
    have hpre : del <+: (cs.take K).flatten := hR.prefix_take (hK ▸ Nat.le_add_right _ _)
    refine ⟨by simpa [readUntilErr, delivered] using hpre, by simp [readUntilErr], by simp [readUntilErr],
      fun _ _ hlen => ?_⟩
    exact absurd (Nat.lt_of_lt_of_le hlen hpre.length_le) (Nat.lt_irrefl _)
  | cons n ns ih =>
    rcases read_spec hS hF hR ch hA hK n with
      ⟨b, j', r', ch', he, hR', hsub, hK', hlen', hb⟩ | ⟨he, hw, hKj⟩ | ⟨e, ch', he, hsub, hdel⟩
    · obtain ⟨h1, h2, h3, h4⟩ := ih hR' ch' (fun w hw => hA w (hsub hw)) hK'
      rw [readUntilErr_cons he nofun, ← hlen']
      simp only [delivered_cons, resData, List.mem_cons, reduceCtorEq, false_or, ← List.append_assoc]
      refine ⟨h1, h2, h3, fun hd hpos hl => h4 hd (fun m hm => hpos m (.inr hm)) ?_⟩
      have := List.length_pos_iff.mpr (hb (hpos n (.inl rfl)))
      simp only [List.length_append, List.length_cons] at hl ⊢; omega
    · obtain ⟨h1, h2, -, -⟩ := ih hR ch hA hK
      have hno : ¬ K < j + ch.wire.length := by simp [hw, hKj]
      rw [readUntilErr_cons he nofun]
      simp only [delivered_cons, resData, List.nil_append, List.mem_cons, reduceCtorEq, false_or]
      exact ⟨h1, h2, fun h => absurd h hno, fun h => absurd h hno⟩
    · rw [readUntilErr_err he]
      have hall : del ++ delivered [.err e] = (cs.take K).flatten := by simpa [delivered] using hdel
      exact ⟨hall ▸ List.prefix_refl _, fun _ _ => hall, by simp, fun _ _ _ => ⟨e, by simp⟩⟩

end Canopy.Transport
