import Canopy.Model.SignBytes
import Canopy.Proof.Proto
/-! Schemas as slot lists (`SignBytes.assemble`): the encoding determines the slots, and a property of
every emitted wire value is a property of every field. Core Lean only. -/
namespace Canopy.SignBytes
open Canopy Canopy.Proto

theorem encFields_inj {a b : List Field} (ha : ∀ f ∈ a, f.WF) (hb : ∀ f ∈ b, f.WF)
    (h : encFields a = encFields b) : a = b := by
  have e := parse_enc ha
  rw [h, parse_enc hb] at e
  simpa using e.symm

theorem assemble_cons (n : Nat) (vs : List WireVal) (l : List Slot) :
    assemble ((n, vs) :: l) = vs.map (Field.mk n) ++ assemble l := by
  simp [assemble]

theorem encFields_assemble_nil : encFields (assemble []) = [] := rfl

def slotOf (n : Nat) (fs : List Field) : List WireVal := (fs.filter (·.num == n)).map (·.val)

theorem slotOf_append (n : Nat) (a b : List Field) : slotOf n (a ++ b) = slotOf n a ++ slotOf n b := by
  simp [slotOf]

theorem slotOf_map_mk (m n : Nat) (vs : List WireVal) :
    slotOf n (vs.map (Field.mk m)) = if m == n then vs else [] := by
  unfold slotOf
  by_cases h : (m == n) = true <;> simp [h, List.filter_map, Function.comp_def]

theorem slotOf_assemble_notin (l : List Slot) (n : Nat) (h : n ∉ l.map (·.1)) : slotOf n (assemble l) = [] := by
  induction l with
  | nil => simp [assemble, slotOf]
  | cons s l ih =>
    obtain ⟨m, vs⟩ := s
    simp only [List.map_cons, List.mem_cons, not_or] at h
    rw [assemble_cons, slotOf_append, slotOf_map_mk, ih h.2, List.append_nil]
    exact if_neg fun e => h.1 (eq_of_beq e).symm

theorem slot_head_eq {n : Nat} {a b : List WireVal} {t₁ t₂ : List Slot} (h₁ : n ∉ t₁.map (·.1)) (h₂ : n ∉ t₂.map (·.1))
    (h : assemble ((n, a) :: t₁) = assemble ((n, b) :: t₂)) : a = b := by
  have e := congrArg (slotOf n) h
  simpa only [assemble_cons, slotOf_append, slotOf_map_mk, slotOf_assemble_notin _ n h₁, slotOf_assemble_notin _ n h₂,
    beq_self_eq_true, if_true, List.append_nil] using e

theorem assemble_inj {l₁ l₂ : List Slot} (h : assemble l₁ = assemble l₂) (hk : l₁.map (·.1) = l₂.map (·.1))
    (hn : (l₁.map (·.1)).Nodup) : l₁ = l₂ := by
  induction l₁ generalizing l₂ with
  | nil => cases l₂ with
    | nil => rfl
    | cons _ _ => simp at hk
  | cons s t ih =>
    cases l₂ with
    | nil => simp at hk
    | cons s' t' =>
      obtain ⟨n, a⟩ := s
      obtain ⟨n', b⟩ := s'
      simp only [List.map_cons, List.cons.injEq] at hk
      simp only [List.map_cons, List.nodup_cons] at hn
      obtain ⟨rfl, hk⟩ := hk
      obtain rfl := slot_head_eq hn.1 (hk ▸ hn.1) h
      rw [assemble_cons, assemble_cons] at h
      rw [ih (List.append_cancel_left h) hk hn.2]

/-- This is how every `canon*` is injective. That both lists carry the same distinct field numbers is a
Boolean, to be checked by evaluation. -/
theorem slots_inj {l₁ l₂ : List Slot} (w₁ : ∀ f ∈ assemble l₁, f.WF) (w₂ : ∀ f ∈ assemble l₂, f.WF)
    (h : encFields (assemble l₁) = encFields (assemble l₂))
    (hk : (l₁.map (·.1) == l₂.map (·.1) && decide (l₁.map (·.1)).Nodup) = true) : l₁ = l₂ :=
  have ⟨e, n⟩ := Bool.and_eq_true_iff.mp hk
  assemble_inj (encFields_inj w₁ w₂ h) (eq_of_beq e) (of_decide_eq_true n)

theorem forall_mem_assemble {P : Field → Prop} {l : List Slot} (h : ∀ s ∈ l, ∀ v ∈ s.2, P ⟨s.1, v⟩) :
    ∀ f ∈ assemble l, P f := by
  intro f hf
  simp only [assemble, List.mem_flatMap, List.mem_map] at hf
  obtain ⟨s, hs, v, hv, rfl⟩ := hf
  exact h s hs v hv

/-- the bound on the field numbers is a Boolean, to be checked by evaluation -/
theorem assemble_wf {l : List Slot} (hk : (l.map (·.1)).all (fun n => 1 ≤ n ∧ n ≤ maxFieldNum) = true)
    (hv : ∀ s ∈ l, ∀ v ∈ s.2, v.WF) : ∀ f ∈ assemble l, f.WF :=
  forall_mem_assemble fun s hs v hv' =>
    have ⟨h1, h2⟩ := of_decide_eq_true (List.all_eq_true.mp hk s.1 (List.mem_map.mpr ⟨s, hs, rfl⟩))
    ⟨h1, h2, hv s hs v hv'⟩

theorem forall_uintO {P : WireVal → Prop} {n : Nat} (h : P (.varint n)) : ∀ v ∈ uintO n, P v := by
  unfold uintO
  split
  · exact fun _ hv => nomatch hv
  · exact List.forall_mem_singleton.mpr h

theorem forall_lenO {P : WireVal → Prop} {b : Bytes} (h : P (.len b)) : ∀ v ∈ lenO b, P v := by
  unfold lenO
  split
  · exact fun _ hv => nomatch hv
  · exact List.forall_mem_singleton.mpr h

theorem forall_msgO {α : Type} {P : WireVal → Prop} {enc : α → Bytes} {x : Option α}
    (h : ∀ a, x = some a → P (.len (enc a))) : ∀ v ∈ msgO enc x, P v := by
  cases x with
  | none => exact fun _ hv => nomatch hv
  | some a => exact List.forall_mem_singleton.mpr (h a rfl)

theorem forall_repO {α : Type} {P : WireVal → Prop} {enc : α → Bytes} {x : List α}
    (h : ∀ a ∈ x, P (.len (enc a))) : ∀ v ∈ repO enc x, P v :=
  List.forall_mem_map.mpr h

theorem uintO_inj {a b : Nat} (h : uintO a = uintO b) : a = b := by
  unfold uintO at h
  by_cases ha : (a == 0) = true <;> by_cases hb : (b == 0) = true <;> simp [ha, hb] at h
  · simp at ha hb; omega
  · exact h

theorem lenO_inj {a b : Bytes} (h : lenO a = lenO b) : a = b := by
  unfold lenO at h
  by_cases ha : a.isEmpty = true <;> by_cases hb : b.isEmpty = true <;> simp [ha, hb] at h
  · rw [List.isEmpty_iff.mp ha, List.isEmpty_iff.mp hb]
  · exact h

/-- `hx`, `hy` have the shape of the `WF` fields for sub-messages: well-formed, and of a size that fits -/
theorem msgO_inj {α : Type} {enc : α → Bytes} {P Q : α → Prop}
    (henc : ∀ a b, P a → P b → enc a = enc b → a = b) {x y : Option α}
    (hx : ∀ a, x = some a → P a ∧ Q a) (hy : ∀ a, y = some a → P a ∧ Q a) (h : msgO enc x = msgO enc y) : x = y := by
  cases x <;> cases y <;> simp [msgO] at h
  · rfl
  · next a b => rw [henc a b (hx a rfl).1 (hy b rfl).1 h]

theorem msgO_id_inj {x y : Option Bytes} (h : msgO id x = msgO id y) : x = y := by
  cases x <;> cases y <;> simp_all [msgO]

theorem repO_inj {α : Type} {enc : α → Bytes} {P Q : α → Prop}
    (henc : ∀ a b, P a → P b → enc a = enc b → a = b) {x y : List α}
    (hx : ∀ a ∈ x, P a ∧ Q a) (hy : ∀ a ∈ y, P a ∧ Q a) (h : repO enc x = repO enc y) : x = y := by
  induction x generalizing y with
  | nil => cases y <;> simp [repO] at h ⊢
  | cons a x ih =>
    cases y with
    | nil => simp [repO] at h
    | cons b y =>
      simp only [repO, List.map_cons, List.cons.injEq, WireVal.len.injEq] at h
      obtain ⟨ha, hx⟩ := List.forall_mem_cons.mp hx
      obtain ⟨hb, hy⟩ := List.forall_mem_cons.mp hy
      rw [henc a b ha.1 hb.1 h.1, ih hx hy h.2]

end Canopy.SignBytes
