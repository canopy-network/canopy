import Canopy.Model.Ledger
import Canopy.Proof.Guards
/-! Lemmas about the association lists of `Canopy.Model.Ledger` (`AMap`, `NMap`, `KSet`).
Sums are stated additively (no truncated subtraction) so that `omega` can chain them. -/
namespace Canopy.Ledger

class LawfulKLt (κ : Type) [KLt κ] : Prop where
  irrefl : ∀ a : κ, KLt.lt a a = false

instance : LawfulKLt Nat := ⟨fun a => by simp [KLt.lt]⟩
instance {α β} [KLt α] [KLt β] [DecidableEq α] [LawfulKLt α] [LawfulKLt β] : LawfulKLt (α × β) :=
  ⟨fun a => by simp [KLt.lt, LawfulKLt.irrefl]⟩

namespace AMap
set_option linter.unusedSectionVars false
variable {κ ν : Type} [DecidableEq κ]

/-- weight of an optional value -/
def ow (f : ν → Nat) : Option ν → Nat
  | some v => f v
  | none => 0

@[simp] theorem ow_none (f : ν → Nat) : ow f none = 0 := rfl
@[simp] theorem ow_some (f : ν → Nat) (v : ν) : ow f (some v) = f v := rfl

theorem sumBy_erase (f : ν → Nat) (m : List (κ × ν)) (k : κ) :
    sumBy f (erase m k) + ow f (find? m k) = sumBy f m := by
  induction m with
  | nil => simp [erase, find?, sumBy]
  | cons e t ih =>
    obtain ⟨k', v⟩ := e
    by_cases h : k' = k
    · simp [erase, find?, sumBy, h]; omega
    · simp [erase, find?, sumBy, h]; omega

theorem sumBy_ins [KLt κ] (f : ν → Nat) (m : List (κ × ν)) (k : κ) (v : ν) :
    sumBy f (ins m k v) = f v + sumBy f m := by
  induction m with
  | nil => simp [ins, sumBy]
  | cons e t ih =>
    obtain ⟨k', v'⟩ := e
    by_cases h : KLt.lt k' k = true
    · simp [ins, sumBy, h, ih]; omega
    · simp [ins, sumBy, h]

theorem sumBy_set [KLt κ] (f : ν → Nat) (m : List (κ × ν)) (k : κ) (v : ν) :
    sumBy f (set m k v) + ow f (find? m k) = sumBy f m + f v := by
  have := sumBy_erase f m k
  simp only [set, sumBy_ins]; omega

/-- replacing an entry by one of the same weight keeps the sum -/
theorem sumBy_set_same [KLt κ] {f : ν → Nat} {m : List (κ × ν)} {k : κ} {old v : ν}
    (hg : find? m k = some old) (hw : f v = f old) : sumBy f (set m k v) = sumBy f m := by
  have := sumBy_set f m k v; rw [hg] at this; simp only [ow_some] at this; omega

theorem find?_erase_ne (m : List (κ × ν)) {k k' : κ} (h : k ≠ k') : find? (erase m k) k' = find? m k' := by
  induction m with
  | nil => rfl
  | cons e t ih =>
    obtain ⟨k₀, v⟩ := e
    by_cases h0 : k₀ = k
    · subst h0; simp [erase, find?, h]
    · by_cases h1 : k₀ = k'
      · subst h1; simp [erase, find?, h0]
      · simp [erase, find?, h0, h1, ih]

theorem find?_ins [KLt κ] [LawfulKLt κ] (m : List (κ × ν)) (k k' : κ) (v : ν) :
    find? (ins m k v) k' = if k = k' then some v else find? m k' := by
  induction m with
  | nil => simp [ins, find?]
  | cons e t ih =>
    obtain ⟨k₀, v₀⟩ := e
    by_cases hlt : KLt.lt k₀ k = true
    · have hne : k₀ ≠ k := fun h => by subst h; simp [LawfulKLt.irrefl] at hlt
      by_cases hk : k = k'
      · subst hk; simp [ins, find?, hlt, hne, ih]
      · by_cases h0 : k₀ = k'
        · subst h0; simp [ins, find?, hlt, hk]
        · simp [ins, find?, hlt, hk, h0, ih]
    · by_cases hk : k = k'
      · subst hk; simp [ins, find?, hlt]
      · simp [ins, find?, hlt, hk]

theorem find?_set_ne [KLt κ] [LawfulKLt κ] (m : List (κ × ν)) {k k' : κ} (v : ν) (h : k ≠ k') :
    find? (set m k v) k' = find? m k' := by
  simp [set, find?_ins, h, find?_erase_ne]

theorem find?_set_self [KLt κ] [LawfulKLt κ] (m : List (κ × ν)) (k : κ) (v : ν) :
    find? (set m k v) k = some v := by
  simp [set, find?_ins]

theorem find?_set [KLt κ] [LawfulKLt κ] (m : List (κ × ν)) (k k' : κ) (v : ν) :
    find? (set m k v) k' = if k = k' then some v else find? m k' := by
  by_cases h : k = k'
  · subst h; simp [find?_set_self]
  · simp [h, find?_set_ne]

/-- every key occurs at most once -/
def NodupKeys (m : List (κ × ν)) : Prop := (m.map (·.1)).Nodup

theorem mem_iff_mem_keys (m : List (κ × ν)) (k : κ) : mem m k = true ↔ k ∈ m.map (·.1) := by
  induction m with
  | nil => simp [mem, find?]
  | cons e t ih =>
    obtain ⟨k₀, v⟩ := e
    by_cases h0 : k₀ = k
    · simp [mem, find?, h0]
    · simpa [mem, find?, h0, Ne.symm h0] using ih

theorem find?_eq_none_of_not_mem (m : List (κ × ν)) (k : κ) (h : k ∉ m.map (·.1)) : find? m k = none :=
  Option.not_isSome_iff_eq_none.1 fun hs => h ((mem_iff_mem_keys m k).1 hs)

theorem mem_keys_of_find? (m : List (κ × ν)) (k : κ) (v : ν) (h : find? m k = some v) : k ∈ m.map (·.1) :=
  (mem_iff_mem_keys m k).1 (by unfold mem; rw [h]; rfl)

/-- `erase` is the core library's `eraseP` on the key -/
theorem erase_sublist (m : List (κ × ν)) (k : κ) : (erase m k).Sublist m := by
  have : erase m k = m.eraseP (fun e => decide (e.1 = k)) := by
    induction m with
    | nil => rfl
    | cons e t ih =>
      obtain ⟨k₀, v⟩ := e
      by_cases h0 : k₀ = k
      · simp [erase, h0]
      · simp [erase, h0, ih]
  rw [this]; exact List.eraseP_sublist

theorem keys_erase_subset (m : List (κ × ν)) (k x : κ) (h : x ∈ (erase m k).map (·.1)) : x ∈ m.map (·.1) :=
  ((erase_sublist m k).map _).subset h

theorem nodup_erase (m : List (κ × ν)) (k : κ) (h : NodupKeys m) : NodupKeys (erase m k) :=
  List.Nodup.sublist ((erase_sublist m k).map _) h

theorem not_mem_keys_erase (m : List (κ × ν)) (k : κ) (h : NodupKeys m) : k ∉ (erase m k).map (·.1) := by
  intro hx
  induction m with
  | nil => simp [erase] at hx
  | cons e t ih =>
    obtain ⟨k₀, v⟩ := e
    simp only [NodupKeys, List.map_cons, List.nodup_cons] at h
    by_cases h0 : k₀ = k
    · subst h0; simp only [erase, if_true] at hx; exact h.1 hx
    · simp only [erase, h0, if_false, List.map_cons, List.mem_cons] at hx
      rcases hx with hx | hx
      · exact h0 hx.symm
      · exact ih h.2 hx

theorem find?_erase_self (m : List (κ × ν)) (k : κ) (h : NodupKeys m) : find? (erase m k) k = none :=
  find?_eq_none_of_not_mem _ k (not_mem_keys_erase m k h)

theorem find?_erase (m : List (κ × ν)) (k k' : κ) (h : NodupKeys m) :
    find? (erase m k) k' = if k = k' then none else find? m k' := by
  by_cases hk : k = k'
  · rw [if_pos hk, ← hk]; exact find?_erase_self m k h
  · rw [if_neg hk]; exact find?_erase_ne m hk

/-- `ins` puts the new entry somewhere into the list -/
theorem ins_perm [KLt κ] (m : List (κ × ν)) (k : κ) (v : ν) : (ins m k v).Perm ((k, v) :: m) := by
  induction m with
  | nil => exact .refl _
  | cons e t ih =>
    obtain ⟨k₀, v₀⟩ := e
    simp only [ins]
    split
    · exact (ih.cons _).trans (List.Perm.swap ..)
    · exact .refl _

theorem keys_ins [KLt κ] (m : List (κ × ν)) (k x : κ) (v : ν) :
    x ∈ (ins m k v).map (·.1) ↔ x = k ∨ x ∈ m.map (·.1) :=
  ((ins_perm m k v).map (fun e : κ × ν => e.1)).mem_iff.trans List.mem_cons

theorem nodup_ins [KLt κ] (m : List (κ × ν)) (k : κ) (v : ν) (h : NodupKeys m) (hk : k ∉ m.map (·.1)) :
    NodupKeys (ins m k v) :=
  ((ins_perm m k v).map (fun e : κ × ν => e.1)).nodup_iff.2 (List.nodup_cons.2 ⟨hk, h⟩)

theorem nodup_set [KLt κ] (m : List (κ × ν)) (k : κ) (v : ν) (h : NodupKeys m) : NodupKeys (set m k v) :=
  nodup_ins _ _ _ (nodup_erase m k h) (not_mem_keys_erase m k h)

theorem ow_le_sumBy (f : ν → Nat) (m : List (κ × ν)) (k : κ) : ow f (find? m k) ≤ sumBy f m := by
  have := sumBy_erase f m k; omega

theorem sumBy_eq_zero_of (g : ν → Nat) (m : List (κ × ν)) (hn : NodupKeys m) (h : ∀ k v, find? m k = some v → g v = 0) :
    sumBy g m = 0 := by
  induction m with
  | nil => rfl
  | cons e t ih =>
    obtain ⟨k, v⟩ := e
    simp only [NodupKeys, List.map_cons, List.nodup_cons] at hn
    have h0 : g v = 0 := h k v (by simp [find?])
    have ht : sumBy g t = 0 := ih hn.2 fun k' v' hf => h k' v' (by
      have hne : k ≠ k' := fun e => hn.1 (e ▸ mem_keys_of_find? t k' v' hf)
      simp [find?, hne, hf])
    simp [sumBy, h0, ht]

/-- where `g` vanishes `f1 ≤ f2`: if `g` sums to zero, the sums compare -/
theorem sumBy_le_of_zero (g f1 f2 : ν → Nat) (m : List (κ × ν)) (h0 : sumBy g m = 0) (h : ∀ v, g v = 0 → f1 v ≤ f2 v) :
    sumBy f1 m ≤ sumBy f2 m := by
  induction m with
  | nil => exact Nat.le_refl _
  | cons e t ih =>
    simp only [sumBy] at h0 ⊢
    exact Nat.add_le_add (h e.2 (Nat.eq_zero_of_add_eq_zero_right h0)) (ih (Nat.eq_zero_of_add_eq_zero_left h0))

end AMap

/-- the contribution of the head of a list to `x × multiplicity` -/
theorem mul_count_cons (x c0 c : Nat) (cs : List Nat) :
    x * (c0 :: cs).count c = x * cs.count c + (if c0 = c then x else 0) := by
  rw [List.count_cons, Nat.mul_add]
  by_cases hc : c0 = c
  · rw [if_pos hc, if_pos (by rw [hc]; exact beq_self_eq_true c), Nat.mul_one]
  · rw [if_neg hc, if_neg (by rw [beq_iff_eq]; exact hc), Nat.mul_zero]

namespace NMap
set_option linter.unusedSectionVars false
variable {κ : Type} [DecidableEq κ] [KLt κ]

theorem get_eq_ow (m : NMap κ) (k : κ) : get m k = AMap.ow id (AMap.find? m k) := by
  unfold get; cases AMap.find? m k <;> rfl

theorem total_put (m : NMap κ) (k : κ) (v : Nat) : total (put m k v) + get m k = total m + v := by
  unfold put total
  rw [get_eq_ow]
  by_cases hv : v = 0
  · subst hv; simp only [if_true]; have := AMap.sumBy_erase id m k; omega
  · simp only [hv, if_false]; have := AMap.sumBy_set id m k v; simpa using this

theorem get_le_total (m : NMap κ) (k : κ) : get m k ≤ total m := by
  rw [get_eq_ow]; exact AMap.ow_le_sumBy id m k

theorem get_put_ne [LawfulKLt κ] (m : NMap κ) {k k' : κ} (v : Nat) (h : k ≠ k') : get (put m k v) k' = get m k' := by
  unfold put get
  by_cases hv : v = 0
  · simp [hv, AMap.find?_erase_ne m h]
  · simp [hv, AMap.find?_set_ne m v h]

theorem get_put [LawfulKLt κ] (m : NMap κ) (k k' : κ) (v : Nat) (hn : AMap.NodupKeys m) :
    get (put m k v) k' = if k = k' then v else get m k' := by
  by_cases h : k = k'
  · subst h
    simp only [if_true]
    unfold put get
    by_cases hv : v = 0
    · simp [hv, AMap.find?_erase_self m k hn]
    · simp [hv, AMap.find?_set_self]
  · simp only [h, if_false]; exact get_put_ne m v h

theorem nodup_put (m : NMap κ) (k : κ) (v : Nat) (hn : AMap.NodupKeys m) : AMap.NodupKeys (put m k v) := by
  unfold put; split
  · exact AMap.nodup_erase m k hn
  · exact AMap.nodup_set m k v hn

/-- adding to / taking from one entry, seen from any key -/
theorem get_put_add [LawfulKLt κ] (m : NMap κ) (k k' : κ) (x : Nat) (hn : AMap.NodupKeys m) :
    get (put m k (get m k + x)) k' = get m k' + (if k = k' then x else 0) := by
  rw [get_put m k k' _ hn]
  by_cases h : k = k'
  · rw [if_pos h, if_pos h, h]
  · rw [if_neg h, if_neg h]; rfl

theorem get_put_sub [LawfulKLt κ] (m : NMap κ) (k k' : κ) (x : Nat) (hn : AMap.NodupKeys m) (hle : x ≤ get m k) :
    get (put m k (get m k - x)) k' + (if k = k' then x else 0) = get m k' := by
  rw [get_put m k k' _ hn]
  by_cases h : k = k'
  · rw [if_pos h, if_pos h, ← h]; omega
  · rw [if_neg h, if_neg h]; rfl

/-! The guarded updates of the supply pool lists (`addToSupplyPool` / `subFromSupplyPool` on a chain's entry) and their
loops over a committee list, on the list alone. -/

/-- `m[k] += x`, guarded against overflow -/
def add? (m : NMap Nat) (x k : Nat) : M (NMap Nat) :=
  if get m k > MAXU - x then .error .invalidAmount else .ok (put m k (get m k + x))

/-- `m[k] -= x`, guarded against underflow -/
def sub? (m : NMap Nat) (x k : Nat) : M (NMap Nat) :=
  if get m k < x then .error .insufficientSupply else .ok (put m k (get m k - x))

/-- `x` added to the entry of every member of `cs`, once per listing -/
def addAll (m : NMap Nat) (x : Nat) (cs : List Nat) : M (NMap Nat) := cs.foldlM (add? · x) m
def subAll (m : NMap Nat) (x : Nat) (cs : List Nat) : M (NMap Nat) := cs.foldlM (sub? · x) m

theorem addAll_cons (m : NMap Nat) (x c : Nat) (cs : List Nat) :
    addAll m x (c :: cs) = add? m x c >>= fun m1 => addAll m1 x cs := List.foldlM_cons
theorem subAll_cons (m : NMap Nat) (x c : Nat) (cs : List Nat) :
    subAll m x (c :: cs) = sub? m x c >>= fun m1 => subAll m1 x cs := List.foldlM_cons

/-- the adding loop succeeds exactly when no entry overflows, and adds `x` per listing -/
theorem addAll_spec (x : Nat) : ∀ (cs : List Nat) (m : NMap Nat), AMap.NodupKeys m →
    ((∀ c, get m c + x * cs.count c ≤ MAXU) → ∃ m', addAll m x cs = .ok m') ∧
    ∀ m', addAll m x cs = .ok m' → AMap.NodupKeys m' ∧ ∀ c, get m' c = get m c + x * cs.count c
  | [], m, hn => ⟨fun _ => ⟨m, rfl⟩, fun m' h => by obtain rfl := Except.ok.inj h; exact ⟨hn, fun c => by simp⟩⟩
  | c0 :: cs, m, hn => by
    rw [addAll_cons]
    unfold add?
    have ih := addAll_spec x cs (put m c0 (get m c0 + x)) (nodup_put _ _ _ hn)
    have hget := fun c => get_put_add m c0 c x hn
    refine ⟨fun hle => ?_, fun m' h => ?_⟩
    · have h0 := hle c0
      rw [mul_count_cons, if_pos rfl] at h0
      rw [if_neg (by omega)]
      exact ih.1 fun c => by have := hle c; rw [mul_count_cons] at this; rw [hget c]; omega
    · obtain ⟨m1, h1, h⟩ := bind_ok h
      obtain rfl := Except.ok.inj (ite_error_eq_ok.1 h1).2
      obtain ⟨hn', hg'⟩ := ih.2 m' h
      exact ⟨hn', fun c => by rw [hg' c, hget c, mul_count_cons]; omega⟩

/-- the subtracting loop succeeds exactly when every entry holds what is taken, and takes `x` per listing -/
theorem subAll_spec (x : Nat) : ∀ (cs : List Nat) (m : NMap Nat), AMap.NodupKeys m →
    ((∀ c, x * cs.count c ≤ get m c) → ∃ m', subAll m x cs = .ok m') ∧
    ∀ m', subAll m x cs = .ok m' → AMap.NodupKeys m' ∧ ∀ c, get m' c + x * cs.count c = get m c
  | [], m, hn => ⟨fun _ => ⟨m, rfl⟩, fun m' h => by obtain rfl := Except.ok.inj h; exact ⟨hn, fun c => by simp⟩⟩
  | c0 :: cs, m, hn => by
    rw [subAll_cons]
    unfold sub?
    have ih := subAll_spec x cs (put m c0 (get m c0 - x)) (nodup_put _ _ _ hn)
    refine ⟨fun hle => ?_, fun m' h => ?_⟩
    · have h0 := hle c0
      rw [mul_count_cons, if_pos rfl] at h0
      rw [if_neg (by omega)]
      exact ih.1 fun c => by
        have := hle c; have := get_put_sub m c0 c x hn (by omega); rw [mul_count_cons] at *; omega
    · obtain ⟨m1, h1, h⟩ := bind_ok h
      obtain ⟨hge, h1⟩ := ite_error_eq_ok.1 h1
      obtain rfl := Except.ok.inj h1
      obtain ⟨hn', hg'⟩ := ih.2 m' h
      exact ⟨hn', fun c => by
        have := hg' c; have := get_put_sub m c0 c x hn (Nat.le_of_not_lt hge); rw [mul_count_cons]; omega⟩

/-- taking `x` per listing in `cs`, then adding `y` per listing in `ds`: the effect, and when both loops succeed -/
theorem subAll_addAll {m m1 m2 : NMap Nat} {x y : Nat} {cs ds : List Nat} (hn : AMap.NodupKeys m)
    (h1 : subAll m x cs = .ok m1) (h2 : addAll m1 y ds = .ok m2) :
    AMap.NodupKeys m2 ∧ ∀ c, get m2 c + x * cs.count c = get m c + y * ds.count c := by
  obtain ⟨n1, g1⟩ := (subAll_spec x cs m hn).2 m1 h1
  obtain ⟨n2, g2⟩ := (addAll_spec y ds m1 n1).2 m2 h2
  exact ⟨n2, fun c => by rw [g2 c, ← g1 c, Nat.add_right_comm]⟩

theorem subAll_addAll_ok_of {m : NMap Nat} {x y : Nat} {cs ds : List Nat} (hn : AMap.NodupKeys m)
    (hlo : ∀ c, x * cs.count c ≤ get m c) (hhi : ∀ c, get m c + y * ds.count c ≤ MAXU + x * cs.count c) :
    ∃ m1 m2, subAll m x cs = .ok m1 ∧ addAll m1 y ds = .ok m2 := by
  obtain ⟨m1, h1⟩ := (subAll_spec x cs m hn).1 hlo
  obtain ⟨n1, g1⟩ := (subAll_spec x cs m hn).2 m1 h1
  obtain ⟨m2, h2⟩ := (addAll_spec y ds m1 n1).1 fun c => by have := g1 c; have := hhi c; omega
  exact ⟨m1, m2, h1, h2⟩

end NMap

section KSet
open AMap
variable {κ : Type} [DecidableEq κ]

theorem has_iff_mem_keys (m : KSet κ) (k : κ) : KSet.has m k = true ↔ k ∈ m.map (·.1) := mem_iff_mem_keys m k

theorem has_add [KLt κ] [LawfulKLt κ] (m : KSet κ) (k k' : κ) :
    KSet.has (KSet.add m k) k' = true ↔ k = k' ∨ KSet.has m k' = true := by
  unfold KSet.has KSet.add AMap.mem
  rw [find?_set]
  by_cases h : k = k'
  · simp [h]
  · simp [h]

theorem has_del_of (m : KSet κ) (k k' : κ) (h : KSet.has (KSet.del m k) k' = true) : KSet.has m k' = true := by
  rw [has_iff_mem_keys] at h ⊢
  exact keys_erase_subset m k k' h

theorem has_del_ne (m : KSet κ) {k k' : κ} (hne : k ≠ k') : KSet.has (KSet.del m k) k' = KSet.has m k' := by
  unfold KSet.has KSet.del AMap.mem; rw [find?_erase_ne m hne]

theorem has_del_self (m : KSet κ) (k : κ) (hn : NodupKeys m) : KSet.has (KSet.del m k) k = false := by
  unfold KSet.has KSet.del AMap.mem; rw [find?_erase_self m k hn]; rfl

theorem has_del (m : KSet κ) (k k' : κ) (hn : NodupKeys m) :
    KSet.has (KSet.del m k) k' = true ↔ k ≠ k' ∧ KSet.has m k' = true := by
  unfold KSet.has KSet.del AMap.mem
  rw [find?_erase m k k' hn]
  by_cases h : k = k'
  · simp [h]
  · simp [h]

theorem has_foldl_del (ks : List κ) (m : KSet κ) (hn : NodupKeys m) :
    NodupKeys (ks.foldl KSet.del m) ∧ ∀ k, KSet.has (ks.foldl KSet.del m) k = true ↔ KSet.has m k = true ∧ k ∉ ks := by
  induction ks generalizing m with
  | nil => exact ⟨hn, fun k => by simp⟩
  | cons a ks ih =>
    obtain ⟨n', i⟩ := ih (KSet.del m a) (nodup_erase m a hn)
    refine ⟨n', fun k => ?_⟩
    rw [List.foldl_cons, i k, has_del m a k hn]
    simp only [List.mem_cons, not_or]
    constructor
    · rintro ⟨⟨h1, h2⟩, h3⟩; exact ⟨h2, Ne.symm h1, h3⟩
    · rintro ⟨h2, h1, h3⟩; exact ⟨⟨Ne.symm h1, h2⟩, h3⟩

theorem has_del_absent (m : KSet κ) (k k' : κ) (h : KSet.has m k = false) :
    KSet.has (KSet.del m k) k' = KSet.has m k' := by
  by_cases hk : k = k'
  · subst hk
    rw [h]
    cases hd : KSet.has (KSet.del m k) k with
    | false => rfl
    | true => rw [has_del_of m k k hd] at h; cases h
  · exact has_del_ne m hk

end KSet

section keys
open AMap

theorem keys_set {κ ν} [DecidableEq κ] [KLt κ] (m : List (κ × ν)) (k x : κ) (v : ν) (h : x ∈ (AMap.set m k v).map (·.1)) :
    x = k ∨ x ∈ m.map (·.1) := by
  unfold AMap.set at h
  rcases (keys_ins _ k x v).1 h with h | h
  · exact Or.inl h
  · exact Or.inr (keys_erase_subset m k x h)

theorem keys_put {κ} [DecidableEq κ] [KLt κ] (m : NMap κ) (k x : κ) (v : Nat) (h : x ∈ (NMap.put m k v).map (·.1)) :
    x = k ∨ x ∈ m.map (·.1) := by
  unfold NMap.put at h
  split at h
  · exact Or.inr (keys_erase_subset m k x h)
  · exact keys_set m k x v h

theorem get_eq_zero_of_not_mem {κ} [DecidableEq κ] [KLt κ] (m : NMap κ) (k : κ) (h : k ∉ m.map (·.1)) : NMap.get m k = 0 := by
  unfold NMap.get; rw [find?_eq_none_of_not_mem m k h]; rfl

end keys
end Canopy.Ledger
