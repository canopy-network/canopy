import Canopy.Proof.LedgerMarkers
import Canopy.Proof.LedgerLive
/-! C12: `InvStaking` under the staking handlers (unstake, pause, unpause, stake, edit-stake), under
`UpdateValidatorStake`, and under a slash that takes a validator to zero. Every write of a record that keeps its status
fields goes through `InvStaking.put`, which takes the `Reweigh` step the operation was shown to be. -/
namespace Canopy.Ledger
open AMap

theorem InvStaking.wfm {L : Ledger} (h : InvStaking L) : WFm L := ⟨h.wf.validators, h.wf.unstaking, h.wf.paused⟩
theorem InvStaking.pools {L : Ledger} (h : InvStaking L) : Pools L := ⟨h.wf.committee, h.wf.delegated⟩

theorem InvStaking.mk' {L : Ledger} (ht : Tallies L) (hm : Markers L) (hw : WFm L) (hp : Pools L) : InvStaking L :=
  ⟨ht, hm, ⟨hw.validators, hw.unstaking, hw.paused, hp.committee, hp.delegated⟩⟩

/-- `InvStaking` only looks at the validator records, the markers and the staking part of the supply record -/
theorem InvStaking.of_same {L L' : Ledger} (hs : InvStaking L) (hv : L'.validators = L.validators)
    (h1 : L'.supply.staked = L.supply.staked) (h2 : L'.supply.delegatedOnly = L.supply.delegatedOnly)
    (h3 : L'.supply.committee = L.supply.committee) (h4 : L'.supply.delegated = L.supply.delegated)
    (hu : L'.unstaking = L.unstaking) (hp : L'.paused = L.paused) : InvStaking L' :=
  InvStaking.mk' (hs.tallies.of_same hv h1 h2 h3 h4) (hs.markers.of_same hv hu hp) (hs.wfm.of_same hv hu hp)
    (hs.pools.of_sameCore_supply h3 h4)

/-- `SetValidatorUnstaking` on a validator that is not yet unstaking keeps `InvStaking` -/
theorem setValidatorUnstaking_inv {L : Ledger} {a : Addr} {val : Validator} {f : Nat} (hs : InvStaking L)
    (hv : valGet? L a = some val) (hu : val.unstakingHeight = 0) (hf : f ≠ 0) : InvStaking (setValidatorUnstaking L a val f) := by
  have hm := setValidatorUnstaking_money L a val f
  obtain ⟨m, w⟩ := markers_setValidatorUnstaking (val := val) hs.markers hs.wfm hv hu rfl hf
  exact InvStaking.mk' (tallies_status hs.tallies hv hm.supply (setValidatorUnstaking_validators ..) rfl rfl rfl) m w
    ⟨by rw [hm.supply]; exact hs.wf.committee, by rw [hm.supply]; exact hs.wf.delegated⟩

/-- `HandleMessageUnstake` -/
theorem handleUnstake_inv {L L' : Ledger} {a : Addr} (hs : InvStaking L)
    (hf : (L.height + L.params.unstakingBlocks) % U64 ≠ 0 ∧ (L.height + L.params.delegateUnstakingBlocks) % U64 ≠ 0)
    (h : handleUnstake L a = .ok L') : InvStaking L' := by
  obtain ⟨val, hg, hu0, rfl⟩ := handleUnstake_ok h
  refine setValidatorUnstaking_inv hs hg hu0 ?_
  split
  · exact hf.2
  · exact hf.1

/-- `HandleMessagePause` -/
theorem handlePause_inv {L L' : Ledger} {a : Addr} (hs : InvStaking L) (hf : (L.height + L.params.maxPauseBlocks) % U64 ≠ 0)
    (h : handlePause L a = .ok L') : InvStaking L' := by
  obtain ⟨val, hg, hp, hu, _, rfl⟩ := handlePause_ok h
  obtain ⟨m, w⟩ := markers_setValidatorPaused hs.markers hs.wfm hg hu hp hf
  exact InvStaking.mk' (tallies_status hs.tallies hg rfl rfl rfl rfl rfl) m w ⟨hs.wf.committee, hs.wf.delegated⟩

/-- `HandleMessageUnpause` -/
theorem handleUnpause_inv {L L' : Ledger} {a : Addr} (hs : InvStaking L) (h : handleUnpause L a = .ok L') : InvStaking L' := by
  obtain ⟨val, hg, _, _, _, rfl⟩ := handleUnpause_ok h
  obtain ⟨m, w⟩ := markers_setValidatorUnpaused hs.markers hs.wfm hg
  exact InvStaking.mk' (tallies_status hs.tallies hg rfl rfl rfl rfl rfl) m w ⟨hs.wf.committee, hs.wf.delegated⟩

theorem markers_delete {L L' : Ledger} {a : Addr} {val : Validator} (hm : Markers L) (hw : WFm L) (hg : valGet? L a = some val)
    (hv : L'.validators = AMap.erase L.validators a)
    (hu : L'.unstaking = if val.unstakingHeight ≠ 0 then KSet.del L.unstaking (val.unstakingHeight, a) else L.unstaking)
    (hp : L'.paused = if val.maxPausedHeight ≠ 0 then KSet.del L.paused (val.maxPausedHeight, a) else L.paused) :
    Markers L' ∧ WFm L' := by
  have hget : ∀ b, find? L'.validators b = if a = b then none else find? L.validators b := by
    rw [hv]; exact fun b => find?_erase _ _ _ hw.validators
  have hg' : find? L.validators a = some val := hg
  refine ⟨⟨?_, ?_, ?_⟩, ⟨by rw [hv]; exact nodup_erase _ _ hw.validators, ?_, ?_⟩⟩
  · rw [hu]; exact Marks.delIf hm.unstaking hw.unstaking hget (by rw [hg']; rfl) rfl
  · rw [hp]; exact Marks.delIf hm.paused hw.paused hget (by rw [hg']; rfl) rfl
  · exact forall_find?_update hm.exclusive hget (fun v e => nomatch e)
  · rw [hu]; split
    · exact nodup_erase _ _ hw.unstaking
    · exact hw.unstaking
  · rw [hp]; split
    · exact nodup_erase _ _ hw.paused
    · exact hw.paused

/-- the repaired zero-stake branch: the markers of the record cleaned (`Lc`), its weights taken out of the tallies, the record
removed — `InvStaking` is kept (this is exactly what failed before 6a62009, see `never_wedged_fails_without_marker_cleanup`) -/
theorem Reweigh.del_inv {val : Validator} {L Lc L2 : Ledger} {a : Addr} (r : Reweigh (some val) none Lc L2)
    (hs : InvStaking L) (hg : valGet? L a = some val) (ev : Lc.validators = L.validators) (es : Lc.supply = L.supply)
    (eu : Lc.unstaking = if val.unstakingHeight ≠ 0 then KSet.del L.unstaking (val.unstakingHeight, a) else L.unstaking)
    (ep : Lc.paused = if val.maxPausedHeight ≠ 0 then KSet.del L.paused (val.maxPausedHeight, a) else L.paused) :
    InvStaking (valDel L2 a) := by
  obtain ⟨t, p⟩ := r.del_tallies (a := a) (hs.tallies.of_same ev (by rw [es]) (by rw [es]) (by rw [es]) (by rw [es]))
    ⟨by rw [es]; exact hs.wf.committee, by rw [es]; exact hs.wf.delegated⟩ (by unfold valGet?; rw [ev]; exact hg)
  obtain ⟨m, w⟩ := markers_delete (L' := valDel L2 a) hs.markers hs.wfm hg
    (by show AMap.erase L2.validators a = _; rw [r.validators, ev]) (r.env.unstaking.trans eu) (r.env.paused.trans ep)
  exact InvStaking.mk' t m w p

/-- **`SlashValidator` when the stake rounds to zero (the F3 situation) keeps `InvStaking`** — in particular the
markers of the deleted validator are gone -/
theorem slashValidator_zero_inv {L L' : Ledger} {a : Addr} {val : Validator} {ch p : Nat} (hs : InvStaking L)
    (hg : valGet? L a = some val)
    (hz : ∀ p' cs' L0, slashScope L a val ch p = some (p', cs', L0) → stakeAfterSlash val.stake p' = 0)
    (h : slashValidator L a val ch p = .ok L') : InvStaking L' := by
  unfold slashValidator at h
  rcases slashValidatorWith_ok h with ⟨_, rfl⟩ | ⟨p', cs', L0, L1, hsc, h1, h⟩
  · exact hs
  rw [if_pos (hz p' cs' L0 hsc)] at h
  obtain ⟨t, rfl⟩ := (slashScope_ok hsc).1
  obtain ⟨_, rfl⟩ := subFromTotal_ok.1 h1
  obtain ⟨L2, r, rfl⟩ := deleteValidator_reweigh h
  have hs1 : InvStaking { L with slashTracker := t, supply := { L.supply with total :=
      L.supply.total - (val.stake - stakeAfterSlash val.stake p') } } := hs.of_same rfl rfl rfl rfl rfl rfl rfl
  have e := slashCleanMarkers_eq true { L with slashTracker := t, supply := { L.supply with total :=
    L.supply.total - (val.stake - stakeAfterSlash val.stake p') } } a val
  simp only [Bool.true_and, decide_eq_true_eq] at e
  exact r.del_inv hs1 hg (by rw [e]) (by rw [e]) (by rw [e]) (by rw [e])

/-- writing at `a` a record with the status fields of the entry before (`0` where there was none) keeps the marker
biconditionals -/
theorem markers_keep {L L' : Ledger} {a : Addr} {v : Validator} (hm : Markers L) (hw : WFm L)
    (hv : L'.validators = AMap.set L.validators a v) (hu : L'.unstaking = L.unstaking) (hp : L'.paused = L.paused)
    (h1 : v.unstakingHeight = ow (·.unstakingHeight) (valGet? L a))
    (h2 : v.maxPausedHeight = ow (·.maxPausedHeight) (valGet? L a)) : Markers L' ∧ WFm L' := by
  have hget : ∀ b, find? L'.validators b = if a = b then some v else find? L.validators b := by
    rw [hv]; exact fun b => find?_set _ _ _ _
  refine ⟨⟨?_, ?_, ?_⟩, ⟨by rw [hv]; exact nodup_set _ _ _ hw.validators, by rw [hu]; exact hw.unstaking, by rw [hp]; exact hw.paused⟩⟩
  · rw [hu]; exact Marks.keep hm.unstaking hget h1
  · rw [hp]; exact Marks.keep hm.paused hget h2
  · refine forall_find?_update hm.exclusive hget fun w e hne => ?_
    cases e
    rw [h1] at hne; rw [h2]
    cases hg : valGet? L a with
    | none => rfl
    | some old => rw [hg] at hne; exact hm.exclusive a old hg hne

/-- the tallies re-weighed from the entry at `a` (`old`, possibly none) to `nv`, then `nv` written there: `InvStaking` holds
when `nv` has the status fields of the entry before -/
theorem InvStaking.put {L L2 : Ledger} {a : Addr} {old : Option Validator} {nv : Validator} (hs : InvStaking L)
    (r : Reweigh old (some nv) L L2) (hg : valGet? L a = old)
    (h1 : nv.unstakingHeight = ow (·.unstakingHeight) old) (h2 : nv.maxPausedHeight = ow (·.maxPausedHeight) old) :
    InvStaking (valPut L2 a nv) := by
  subst hg
  obtain ⟨pl, s3, s4⟩ := r.pools hs.pools
  obtain ⟨m, w⟩ := markers_keep (L' := valPut L2 a nv) hs.markers hs.wfm (congrArg (AMap.set · a nv) r.validators)
    r.env.unstaking r.env.paused h1 h2
  refine InvStaking.mk' (hs.tallies.replace (old := valGet? L a) (nv := some nv) (fun f => ?_) r.staked r.delegatedOnly s3 s4) m w
    ⟨pl.committee, pl.delegated⟩
  show sumBy f (AMap.set L2.validators a nv) + _ = _
  rw [r.validators]; exact sumBy_set f L.validators a nv

/-- `UpdateValidatorStake` (edit-stake, reward compounding) keeps `InvStaking`; `val` is the record at `a` up to the fields
that weigh nothing and mark nothing (output address, compounding flag) -/
theorem updateValidatorStake_inv {L L' : Ledger} {a : Addr} {old val : Validator} {cs : List Nat} {amt : Nat}
    (hs : InvStaking L) (hg : valGet? L a = some old)
    (e1 : val.stake = old.stake) (e2 : val.delegate = old.delegate) (e3 : val.committees = old.committees)
    (e4 : val.unstakingHeight = old.unstakingHeight) (e5 : val.maxPausedHeight = old.maxPausedHeight)
    (hw : val.stake + amt < U64) (h : updateValidatorStake L a val cs amt = .ok L') : InvStaking L' := by
  obtain ⟨L2, r, _, _, rfl⟩ := updateValidatorStake_reweigh h
  exact hs.put ((r hw).of_weights e1 e2 e3) hg e4 e5

/-- `HandleMessageEditStake` keeps `InvStaking` -/
theorem handleEditStake_inv {L L' : Ledger} {s a o : Addr} {x : Nat} {cs : List Nat} {c : Bool} (hi : InvSupply L)
    (hs : InvStaking L) (h : handleEditStake L s a x cs c o = .ok L') : InvStaking L' := by
  obtain ⟨val, L1, hv, _, h1, h2⟩ := handleEditStake_ok h
  have hw := stake_add_lt_of_accountSub hi hv h1
  obtain ⟨acc, vs, rfl, _⟩ := accountSub_ok h1
  have hs1 : InvStaking { L with accounts := acc, vesting := vs } := hs.of_same rfl rfl rfl rfl rfl rfl rfl
  exact updateValidatorStake_inv (old := val) (val := { val with output := o, compound := c }) hs1 hv rfl rfl rfl rfl rfl hw h2

/-- `HandleMessageStake` keeps `InvStaking` -/
theorem handleStake_inv {L L' : Ledger} {s a o : Addr} {x : Nat} {cs : List Nat} {d c : Bool}
    (hs : InvStaking L) (h : handleStake L s a x cs d c o = .ok L') : InvStaking L' := by
  obtain ⟨hnone, L1, L3, h1, r, rfl⟩ := handleStake_reweigh h
  obtain ⟨acc, vs, rfl, _⟩ := accountSub_ok h1
  exact (hs.of_same (L' := { L with accounts := acc, vesting := vs }) rfl rfl rfl rfl rfl rfl rfl).put r hnone rfl rfl

end Canopy.Ledger
