import Canopy.Proof.LedgerPercents
import Canopy.Proof.LedgerSlashInv
/-! C12: duplicate-free committee lists (`CommitteesDistinct`, counted by `dupCommittees`) are kept by every modelled
operation: the count of records with a doubly listed committee never grows. New lists come from messages
(`checkCommittees` rejects duplicates), from the committee-scoped ejection (`erase`), or from the rotation of
`ConformStateToParamUpdate` (distinct indices of the old list). -/
namespace Canopy.Ledger
open AMap

theorem dupC_le_of_nodup {v : Validator} (hn : v.committees.Nodup) (n : Nat) : dupC v ≤ n := by
  unfold dupC; rw [if_pos hn]; exact Nat.zero_le n

/-- a list derived from a duplicate-free one in a way that keeps it duplicate-free -/
theorem dupC_le_of_imp {v v' : Validator} (h : v.committees.Nodup → v'.committees.Nodup) : dupC v' ≤ dupC v := by
  unfold dupC
  by_cases hn : v.committees.Nodup
  · rw [if_pos hn, if_pos (h hn)]; exact Nat.le_refl 0
  · rw [if_neg hn]; split <;> omega

/-- a record is written at one address; it lists a committee twice only if the record it replaces did -/
theorem dup_set_le {L L' : Ledger} {a : Addr} {v' : Validator} (e : L'.validators = AMap.set L.validators a v')
    (hle : dupC v' ≤ ow dupC (find? L.validators a)) : dupCommittees L' ≤ dupCommittees L := by
  have := sumBy_set dupC L.validators a v'
  unfold dupCommittees
  rw [e]; omega

theorem dup_valPut_le {L L2 : Ledger} {a : Addr} {v' : Validator} (e : L2.validators = L.validators)
    (hle : dupC v' ≤ ow dupC (find? L.validators a)) : dupCommittees (valPut L2 a v') ≤ dupCommittees L :=
  dup_set_le (congrArg (AMap.set · a v') e) hle

theorem dup_valPut_nodup {L L2 : Ledger} {a : Addr} {v' : Validator} (e : L2.validators = L.validators)
    (hn : v'.committees.Nodup) : dupCommittees (valPut L2 a v') ≤ dupCommittees L :=
  dup_valPut_le e (dupC_le_of_nodup hn _)

theorem dupC_of_get {L : Ledger} {a : Addr} {val : Validator} (hg : valGet? L a = some val) : ow dupC (find? L.validators a) = dupC val := by
  unfold valGet? at hg; rw [hg]; rfl

theorem setUnstakingIfBelowMinimum_dup_le {L : Ledger} {a : Addr} {val : Validator}
    (hle : dupC val ≤ ow dupC (find? L.validators a)) : dupCommittees (setUnstakingIfBelowMinimum L a val).2 ≤ dupCommittees L := by
  rcases setUnstakingIfBelowMinimum_cases L a val with e | ⟨f, _, _, e⟩
  · rw [e]; exact Nat.le_refl _
  · rw [e]; exact dup_set_le (setValidatorUnstaking_validators ..) hle

theorem handleUnstake_dup_le {L L' : Ledger} {a : Addr} (h : handleUnstake L a = .ok L') : dupCommittees L' ≤ dupCommittees L := by
  obtain ⟨val, hv, _, rfl⟩ := handleUnstake_ok h
  exact dup_set_le (setValidatorUnstaking_validators ..) (Nat.le_of_eq (dupC_of_get hv).symm)

theorem handlePause_dup_le {L L' : Ledger} {a : Addr} (h : handlePause L a = .ok L') : dupCommittees L' ≤ dupCommittees L := by
  obtain ⟨val, hv, _, _, _, rfl⟩ := handlePause_ok h
  exact dup_set_le (setValidatorPaused_validators ..) (Nat.le_of_eq (dupC_of_get hv).symm)

theorem handleUnpause_dup_le {L L' : Ledger} {a : Addr} (h : handleUnpause L a = .ok L') : dupCommittees L' ≤ dupCommittees L := by
  obtain ⟨val, hv, _, _, _, rfl⟩ := handleUnpause_ok h
  exact dup_set_le (setValidatorUnpaused_validators ..) (Nat.le_of_eq (dupC_of_get hv).symm)

theorem checkCommittees_go_nodup : ∀ (cs seen : List Nat), checkCommittees.go seen cs = .ok () → cs.Nodup ∧ ∀ c ∈ cs, c ∉ seen
  | [], _, _ => ⟨List.nodup_nil, fun _ h => by simp at h⟩
  | c :: rest, seen, h => by
    unfold checkCommittees.go at h
    split at h
    · cases h
    · next hs =>
      split at h
      · cases h
      · obtain ⟨i1, i2⟩ := checkCommittees_go_nodup rest (c :: seen) h
        refine ⟨List.nodup_cons.2 ⟨fun hm => ?_, i1⟩, ?_⟩
        · exact i2 c hm (List.mem_cons_self ..)
        · intro x hx
          simp only [List.mem_cons] at hx
          rcases hx with rfl | hx
          · simpa using hs
          · exact fun hm => i2 x hx (List.mem_cons_of_mem _ hm)

theorem checkCommittees_nodup {cs : List Nat} (h : checkCommittees cs = .ok ()) : cs.Nodup := by
  unfold checkCommittees at h
  split at h
  · cases h
  · exact (checkCommittees_go_nodup cs [] h).1

theorem handleEditStake_dup_le {L L' : Ledger} {signer a : Addr} {amount : Nat} {cs : List Nat} {compound : Bool} {output : Addr}
    (hn : cs.Nodup) (h : handleEditStake L signer a amount cs compound output = .ok L') : dupCommittees L' ≤ dupCommittees L := by
  obtain ⟨val, L1, _, _, h1, h2⟩ := handleEditStake_ok h
  rw [← dup_same (sameStaking_accountSub h1).validators]
  exact dup_set_le (updateValidatorStake_frame h2).1 (dupC_le_of_nodup hn _)

theorem handleStake_dup_le {L L' : Ledger} {signer a : Addr} {amount : Nat} {cs : List Nat} {delegate compound : Bool} {output : Addr}
    (hn : cs.Nodup) (h : handleStake L signer a amount cs delegate compound output = .ok L') : dupCommittees L' ≤ dupCommittees L := by
  obtain ⟨_, L1, L3, h1, r, rfl⟩ := handleStake_reweigh h
  exact dup_valPut_nodup (r.validators.trans (sameStaking_accountSub h1).validators) hn

theorem slashFinish_dup_le {L : Ledger} {a : Addr} {v : Validator} (hle : dupC v ≤ ow dupC (find? L.validators a)) :
    dupCommittees (slashFinish L a v) ≤ dupCommittees L := by
  rcases slashFinish_cases L a v with e | ⟨f, _, _, e⟩
  · rw [e]; exact dup_valPut_le rfl hle
  · rw [e]; exact dup_set_le (setValidatorUnstaking_validators ..) hle

theorem slashValidator_dup_le {L L' : Ledger} {a : Addr} {val : Validator} {ch p : Nat} (hg : valGet? L a = some val)
    (h : slashValidator L a val ch p = .ok L') : dupCommittees L' ≤ dupCommittees L := by
  rcases slashValidatorWith_step h with rfl | ⟨t, after, cs', _, _, hcs, h⟩
  · exact Nat.le_refl _
  split at h
  · -- the record is deleted
    obtain ⟨L2, r, rfl⟩ := h
    have := sumBy_erase dupC L.validators a
    have e : (valDel L2 a).validators = AMap.erase L.validators a := by
      show AMap.erase L2.validators a = _; rw [r.validators, slashCleanMarkers_eq]
    unfold dupCommittees
    rw [e]; omega
  · -- the record is re-staked with `cs'`
    obtain ⟨L3, r, rfl⟩ := h
    have e3 : L3.validators = L.validators := r.validators
    rw [← dup_same e3]
    refine slashFinish_dup_le ?_
    rw [e3, dupC_of_get hg]
    rcases hcs with rfl | rfl
    · exact Nat.le_refl _
    · exact dupC_le_of_imp fun hn => hn.erase ch

theorem slashValidators_dup_le {ch p : Nat} {as : List Addr} {L L' : Ledger} (h : slashValidators L ch p as = .ok L') :
    dupCommittees L' ≤ dupCommittees L :=
  slashValidatorsWith_keeps (fun s => dupCommittees s ≤ dupCommittees L)
    (fun _ _ _ _ hs hv h => Nat.le_trans (slashValidator_dup_le hv h) hs) (Nat.le_refl _) h

theorem trimCommittees_nodup {cs : List Nat} {maxC idx : Nat} (hn : cs.Nodup) (hlt : maxC ≤ cs.length) :
    (trimCommittees cs maxC idx).Nodup := by
  unfold trimCommittees
  unfold List.Nodup
  rw [List.pairwise_map]
  refine List.Pairwise.imp_of_mem ?_ (List.pairwise_lt_range (n := maxC))
  intro i j hi hj hij
  rw [List.mem_range] at hi hj
  have hpos : 0 < cs.length := by omega
  have hmi := Nat.mod_lt (idx % cs.length + i) hpos
  have hmj := Nat.mod_lt (idx % cs.length + j) hpos
  -- equal entries of a duplicate-free list sit at equal positions; the positions differ by `j - i < cs.length`
  intro e
  have h0 := Nat.sub_mod_eq_zero_of_mod_eq ((List.getD_inj hmi hmj hn).1 e).symm
  rw [Nat.add_sub_add_left, Nat.mod_eq_of_lt (Nat.lt_of_le_of_lt (Nat.sub_le j i) (Nat.lt_of_lt_of_le hj hlt))] at h0
  exact Nat.sub_ne_zero_of_lt hij h0

theorem conformMinStakeStep_dup_le (L : Ledger) (a : Addr) : dupCommittees (conformMinStakeStep L a) ≤ dupCommittees L := by
  unfold conformMinStakeStep
  split
  · next val hv => exact setUnstakingIfBelowMinimum_dup_le (by rw [dupC_of_get hv]; exact Nat.le_refl _)
  · exact Nat.le_refl _

theorem conformTrimStep_dup_le {acc r : Ledger × Nat} {a : Addr} (h : conformTrimStep acc a = .ok r) :
    dupCommittees r.1 ≤ dupCommittees acc.1 := by
  rcases conformTrimStep_cases h with e | ⟨val, cs, L1, hv, hlen, rfl, r, e⟩
  · rw [e]; exact Nat.le_refl _
  · rw [e]
    refine dup_valPut_le r.validators ?_
    rw [dupC_of_get hv]
    exact dupC_le_of_imp fun hn => trimCommittees_nodup hn (by omega)

theorem handleChangeParameter_dup_le {L L' : Ledger} {space key : String} {v start stop : Nat}
    (h : handleChangeParameter L space key v start stop = .ok L') : dupCommittees L' ≤ dupCommittees L := by
  obtain ⟨p, _, h⟩ := handleChangeParameter_run h
  exact conformStateToParamUpdate_keeps (fun s => dupCommittees s ≤ dupCommittees L)
    (fun s a hs => Nat.le_trans (conformMinStakeStep_dup_le s a) hs)
    (fun _ _ _ hs h => Nat.le_trans (conformTrimStep_dup_le h) hs) h (Nat.le_refl _)

theorem handleMessage_dup_le {L L' : Ledger} {sender : Addr} {msg : Msg} (hc : msg.check = .ok ())
    (h : handleMessage L sender msg = .ok L') : dupCommittees L' ≤ dupCommittees L := by
  cases msg with
  | send s d x => exact Nat.le_of_eq (dup_same (sameStaking_handleSend h).validators)
  | sendVesting s d x st cl en => exact Nat.le_of_eq (dup_same (sameStaking_handleSendVesting h).validators)
  | stake a x cs dl c o =>
    simp only [Msg.check] at hc
    obtain ⟨_, hcc, _⟩ := bind_ok hc
    exact handleStake_dup_le (checkCommittees_nodup hcc) h
  | editStake a x cs c o =>
    simp only [Msg.check] at hc
    obtain ⟨_, hcc, _⟩ := bind_ok hc
    exact handleEditStake_dup_le (checkCommittees_nodup hcc) h
  | unstake a => exact handleUnstake_dup_le h
  | pause a => exact handlePause_dup_le h
  | unpause a => exact handleUnpause_dup_le h
  | daoTransfer a x m s e => exact Nat.le_of_eq (dup_same (sameStaking_handleDaoTransfer h).validators)
  | subsidy a c x => exact Nat.le_of_eq (dup_same (sameStaking_handleSubsidy h).validators)
  | changeParameter sg sp k v s e => exact handleChangeParameter_dup_le h

theorem applyTx_dup_le {L L' : Ledger} {sender : Addr} {fee : Nat} {msg : Msg} (h : applyTx L sender fee msg = .ok L') :
    dupCommittees L' ≤ dupCommittees L := by
  obtain ⟨hc, L1, L2, h1, h2, h⟩ := applyTx_run h
  rw [← dup_same ((sameStaking_txFaucet h1).trans (sameStaking_deductFees h2)).validators]
  exact handleMessage_dup_le hc h

theorem handleCertificateResults_dup_le {L L' : Ledger} {qh qrh : Nat} {members : List (Addr × Nat × Bool)}
    {ds : List (Addr × List Nat)} {pay : List (Addr × Nat × Nat)}
    (h : handleCertificateResults L qh qrh members ds pay = .ok L') : dupCommittees L' ≤ dupCommittees L := by
  obtain ⟨r, hr, h⟩ := handleCertificateResults_run h
  obtain ⟨_, _, rfl⟩ := upsertCommitteeData_run h
  rw [dup_same (putCommitteeData_staking r.1 _).1.symm]
  exact handleByzantine_keeps (fun s => dupCommittees s ≤ dupCommittees L)
    (fun _ _ _ hs h => Nat.le_trans (handlePause_dup_le h) hs)
    (fun _ _ _ _ _ _ hs hv h => Nat.le_trans (slashValidator_dup_le hv h) hs) (fun _ _ _ hs => hs) hr (Nat.le_refl _)

theorem genesisValidator_dup_le {L L' : Ledger} {g : GenesisValidator} (hn : g.val.committees.Nodup)
    (h : genesisValidator L g = .ok L') : dupCommittees L' ≤ dupCommittees L := by
  obtain ⟨_, L1, v1, e1, ev, r⟩ := genesisValidator_run h
  have k1 : dupCommittees L1 ≤ dupCommittees L := by
    rw [e1]
    split
    · exact dup_set_le (setValidatorUnstaking_validators ..) (dupC_le_of_nodup hn _)
    · split
      · exact dup_set_le (setValidatorPaused_validators ..) (dupC_le_of_nodup hn _)
      · exact Nat.le_refl _
  have hv1 : v1.committees.Nodup := by rw [ev]; split <;> exact hn
  rw [dup_same r.validators]
  exact Nat.le_trans (dup_valPut_nodup (L := L1) rfl hv1) k1

theorem foldlM_genesisValidator_dup_le (vals : List GenesisValidator) (L L' : Ledger) (hn : ∀ g ∈ vals, g.val.committees.Nodup)
    (h : vals.foldlM genesisValidator L = .ok L') : dupCommittees L' ≤ dupCommittees L :=
  foldlM_keeps (fun s => dupCommittees s ≤ dupCommittees L) vals
    (fun g hg _ _ hs hstep => Nat.le_trans (genesisValidator_dup_le (hn g hg) hstep) hs) L L' (Nat.le_refl _) h

/-- an accepted genesis has duplicate-free committee lists (the loader rejects the others since 0262f16) -/
theorem genesis_dup_zero {cfg : Config} {params : Params} {accounts : List (Addr × Nat)} {pools : List (Nat × Nat)}
    {vals : List GenesisValidator} {retired : List Nat} {books : List GenesisBook} {L : Ledger}
    (h : genesis cfg params accounts pools vals retired books = .ok L) : dupCommittees L = 0 := by
  obtain ⟨hval, L1, L2, L3, L4, h1, h2, h3, h4, rfl⟩ := genesis_ok h
  have e4 := (foldlM_genesisBook_rest books L3 L4 h4).1.validators
  have e1 := (foldlM_genesisAccount_rest accounts h1).1.validators
  have e2 := (foldlM_genesisPool_rest pools h2).1.validators
  have k := foldlM_genesisValidator_dup_le vals L2 L3 (validateGenesis_distinct hval).2.2.2 h3
  have z : dupCommittees L2 = 0 := by unfold dupCommittees; rw [e2, e1]; rfl
  show dupCommittees L4 = 0
  rw [dup_same e4]
  omega

end Canopy.Ledger
