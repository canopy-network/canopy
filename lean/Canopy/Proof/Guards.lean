/-!
Guard chains. The models transcribe Go functions of the shape
`if c₁ { return e₁ }; if c₂ { return e₂ }; …; return ok` as nested `if … then reject else …`. The lemmas
here turn "the chain did not reject" into the conjunction `¬ c₁ ∧ ¬ c₂ ∧ … ∧ rest` in a single
`simp only [ite_…]` pass. Splitting such a chain one `if` at a time (`split at h`) is several hundred
times slower to check, because every split re-abstracts the whole remaining term.
-/
namespace Canopy

variable {α ε : Type _} {c : Prop} [Decidable c]

/-- a guard whose early exit differs from the result was passed -/
theorem ite_eq_iff_of_ne {x r v : α} (h : x ≠ v) : (if c then x else r) = v ↔ ¬ c ∧ r = v := by
  split <;> simp [*]

theorem ite_some_eq_none {a : α} {r : Option α} : (if c then some a else r) = none ↔ ¬ c ∧ r = none :=
  ite_eq_iff_of_ne nofun

theorem ite_none_eq_some {r : Option α} {v : α} : (if c then none else r) = some v ↔ ¬ c ∧ r = some v :=
  ite_eq_iff_of_ne nofun

theorem ite_error_eq_ok {e : ε} {r : Except ε α} {v : α} :
    (if c then .error e else r) = .ok v ↔ ¬ c ∧ r = .ok v :=
  ite_eq_iff_of_ne nofun

theorem ok_of_ite_error {e : ε} {r : Except ε α} {v : α} (h : (if c then .error e else r) = .ok v) : r = .ok v :=
  (ite_error_eq_ok.mp h).2

/-- a guard whose early exit is the result itself: it fired, or the rest gave the same -/
theorem ite_none_eq_none {r : Option α} : (if c then none else r) = none ↔ c ∨ r = none := by
  split <;> simp [*]

theorem ite_eq_iff {a b x : α} : (if c then a else b) = x ↔ (c ∧ a = x) ∨ (¬ c ∧ b = x) := by
  split <;> simp [*]

/-! `do` blocks over `Except`. `simp only [f, bind_eq_ok, throw_bind, pure_bind, pure_eq_ok, ite_error_eq_ok] at h`
turns `h : f … = .ok r` into the facts along the successful path: one `∃` per `←`, one negated condition per
guard (a statement-level `if c then throw e` elaborates to `if c then throw e >>= k else k ()`), one disjunction
per early return (`ite_eq_iff`, in `Canopy.Dex` the instance `ite_eq_ok`). Where a model spells a bind out as
`match m with | .error e => .error e | .ok a => …` the match has a matcher of its own that no general lemma can
mention: `split at h` there, once per match. -/

variable {β : Type _}

theorem bind_eq_ok {x : Except ε α} {f : α → Except ε β} {b : β} : (x >>= f) = .ok b ↔ ∃ a, x = .ok a ∧ f a = .ok b := by
  cases x with
  | error e => exact ⟨nofun, fun ⟨_, h, _⟩ => nomatch h⟩
  | ok a => exact ⟨fun h => ⟨a, rfl, h⟩, fun ⟨_, h, h'⟩ => Except.ok.inj h ▸ h'⟩

theorem bind_ok {x : Except ε α} {f : α → Except ε β} {b : β} (h : (x >>= f) = .ok b) : ∃ a, x = .ok a ∧ f a = .ok b :=
  bind_eq_ok.1 h

theorem throw_bind (e : ε) (f : α → Except ε β) : ((throw e : Except ε α) >>= f) = .error e := rfl

theorem pure_bind (a : α) (f : α → Except ε β) : (pure a >>= f) = f a := rfl

theorem pure_eq_ok {a b : α} : (pure a : Except ε α) = .ok b ↔ a = b :=
  ⟨fun h => Except.ok.inj h, fun h => h ▸ rfl⟩

end Canopy
