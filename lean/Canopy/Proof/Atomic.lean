import Canopy.Model.Atomic
/-! Simulation of the atomicity mechanism model (C07) by its specification, step by step. Between two
iterations a mechanism loop state stands for exactly one specification loop state (`Loop.abs`), and
handler, iteration, loop and block of the mechanism map to those of the specification; at the
specification level the proposer's loop state determines the replica's (`SLoop.replica`). The property
theorems are in `Props/C07.lean` and `Props/C11.lean`. -/
namespace Canopy.Atomic

theorem get_of_coherent {F : Fsm} (h : Coherent F) : F.get = F.store := by
  funext k
  unfold Fsm.get
  cases hc : F.cache k with
  | none => rfl
  | some x => exact (h k x hc).symm

theorem coherent_noCache {v : View} {e t : List Nat} : Coherent ⟨v, noCache, e, t⟩ :=
  fun _ _ h => nomatch h

theorem coherent_touch {F : Fsm} (h : Coherent F) (k : Key) : Coherent (F.touch k) := by
  intro k' x hc
  simp only [Fsm.touch] at hc ⊢
  by_cases hk : k' = k
  · subst hk
    simp only [if_true, Option.some.injEq] at hc
    rw [← hc, get_of_coherent h]
  · simp only [hk, if_false] at hc
    exact h k' x hc

theorem touch_pure (F : Fsm) (k : Key) : (F.touch k).pure = F.pure := rfl

theorem coherent_put {F : Fsm} (h : Coherent F) (k : Key) (x : Option Val) : Coherent (F.put k x) := by
  intro k' y hc
  simp only [Fsm.put, View.set] at hc ⊢
  by_cases hk : k' = k
  · simp only [hk, if_true, Option.some.injEq] at hc ⊢
    exact hc
  · simp only [hk, if_false] at hc ⊢
    exact h k' y hc

theorem runActs_sim (acts : Handler) : ∀ (F : Fsm), Coherent F →
    Coherent (runActs F acts).1 ∧
    ((runActs F acts).2 = true → specActs F.pure acts = some (runActs F acts).1.pure) ∧
    ((runActs F acts).2 = false → specActs F.pure acts = none) := by
  induction acts with
  | nil => intro F h; simp [runActs, specActs, h]
  | cons a r ih =>
    intro F h
    have hg := get_of_coherent h
    cases a with
    | put k f =>
      have := ih (F.put k (f F.get)) (coherent_put h k _)
      simp only [runActs, specActs]
      rw [hg] at this ⊢
      exact this
    | touch k => exact ih (F.touch k) (coherent_touch h k)
    | emit e => exact ih { F with events := F.events ++ [e] } h
    | slash i => exact ih { F with tracker := F.tracker ++ [i] } h
    | guard p =>
      simp only [runActs, specActs]
      rw [hg]
      by_cases hp : p F.store
      · simp only [hp, if_true, Fsm.pure]
        exact ih F h
      · simp [hp, h, Fsm.pure]

theorem touches_sim (ks : List Key) : ∀ (F : Fsm), Coherent F →
    Coherent (ks.foldl Fsm.touch F) ∧ (ks.foldl Fsm.touch F).pure = F.pure := by
  induction ks with
  | nil => intro F h; exact ⟨h, rfl⟩
  | cons k r ih =>
    intro F h
    have := ih (F.touch k) (coherent_touch h k)
    simp only [List.foldl_cons]
    exact ⟨this.1, this.2.trans (touch_pure F k)⟩

/-- the first pass only fills caches: the state is unchanged and every verdict is `check` of the
post-begin-block store -/
theorem precheck_sim (txs : List Tx) : ∀ (F : Fsm), Coherent F →
    Coherent (precheck F txs).1 ∧ (precheck F txs).1.pure = F.pure ∧
    (precheck F txs).2 = txs.map (fun t => t.check F.store) := by
  induction txs with
  | nil => intro F h; simp [precheck, h]
  | cons t r ih =>
    intro F h
    have ht := touches_sim t.checkTouches F h
    have hr := ih (t.checkTouches.foldl Fsm.touch F) ht.1
    have hs : (t.checkTouches.foldl Fsm.touch F).store = F.store := congrArg Pure.view ht.2
    simp only [precheck, List.map_cons]
    refine ⟨hr.1, hr.2.1.trans ht.2, ?_⟩
    rw [hr.2.2, get_of_coherent ht.1, hs]

/-- the specification's loop state that a mechanism loop state stands for; once the block is oversize
the block state is what was remembered on entering (no event is pending at that moment) -/
def Loop.abs (L : Loop) : SLoop :=
  { cur := L.F.pure
    blk := if L.oversize then ⟨L.preOver.1, [], L.preOver.2⟩ else L.F.pure
    included := L.included, failed := L.failed, oversized := L.oversized
    blockEvents := L.blockEvents, size := L.size, oversize := L.oversize }

/-- what holds between two iterations: the caches repeat the store and no event is pending -/
def Loop.Ok (L : Loop) : Prop := Coherent L.F ∧ L.F.events = []

theorem start_abs (F : Fsm) : (Loop.start F).abs = SLoop.start F.pure := rfl

/-- one iteration: with every manual restoration in place the mechanism follows the specification -/
theorem stepTx_abs (max : Nat) (allow : Bool) (L : Loop) (t : Tx) (p : Bool) (h : L.Ok) :
    (stepTx Cfg.all max allow L t p).map Loop.abs = specStep max allow L.abs t p ∧
    ∀ L', stepTx Cfg.all max allow L t p = some L' → L'.Ok := by
  obtain ⟨⟨st, ca, ev, tr⟩, inc, fl, ov, bev, sz, os, pre⟩ := L
  obtain ⟨coh, hev⟩ := h
  simp only at hev
  subst hev
  cases p with
  | false => exact ⟨rfl, fun L' h' => by cases h'; exact ⟨coh, rfl⟩⟩
  | true =>
    obtain ⟨hcoh', hok, hfail⟩ := runActs_sim t.fullActs _ coh
    simp only [stepTx, specStep, Loop.abs, Bool.not_true, Bool.false_eq_true, if_false]
    -- whether the block becomes oversize here is only a flag: on entering, both sides remember the
    -- state before the transaction, whatever `os` was
    generalize (decide (t.size + sz > max) && !os) = enter
    cases hr : runActs ⟨st, ca, [], tr⟩ t.fullActs with
    | mk F' ok =>
    rw [hr] at hcoh' hok hfail
    cases enter with
    | true =>
      cases allow with
      | false => exact ⟨rfl, nofun⟩
      | true =>
        simp only [Bool.not_true, Bool.and_false, Bool.false_eq_true, if_false, if_true, hr]
        cases ok with
        | true =>
          simp only [hok rfl, Option.map_some, Option.some.injEq, forall_eq']
          exact ⟨rfl, hcoh', rfl⟩
        | false =>
          simp only [hfail rfl, Option.map_some, Option.some.injEq, forall_eq']
          exact ⟨rfl, coherent_noCache, rfl⟩
    | false =>
      simp only [Bool.false_and, Bool.false_eq_true, if_false, hr]
      cases ok with
      | true =>
        simp only [hok rfl]
        cases os <;> exact ⟨rfl, fun L' h' => by cases h'; exact ⟨hcoh', rfl⟩⟩
      | false =>
        simp only [hfail rfl, Option.map_some, Option.some.injEq, forall_eq']
        exact ⟨rfl, coherent_noCache, rfl⟩

theorem loop_abs (max : Nat) (allow : Bool) (txs : List Tx) : ∀ (ps : List Bool) (L : Loop), L.Ok →
    (loopTxs Cfg.all max allow L txs ps).map Loop.abs = specLoop max allow L.abs txs ps ∧
    ∀ L', loopTxs Cfg.all max allow L txs ps = some L' → L'.Ok := by
  induction txs with
  | nil => intro ps L h; exact ⟨rfl, fun L' h' => by cases h'; exact h⟩
  | cons t r ih =>
    intro ps L h
    cases ps with
    | nil => exact ⟨rfl, fun L' h' => by cases h'; exact h⟩
    | cons p ps =>
      obtain ⟨hs, hok⟩ := stepTx_abs max allow L t p h
      simp only [loopTxs, specLoop]
      rw [← hs]
      cases hx : stepTx Cfg.all max allow L t p with
      | none => exact ⟨rfl, nofun⟩
      | some L' => exact ih ps L' (hok L' hx)

theorem finish_abs {L : Loop} (h : L.Ok) :
    Coherent (finishLoop Cfg.all L).F ∧ (finishLoop Cfg.all L).F.pure = L.abs.final ∧
    (finishLoop Cfg.all L).included = L.included ∧ (finishLoop Cfg.all L).failed = L.failed ∧
    (finishLoop Cfg.all L).oversized = L.oversized ∧ (finishLoop Cfg.all L).blockEvents = L.blockEvents := by
  obtain ⟨⟨st, ca, ev, tr⟩, inc, fl, ov, bev, sz, os, pre⟩ := L
  obtain ⟨coh, hev⟩ := h
  simp only at hev
  subst hev
  cases os with
  | true => exact ⟨coherent_noCache, rfl, rfl, rfl, rfl, rfl⟩
  | false => exact ⟨coh, rfl, rfl, rfl, rfl, rfl⟩

/-- the mechanism (with every manual restoration in place) refines the specification -/
theorem run_refines (max : Nat) (allow : Bool) (F : Fsm) (hc : Coherent F) (he : F.events = [])
    (txs : List Tx) :
    match run Cfg.all max allow F txs, specRun max allow F.pure txs with
    | some L, some S => Coherent L.F ∧ L.F.pure = S.final ∧ L.included = S.included ∧
        L.failed = S.failed ∧ L.oversized = S.oversized ∧ L.blockEvents = S.blockEvents
    | none, none => True
    | _, _ => False := by
  obtain ⟨hc1, hpure, hpres⟩ := precheck_sim txs F hc
  unfold run specRun
  generalize precheck F txs = q at hc1 hpure hpres ⊢
  obtain ⟨F1, pres⟩ := q
  dsimp only
  obtain ⟨hl, hok⟩ := loop_abs max allow txs pres (Loop.start F1) ⟨hc1, (congrArg Pure.events hpure).trans he⟩
  rw [show (txs.map fun t => t.check F.pure.view) = pres from hpres.symm, ← hpure, ← start_abs, ← hl]
  cases hx : loopTxs Cfg.all max allow (Loop.start F1) txs pres with
  | none => trivial
  | some L => exact finish_abs (hok L hx)

theorem block_refines (max : Nat) (allow : Bool) (F : Fsm) (hc : Coherent F) (b : Handler) (txs : List Tx)
    (e : Handler) :
    (applyBlock Cfg.all max allow F b txs e).map (fun r => (r.1.pure, r.2)) = specBlock max allow F.pure b txs e ∧
    ∀ r, applyBlock Cfg.all max allow F b txs e = some r → Coherent r.1 := by
  unfold applyBlock specBlock
  obtain ⟨hb1, hb2, hb3⟩ := runActs_sim b F hc
  generalize runActs F b = q at hb1 hb2 hb3 ⊢
  obtain ⟨F1, ok⟩ := q
  cases ok with
  | false => simp only [hb3 rfl]; exact ⟨rfl, nofun⟩
  | true =>
    simp only [hb2 rfl]
    have hr := run_refines max allow { F1 with events := [] } hb1 rfl txs
    rw [show ({ F1 with events := [] } : Fsm).pure = { F1.pure with events := [] } from rfl] at hr
    split at hr
    · next L S h1 h2 =>
      obtain ⟨hcL, hpL, hinc, _⟩ := hr
      simp only [h1, h2]
      obtain ⟨he1, he2, he3⟩ := runActs_sim e L.F hcL
      rw [hpL] at he2 he3
      generalize runActs L.F e = q at he1 he2 he3 ⊢
      obtain ⟨F2, ok2⟩ := q
      cases ok2 with
      | false => simp only [he3 rfl]; exact ⟨rfl, nofun⟩
      | true => simp only [he2 rfl, hinc]; exact ⟨rfl, fun r hr => by cases hr; exact he1⟩
    · next h1 h2 => simp only [h1, h2]; exact ⟨rfl, nofun⟩
    · exact hr.elim

/-- in the specification a transaction that fails — in the pre-check or in its handler — is only
recorded as failed -/
theorem specStep_failed {max : Nat} {allow : Bool} {S S' : SLoop} {t : Tx} {p : Bool}
    (hf : p = false ∨ specActs S.cur t.fullActs = none) (h : specStep max allow S t p = some S') :
    S'.cur = S.cur ∧ S'.included = S.included ∧ S'.blockEvents = S.blockEvents ∧ S'.size = S.size ∧
    S'.failed = S.failed ++ [t] := by
  unfold specStep at h
  cases p with
  | false => cases h; exact ⟨rfl, rfl, rfl, rfl, rfl⟩
  | true =>
    obtain hx : specActs S.cur t.fullActs = none := hf.resolve_left nofun
    simp only [Bool.not_true, Bool.false_eq_true, if_false] at h
    generalize (decide (t.size + S.size > max) && !S.oversize) = enter at h
    cases enter with
    | false =>
      simp only [Bool.false_and, Bool.false_eq_true, if_false, hx, Option.some.injEq] at h
      subst h
      exact ⟨rfl, rfl, rfl, rfl, rfl⟩
    | true =>
      cases allow with
      | false => cases h
      | true =>
        simp only [Bool.not_true, Bool.and_false, Bool.false_eq_true, if_false, if_true, hx, Option.some.injEq] at h
        subst h
        exact ⟨rfl, rfl, rfl, rfl, rfl⟩

/-- the replica's loop state after the transactions the proposer has included so far: the block
state, nothing failed, nothing oversize -/
def SLoop.replica (L : SLoop) : SLoop := ⟨L.blk, L.blk, L.included, [], [], L.blockEvents, L.size, false⟩

/-- one iteration of the proposer path either leaves the replica's state where it is (the transaction
fails, or belongs to the oversize remainder) or includes the transaction, and then the replica's
iteration includes it too -/
theorem specStep_replica {max : Nat} {L L' : SLoop} {t : Tx} {p : Bool}
    (hb : L.oversize = false → L.blk = L.cur) (h : specStep max true L t p = some L') :
    (L'.oversize = false → L'.blk = L'.cur) ∧
    (L'.replica = L.replica ∨
      (L'.included = L.included ++ [t] ∧ specStep max false L.replica t p = some L'.replica)) := by
  obtain ⟨cur, blk, inc, fl, ov, bev, sz, os⟩ := L
  unfold specStep at h
  cases p with
  | false => cases h; exact ⟨hb, .inl rfl⟩
  | true =>
    simp only [Bool.not_true, Bool.false_eq_true, if_false, Bool.and_false] at h
    cases os with
    | true =>
      simp only [Bool.not_true, Bool.and_false, Bool.false_eq_true, if_false, if_true] at h
      cases hx : specActs cur t.fullActs <;> (rw [hx] at h; cases h; exact ⟨nofun, .inl rfl⟩)
    | false =>
      obtain rfl : blk = cur := hb rfl
      by_cases hent : t.size + sz > max
      · simp only [hent, decide_true, Bool.not_false, Bool.and_true, if_true] at h
        cases hx : specActs blk t.fullActs <;> (rw [hx] at h; cases h; exact ⟨nofun, .inl rfl⟩)
      · simp only [hent, decide_false, Bool.false_and, Bool.false_eq_true, if_false] at h
        cases hx : specActs blk t.fullActs with
        | none => rw [hx] at h; cases h; exact ⟨fun _ => rfl, .inl rfl⟩
        | some P' =>
          rw [hx] at h
          cases h
          refine ⟨fun _ => rfl, .inr ⟨rfl, ?_⟩⟩
          simp only [specStep, SLoop.replica, hent, hx, Bool.not_true, Bool.false_eq_true, if_false, decide_false,
            Bool.false_and]

/-- the proposer path's included transactions, run on the replica path, reach the proposer's block -/
theorem replay_included (max : Nat) (f : Tx → Bool) (txs : List Tx) : ∀ (L Lf : SLoop),
    (L.oversize = false → L.blk = L.cur) → specLoop max true L txs (txs.map f) = some Lf →
    ∃ inc, Lf.included = L.included ++ inc ∧
      specLoop max false L.replica inc (inc.map f) = some Lf.replica := by
  induction txs with
  | nil => intro L Lf _ h; cases h; exact ⟨[], (List.append_nil _).symm, rfl⟩
  | cons t r ih =>
    intro L Lf hb h
    simp only [List.map_cons, specLoop] at h
    cases hs : specStep max true L t (f t) with
    | none => rw [hs] at h; cases h
    | some L' =>
      rw [hs] at h
      obtain ⟨hb', hstep⟩ := specStep_replica hb hs
      obtain ⟨inc, h1, h2⟩ := ih L' Lf hb' h
      rcases hstep with he | ⟨hi, hr⟩
      · have hi : L'.included = L.included := (congrArg SLoop.included he :)
        rw [he] at h2
        exact ⟨inc, by rw [h1, hi], h2⟩
      · refine ⟨t :: inc, by rw [h1, hi, List.append_assoc]; rfl, ?_⟩
        simp only [List.map_cons, specLoop, hr]
        exact h2

/-- **specification level.** What the proposer path keeps (`allow = true`: failing transactions
dropped, the oversize remainder dropped) is a transaction list that the replica path
(`allow = false`) executes without any failure, to the same block state and the same events. -/
theorem proposal_validates_spec {max : Nat} {P : Pure} {txs : List Tx} {S : SLoop}
    (h : specRun max true P txs = some S) :
    ∃ S', specRun max false P S.included = some S' ∧ S'.final = S.final ∧ S'.included = S.included ∧
      S'.failed = [] ∧ S'.oversized = [] ∧ S'.blockEvents = S.blockEvents := by
  obtain ⟨inc, h1, h2⟩ := replay_included max (fun t => t.check P.view) txs (SLoop.start P) S (fun _ => rfl) h
  obtain rfl : S.included = inc := h1
  exact ⟨S.replica, h2, rfl, rfl, rfl, rfl, rfl⟩

/-- specification level, blocks: the block the proposer path builds is executed by the replica path
to the same state -/
theorem proposal_validates_block_spec (max : Nat) (P : Pure) (b : Handler) (txs : List Tx) (e : Handler)
    (P2 : Pure) (inc : List Tx) (h : specBlock max true P b txs e = some (P2, inc)) :
    specBlock max false P b inc e = some (P2, inc) := by
  unfold specBlock at h ⊢
  split at h
  · split at h
    · next S hr =>
      obtain ⟨S', h1, h2, h3, _⟩ := proposal_validates_spec hr
      split at h
      · next he =>
        cases h
        simp only [h1, h2, h3, he]
      · cases h
    · cases h
  · cases h

end Canopy.Atomic
