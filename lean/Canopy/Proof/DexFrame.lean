import Canopy.Proof.DexSell
import Canopy.Proof.DexArith
/-! What each DEX function did when it succeeded — one lemma per function (`*_ok`; `*_cons` for one round of a loop), from
which every later file argues — and `SellFrame`: a step that leaves the order book and every escrow pool alone keeps the
escrow invariant. Here are its primitives and the frames of the DEX messages, of rotation and of the end of a block; what
runs inside `HandleDexBatch` gets its frame together with its effect (`Moves`, `Canopy.Proof.DexEff`). Core Lean only. -/
namespace Canopy.Dex

theorem holdingId_lt {c : Nat} (h : c ≤ maxChainId) : holdingId c < 65535 := by
  unfold holdingId Gen.Dex.HoldingPoolAddend U64; unfold maxChainId at h; omega
theorem liquidityId_lt {c : Nat} (h : c ≤ maxChainId) : liquidityId c < 65535 := by
  unfold liquidityId Gen.Dex.LiquidityPoolAddend U64; unfold maxChainId at h; omega

theorem escrowId_ge {c : Nat} (h : c ≤ maxChainId) : 65535 ≤ escrowId c := by
  unfold escrowId Gen.Dex.EscrowPoolAddend U64; unfold maxChainId at h; omega

theorem holdingId_inj {c c' : Nat} (h : c ≤ maxChainId) (h' : c' ≤ maxChainId) (e : holdingId c' = holdingId c) : c' = c := by
  unfold holdingId Gen.Dex.HoldingPoolAddend U64 at e; unfold maxChainId at h h'; omega

theorem holdingId_ne_liq {c c' : Nat} (h : c ≤ maxChainId) (h' : c' ≤ maxChainId) : holdingId c' ≠ liquidityId c := by
  unfold holdingId liquidityId Gen.Dex.HoldingPoolAddend Gen.Dex.LiquidityPoolAddend U64; unfold maxChainId at h h'; omega

theorem holdingId_ne_escrow {c ch : Nat} (h : c ≤ maxChainId) (h' : ch ≤ maxChainId) : holdingId c ≠ escrowId ch := by
  unfold holdingId escrowId Gen.Dex.HoldingPoolAddend Gen.Dex.EscrowPoolAddend U64; unfold maxChainId at h h'; omega

/-- the sell-order world (order book, pools with id ≥ 65535, i.e. every escrow pool) is untouched -/
structure SellFrame (s s' : State) : Prop where
  orders : s'.orders = s.orders
  pools : ∀ id, 65535 ≤ id → (getPool s' id).amount = (getPool s id).amount
  accounts : (AM.keys s.accounts).Nodup → (AM.keys s'.accounts).Nodup

theorem SellFrame.refl (s : State) : SellFrame s s := ⟨rfl, fun _ _ => rfl, id⟩

theorem SellFrame.trans {a b c : State} (h1 : SellFrame a b) (h2 : SellFrame b c) : SellFrame a c :=
  ⟨h2.orders.trans h1.orders, fun id h => (h2.pools id h).trans (h1.pools id h), fun h => h2.accounts (h1.accounts h)⟩

theorem sinv_of_sellFrame {s s' : State} (hi : SInv s) (hf : SellFrame s s') : SInv s' where
  ordersNodup := by rw [hf.orders]; exact hi.ordersNodup
  accountsNodup := hf.accounts hi.accountsNodup
  eq := fun c hc => by rw [escrowSum_congr hf.orders, ← hi.eq c hc]; exact hf.pools _ (escrowId_ge hc)
  keyed := keyed_congr hf.orders hi.keyed

theorem frame_of_accountsOnly {s s' : State} (h : AccountsOnly s s') : SellFrame s s' :=
  ⟨h.orders, fun id _ => by rw [getPool_congr h.pools], h.nodup⟩

theorem frame_accountAdd {s s' : State} {a : Bytes} {n : Nat} (h : accountAdd s a n = .ok s') : SellFrame s s' :=
  frame_of_accountsOnly (accountsOnly_accountAdd h)

theorem frame_accountSub {s s' : State} {a : Bytes} {n : Nat} (h : accountSub s a n = .ok s') : SellFrame s s' :=
  frame_of_accountsOnly (accountsOnly_accountSub h)

theorem frame_setPool {s : State} {id : Nat} {p : Pool} (hid : id < 65535) : SellFrame s (setPool s id p) :=
  ⟨rfl, fun id' h => by rw [getPool_setPool_other (Nat.ne_of_gt (Nat.lt_of_lt_of_le hid h))], fun h => h⟩

theorem frame_poolAdd {s : State} {id n : Nat} (hid : id < 65535) : SellFrame s (poolAdd s id n) :=
  frame_setPool hid

theorem frame_poolSub {s s' : State} {id n : Nat} (hid : id < 65535) (h : poolSub s id n = .ok s') : SellFrame s s' := by
  obtain ⟨_, rfl⟩ := poolSub_ok h
  exact frame_setPool hid

theorem frame_setNext {s : State} {c : Nat} {b : Batch} : SellFrame s (setNext s c b) := ⟨rfl, fun _ _ => rfl, id⟩
theorem frame_delNext {s : State} {c : Nat} : SellFrame s (delNext s c) := ⟨rfl, fun _ _ => rfl, id⟩
theorem frame_setLocked {s : State} {c : Nat} {b : Batch} : SellFrame s (setLocked s c b) := ⟨rfl, fun _ _ => rfl, id⟩
theorem frame_delLocked {s : State} {c : Nat} : SellFrame s (delLocked s c) := ⟨rfl, fun _ _ => rfl, id⟩

theorem getPool_normalize (s : State) (id : Nat) :
    getPool (normalize s) id = if (getPool s id).amount = 0 then {} else getPool s id := by
  unfold getPool normalize
  simp only
  induction s.pools with
  | nil => rfl
  | cons e m ih =>
    obtain ⟨k, p⟩ := e
    by_cases hp : p.amount = 0 <;> by_cases hk : k = id <;> simp [AM.get?, hp, hk, ih]

theorem getPool_normalize_amount (s : State) (id : Nat) : (getPool (normalize s) id).amount = (getPool s id).amount := by
  rw [getPool_normalize]
  split
  · exact Eq.symm ‹_›
  · rfl

theorem frame_normalize (s : State) : SellFrame s (normalize s) :=
  ⟨rfl, fun id _ => getPool_normalize_amount s id, fun h => h⟩

macro "dex_unfold" f:ident "at" h:ident : tactic =>
  `(tactic| (unfold $f at $h:ident
             simp only [bind, Except.bind, pure, Except.pure, throw, throwThe, MonadExceptOf.throw] at $h:ident))

theorem dexLimitOrder_ok {s s' : State} {c : Nat} {o : LimitOrder} (h : dexLimitOrder s c o = .ok s') :
    c ≤ maxChainId ∧ ∃ s1, accountSub s o.addr o.amount = .ok s1 ∧
      s' = setNext (poolAdd s1 (holdingId c) o.amount) c
        { getBatch s c false with orders := (getBatch s c false).orders ++ [o] } := by
  simp only [dexLimitOrder, bind_eq_ok, throw_bind, pure_eq_ok, ite_error_eq_ok] at h
  obtain ⟨_, _, _, _, _, _, u, hu, _, _, s1, h1, rfl⟩ := h
  exact ⟨(checkChainId_ok hu).2, s1, h1, rfl⟩

theorem dexDeposit_ok {s s' : State} {c : Nat} {d : Deposit} (h : dexDeposit s c d = .ok s') :
    c ≤ maxChainId ∧ ∃ s1, accountSub s d.addr d.amount = .ok s1 ∧
      s' = setNext (poolAdd s1 (holdingId c) d.amount) c
        { getBatch s c false with deposits := (getBatch s c false).deposits ++ [d] } := by
  simp only [dexDeposit, bind_eq_ok, throw_bind, pure_eq_ok, ite_error_eq_ok] at h
  obtain ⟨_, _, _, _, u, hu, _, _, s1, h1, rfl⟩ := h
  exact ⟨(checkChainId_ok hu).2, s1, h1, rfl⟩

theorem subsidy_ok {s s' : State} {a : Bytes} {id n : Nat} {op : Bytes} (h : subsidy s a id n op = .ok s') :
    id ≠ 0 ∧ id ≤ maxChainId ∧ ∃ s1, accountSub s a n = .ok s1 ∧ s' = poolAdd s1 id n := by
  simp only [subsidy, bind_eq_ok, throw_bind, pure_eq_ok, ite_error_eq_ok] at h
  obtain ⟨_, _, u, hu, _, s1, h1, rfl⟩ := h
  exact ⟨(checkChainId_ok hu).1, (checkChainId_ok hu).2, s1, h1, rfl⟩

theorem checkPercent_ok {n : Nat} {u : Unit} (h : checkPercent n = .ok u) : n ≤ 100 := by
  simp only [checkPercent, ite_error_eq_ok] at h
  omega

theorem dexWithdraw_ok {s s' : State} {c : Nat} {w : Withdraw} (h : dexWithdraw s c w = .ok s') :
    c ≤ maxChainId ∧ w.percent ≤ 100 ∧
      s' = setNext s c { getBatch s c false with withdrawals := (getBatch s c false).withdrawals ++ [w] } := by
  simp only [dexWithdraw, bind_eq_ok, throw_bind, ite_error_eq_ok] at h
  obtain ⟨_, _, up, hup, u, hu, _, _, h⟩ := h
  split at h
  · cases h
  · exact ⟨(checkChainId_ok hu).2, checkPercent_ok hup, (pure_eq_ok.mp h).symm⟩

theorem frame_holdIn {s s1 : State} {a : Bytes} {c n : Nat} (b : Batch) (hc : c ≤ maxChainId)
    (h1 : accountSub s a n = .ok s1) : SellFrame s (setNext (poolAdd s1 (holdingId c) n) c b) :=
  (frame_accountSub h1).trans ((frame_poolAdd (holdingId_lt hc)).trans (frame_setNext))

theorem frame_dexLimitOrder {s s' : State} {c : Nat} {o : LimitOrder} (h : dexLimitOrder s c o = .ok s') : SellFrame s s' := by
  obtain ⟨hc, s1, h1, rfl⟩ := dexLimitOrder_ok h
  exact frame_holdIn _ hc h1

theorem frame_dexDeposit {s s' : State} {c : Nat} {d : Deposit} (h : dexDeposit s c d = .ok s') : SellFrame s s' := by
  obtain ⟨hc, s1, h1, rfl⟩ := dexDeposit_ok h
  exact frame_holdIn _ hc h1

theorem frame_dexWithdraw {s s' : State} {c : Nat} {w : Withdraw} (h : dexWithdraw s c w = .ok s') : SellFrame s s' := by
  obtain ⟨_, _, rfl⟩ := dexWithdraw_ok h
  exact frame_setNext

/-- one step of the second withdrawal pass: an address without points is skipped; otherwise its share is paid out -/
theorem withdrawPay_cons {tx ty T : Nat} {isLocal : Bool} {w : Withdraw} {ws : List Withdraw} {st st' : WState}
    (h : withdrawPay tx ty T isLocal (w :: ws) st = .ok st') :
    lastIdx st.p.points w.addr = none ∧ withdrawPay tx ty T isLocal ws st = .ok st' ∨
    ∃ i s1 n, lastIdx st.p.points w.addr = some i ∧ accountAdd st.s w.addr n = .ok s1 ∧
      withdrawPay tx ty T isLocal ws
        { s := s1,
          p := { st.p with total := subU64 st.p.total (safeMulDiv (ptsAt st.p.points i) w.percent 100),
                           points := setPtsAt st.p.points i
                             (subU64 (ptsAt st.p.points i) (safeMulDiv (ptsAt st.p.points i) w.percent 100)) },
          paidX := (st.paidX + safeMulDiv tx (safeMulDiv (ptsAt st.p.points i) w.percent 100) T) % U64,
          paidY := (st.paidY + safeMulDiv ty (safeMulDiv (ptsAt st.p.points i) w.percent 100) T) % U64 } = .ok st' := by
  unfold withdrawPay at h
  split at h
  · rename_i hi
    exact Or.inl ⟨hi, h⟩
  · rename_i i hi
    obtain ⟨s1, h1, h⟩ := bind_ok h
    exact Or.inr ⟨i, s1, _, hi, h1, h⟩

/-- the three ways `handleBatchWithdraw` succeeds on the pool `pIn` it starts from: no withdrawal; nothing to burn (only
the zero-point holders are dropped); or both passes ran and left a pool that still has points -/
theorem batchWithdraw_ok {s : State} {ws : List Withdraw} {c x y : Nat} {isLocal : Bool} {p0 : Option Pool} {persist : Bool}
    {l : Ledger} {pIn : Pool} (hpIn : p0.getD (getPool s (liquidityId c)) = pIn)
    (h : batchWithdraw s ws c x y isLocal p0 persist = .ok l) :
    ws = [] ∧ l = { s, p := pIn, x, y } ∨
    ∃ T, withdrawTotal (dropZero pIn.points) ws 0 = .ok T ∧
      ((T = 0 ∨ pIn.total = 0) ∧ l.p = { pIn with points := dropZero pIn.points } ∧
          l.s = (if persist then setPool s (liquidityId c) l.p else s) ∧ l.x = x ∧ l.y = y ∨
       ¬(T = 0 ∨ pIn.total = 0) ∧ ∃ st,
          withdrawPay (safeMulDiv x T pIn.total) (safeMulDiv y T pIn.total) T isLocal ws
            { s, p := { pIn with points := dropZero pIn.points } } = .ok st ∧
          st.p.total ≠ 0 ∧
          l.p = { amount := if isLocal then subU64 x st.paidX else subU64 y st.paidY, points := dropZero st.p.points,
                  total := st.p.total } ∧
          l.s = (if persist then setPool st.s (liquidityId c) l.p else st.s) ∧
          l.x = subU64 x st.paidX ∧ l.y = subU64 y st.paidY) := by
  subst hpIn
  simp only [batchWithdraw, bind_eq_ok, throw_bind, pure_eq_ok, ite_eq_ok, ite_error_eq_ok] at h
  rcases h with ⟨hws, rfl⟩ | ⟨_, T, hT, ⟨hz, rfl⟩ | ⟨hnz, st, hst, htot, rfl⟩⟩
  · exact Or.inl ⟨hws, rfl⟩
  · exact Or.inr ⟨T, hT, Or.inl ⟨hz, rfl, rfl, rfl, rfl⟩⟩
  · exact Or.inr ⟨T, hT, Or.inr ⟨hnz, st, hst, htot, rfl, rfl, rfl, rfl⟩⟩

/-- one step of PASS 1: the deposit is refused at the cap (and refunded on the local side), or accepted -/
theorem depositPass1_cons {p : Pool} {c : Nat} {isLocal : Bool} {d : Deposit} {ds : List Deposit} {st st' : P1}
    (h : depositPass1 p c isLocal (d :: ds) st = .ok st') :
    (∃ s1, (isLocal = true ∧ (∃ s0, poolSub st.s (holdingId c) d.amount = .ok s0 ∧ accountAdd s0 d.addr d.amount = .ok s1) ∨
             isLocal = false ∧ s1 = st.s) ∧
        depositPass1 p c isLocal ds { st with s := s1, accepted := st.accepted ++ [false] } = .ok st') ∨
    (¬ (addUint64 st.total d.amount).2 = true ∧ ∃ st1, st1.s = st.s ∧ st1.accepted = st.accepted ++ [true] ∧
        st1.total = (addUint64 st.total d.amount).1 ∧ depositPass1 p c isLocal ds st1 = .ok st') := by
  simp only [depositPass1, bind_eq_ok, throw_bind, pure_bind, ite_eq_ok, ite_error_eq_ok] at h
  rcases h with ⟨_, ⟨hl, s0, h0, s1, h1, h⟩ | ⟨hl, h⟩⟩ | ⟨_, hov, h⟩
  · exact Or.inl ⟨s1, Or.inl ⟨hl, s0, h0, h1⟩, h⟩
  · exact Or.inl ⟨st.s, Or.inr ⟨by simpa using hl, rfl⟩, h⟩
  · refine Or.inr ⟨hov, _, ?_, ?_, ?_, h⟩ <;> rfl

theorem depositLocal_ok {s : State} {p : Pool} {c : Nat} {d : Deposit} {isLocal : Bool} {r : State × Pool}
    (h : depositLocal s p c d isLocal = .ok r) :
    isLocal = true ∧ poolSub s (holdingId c) d.amount = .ok r.1 ∧
      r.2 = { p with amount := (addUint64 p.amount d.amount).1 } ∨
    isLocal = false ∧ r = (s, p) := by
  unfold depositLocal at h
  cases isLocal with
  | false => exact Or.inr ⟨rfl, (Except.ok.inj h).symm⟩
  | true =>
    simp only [if_true] at h
    split at h
    · cases h
    rename_i s1 h1
    simp only [ite_error_eq_ok, Except.ok.injEq] at h
    obtain ⟨_, rfl⟩ := h
    exact Or.inl ⟨rfl, h1, rfl⟩

theorem depositPass2_cons {dl td c : Nat} {isLocal : Bool} {d : Deposit} {zs : List (Deposit × Bool)} {st st' : P2}
    (h : depositPass2 dl td c isLocal ((d, true) :: zs) st = .ok st') :
    ∃ p sp, addPoints st.p d.addr (safeMulDiv dl d.amount td) = .ok p ∧ depositLocal st.s p c d isLocal = .ok sp ∧
      ¬ (addUint64 st.x d.amount).2 = true ∧
      depositPass2 dl td c isLocal zs
        { s := sp.1, p := sp.2, x := (addUint64 st.x d.amount).1,
          distributed := (st.distributed + safeMulDiv dl d.amount td) % U64 } = .ok st' := by
  unfold depositPass2 at h
  split at h
  · cases h
  rename_i p h1
  split at h
  · cases h
  rename_i sp h2
  simp only [ite_error_eq_ok] at h
  exact ⟨p, sp, h1, h2, h.1, h.2⟩

theorem mintDeposits_ok {p1 : P1} {p : Pool} {ds : List Deposit} {c x y : Nat} {isLocal persist : Bool} {l : Ledger}
    (h : mintDeposits p1 p ds c x y isLocal persist = .ok l) :
    ∃ lp totalDL p2, initDead p x y = .ok lp ∧ mapErr (liquidityDepositPoints lp.1 x y p1.total) = .ok totalDL ∧
      depositPass2 totalDL p1.total c isLocal (ds.zip p1.accepted) { s := p1.s, p := lp.2, x := x } = .ok p2 ∧
      addPoints p2.p deadAddr (totalDL - p2.distributed) = .ok l.p ∧
      l.s = (if persist then setPool p2.s (liquidityId c) l.p else p2.s) ∧ l.x = p2.x ∧ l.y = y := by
  unfold mintDeposits at h
  split at h
  · cases h
  rename_i lp h1
  split at h
  · cases h
  rename_i totalDL h2
  split at h
  · cases h
  rename_i p2 h3
  split at h
  · cases h
  rename_i pf h4
  cases h
  exact ⟨lp, totalDL, p2, h1, h2, h3, h4, rfl, rfl, rfl⟩

/-- the ways `handleBatchDeposit` without the cap logic succeeds on the pool `p` it starts from: nothing to mint (no
deposit, a zero Σ, a zero ledger: nothing changes), or PASS 1 ran and either accepted nothing or the minting ran -/
theorem batchDepositCore_ok {s : State} {ds : List Deposit} {c x y : Nat} {isLocal : Bool} {p0 : Option Pool} {persist : Bool}
    {l : Ledger} {p : Pool} (hp : p0.getD (getPool s (liquidityId c)) = p)
    (h : batchDepositCore s ds c x y isLocal p0 persist = .ok l) :
    l = { s, p, x, y } ∧ (ds = [] ∨ ∃ raw, sumDeposits ds 0 = .ok raw ∧ (raw = 0 ∨ x = 0 ∨ y = 0)) ∨
    ∃ raw p1, sumDeposits ds 0 = .ok raw ∧ ¬(raw = 0 ∨ x = 0 ∨ y = 0) ∧
      depositPass1 p c isLocal ds { s, projected := p.points.length } = .ok p1 ∧
      (p1.total = 0 ∧ l = { s := p1.s, p, x, y } ∨ p1.total ≠ 0 ∧ mintDeposits p1 p ds c x y isLocal persist = .ok l) := by
  subst hp
  simp only [batchDepositCore, ite_eq_ok, Except.ok.injEq] at h
  rcases h with ⟨hds, rfl⟩ | ⟨_, h⟩
  · exact Or.inl ⟨rfl, Or.inl hds⟩
  split at h
  · cases h
  rename_i raw h1
  simp only [ite_eq_ok, Except.ok.injEq] at h
  rcases h with ⟨hz, rfl⟩ | ⟨hnz, h⟩
  · exact Or.inl ⟨rfl, Or.inr ⟨raw, h1, hz⟩⟩
  split at h
  · cases h
  rename_i p1 h2
  simp only [ite_eq_ok, Except.ok.injEq] at h
  rcases h with ⟨ht, rfl⟩ | ⟨ht, h⟩
  · exact Or.inr ⟨raw, p1, h1, hnz, h2, Or.inl ⟨ht, rfl⟩⟩
  · exact Or.inr ⟨raw, p1, h1, hnz, h2, Or.inr ⟨ht, h⟩⟩

/-- a newcomer meets a full pool. The share it would get is priced on the reserves without the lowest holder; then
either it is rejected (refunded from the holding pool on the local side, nothing else moves) or the lowest holder is
evicted by a 100% withdrawal and the newcomer's deposits run on what is left -/
theorem cappedEvict_ok {c : Nat} {isLocal : Bool} {nc : Newcomer} {l : Ledger} {low : Bytes × Nat}
    {r : Ledger × Option (Bytes × Nat)} (h : cappedEvict c isLocal nc l low = .ok r) :
    (∃ ts, mapErr (liquidityDepositPoints (subU64 l.p.total low.2) (subU64 l.x (safeMulDiv l.x low.2 l.p.total))
        (subU64 l.y (safeMulDiv l.y low.2 l.p.total)) nc.amount) = .ok ts) ∧
    ((∃ s1, (isLocal = true ∧ (∃ a s0, poolSub l.s (holdingId c) nc.amount = .ok s0 ∧ accountAdd s0 a nc.amount = .ok s1) ∨
              isLocal = false ∧ s1 = l.s) ∧ r.1 = { l with s := s1 }) ∨
     ∃ l1, batchWithdraw l.s [{ percent := 100, addr := low.1, id := [] }] c l.x l.y isLocal (some l.p) false = .ok l1 ∧
        batchDepositCore l1.s nc.deposits c l1.x l1.y isLocal (some l1.p) false = .ok r.1) := by
  simp only [cappedEvict, bind_eq_ok, pure_bind, pure_eq_ok, ite_eq_ok] at h
  obtain ⟨ts, hts, ⟨_, ⟨hl, s0, h0, s1, h1, rfl⟩ | ⟨hl, rfl⟩⟩ | ⟨_, l1, h1, l2, h2, rfl⟩⟩ := h
  · exact ⟨⟨ts, hts⟩, Or.inl ⟨s1, Or.inl ⟨hl, _, s0, h0, h1⟩, rfl⟩⟩
  · exact ⟨⟨ts, hts⟩, Or.inl ⟨l.s, Or.inr ⟨by simpa using hl, rfl⟩, rfl⟩⟩
  · exact ⟨⟨ts, hts⟩, Or.inr ⟨l1, h1, h2⟩⟩

theorem cappedStep_ok {c : Nat} {isLocal : Bool} {nc : Newcomer} {l : Ledger} {lowest : Option (Bytes × Nat)}
    {r : Ledger × Option (Bytes × Nat)} (h : cappedStep c isLocal nc l lowest = .ok r) :
    batchDepositCore l.s nc.deposits c l.x l.y isLocal (some l.p) false = .ok r.1 ∨
    ∃ low, cappedEvict c isLocal nc l low = .ok r := by
  simp only [cappedStep, ite_eq_ok] at h
  rcases h with ⟨_, h⟩ | ⟨_, h⟩
  · split at h
    · cases h
    · rename_i l1 h1
      cases h
      exact Or.inl h1
  · split at h
    · cases h
    · rename_i low _
      exact Or.inr ⟨low, h⟩

theorem cappedLoop_cons {c : Nat} {isLocal : Bool} {nc : Newcomer} {rest : List Newcomer} {l l' : Ledger}
    {lowest : Option (Bytes × Nat)} (h : cappedLoop c isLocal (nc :: rest) l lowest = .ok l') :
    ∃ r, cappedStep c isLocal nc l lowest = .ok r ∧ cappedLoop c isLocal rest r.1 r.2 = .ok l' := by
  unfold cappedLoop at h
  split at h
  · cases h
  · rename_i r hr
    exact ⟨r, hr, h⟩

/-- the ways `handleBatchDeposit` (cap check on) succeeds: no deposit; every newcomer fits, so the plain path runs and
persists; or the incumbents' deposits run first and the newcomers, ranked by some order `lt`, go through the cap loop -/
theorem batchDeposit_ok {s : State} {b : Batch} {c x y : Nat} {isLocal : Bool} {l : Ledger}
    (h : batchDeposit s b c x y isLocal = .ok l) :
    b.deposits = [] ∧ l = { s, p := getPool s (liquidityId c), x, y } ∨
    ∃ cl, classify ((getPool s (liquidityId c)).points.map (·.1)) b.deposits [] [] = .ok cl ∧
      (batchDepositCore s b.deposits c x y isLocal (some (getPool s (liquidityId c))) true = .ok l ∨
       ∃ l1 l2 lt, batchDepositCore s cl.1 c x y isLocal (some (getPool s (liquidityId c))) false = .ok l1 ∧
         cappedLoop c isLocal (stableSort lt (cl.2.map (·.2))) l1 none = .ok l2 ∧
         l = { l2 with s := setPool l2.s (liquidityId c) l2.p }) := by
  simp only [batchDeposit, bind_eq_ok, pure_eq_ok, ite_eq_ok] at h
  rcases h with ⟨hd, rfl⟩ | ⟨_, cl, hcl, ⟨_, h⟩ | ⟨_, l1, h1, l2, h2, rfl⟩⟩
  · exact Or.inl ⟨hd, rfl⟩
  · exact Or.inr ⟨cl, hcl, Or.inl h⟩
  · exact Or.inr ⟨cl, hcl, Or.inr ⟨l1, l2, _, h1, h2, rfl⟩⟩

/-- one step of `HandleOrderReceipts`: the order leaves the holding pool; with a receipt it goes to the liquidity pool
(and the counter ledger is debited), without one it goes back to its sender -/
theorem orderReceipts_cons {c : Nat} {o : LimitOrder} {os : List LimitOrder} {rs : List Nat} {s : State} {x y : Nat}
    {r : State × Nat × Nat} (h : orderReceipts c (o :: os) rs s x y = .ok r) :
    ∃ s1, poolSub s (holdingId c) o.amount = .ok s1 ∧
      (orderReceipts c os rs.tail (poolAdd s1 (liquidityId c) o.amount) ((x + o.amount) % U64) (y - rs.head?.getD 0) = .ok r ∨
       ∃ s2, accountAdd s1 o.addr o.amount = .ok s2 ∧ orderReceipts c os rs.tail s2 x y = .ok r) := by
  simp only [orderReceipts, bind_eq_ok, throw_bind, ite_eq_ok, ite_error_eq_ok] at h
  obtain ⟨s1, h1, ⟨_, _, h⟩ | ⟨_, s2, h2, h⟩⟩ := h
  · exact ⟨s1, h1, Or.inl h⟩
  · exact ⟨s1, h1, Or.inr ⟨s2, h2, h⟩⟩

theorem payReceipts_cons {c : Nat} {k : OrderKey} {o : LimitOrder} {os : List (OrderKey × LimitOrder)} {res : List (OrderKey × Nat)}
    {s : State} {acc : List Nat} {r : State × List Nat} (h : payReceipts c ((k, o) :: os) res s acc = .ok r) :
    (∃ s1 s2, poolSub s (liquidityId c) ((AM.get? res k).getD 0) = .ok s1 ∧
        accountAdd s1 o.addr ((AM.get? res k).getD 0) = .ok s2 ∧
        payReceipts c os res s2 (acc ++ [(AM.get? res k).getD 0]) = .ok r) ∨
    (AM.get? res k).getD 0 = 0 ∧ payReceipts c os res s (acc ++ [(AM.get? res k).getD 0]) = .ok r := by
  simp only [payReceipts, bind_eq_ok, ite_eq_ok, ne_eq, Decidable.not_not] at h
  rcases h with ⟨_, s1, h1, s2, h2, h⟩ | h
  · exact Or.inl ⟨s1, s2, h1, h2, h⟩
  · exact Or.inr h

/-- one round of the AMM loop: it stops at the cap, or it writes slot `k` (`dY`, zero when the limit is missed),
takes `dY` out of `y` and, when it paid, adds the order's amount to `x` -/
theorem ammLoop_cons {k : OrderKey} {o : LimitOrder} {rest : List (OrderKey × LimitOrder)} {i x y : Nat}
    {res : List (OrderKey × Nat)} {r : Nat × Nat × List (OrderKey × Nat)} (h : ammLoop ((k, o) :: rest) i x y res = .ok r) :
    (Gen.Dex.MaxOrdersSettledPerBlock ≤ i ∧ r = (x, y, res)) ∨
    (i < Gen.Dex.MaxOrdersSettledPerBlock ∧ ∃ d0 dY x', computeDY x y o.amount = some d0 ∧ dY ≤ d0 ∧
      (x' = x ∨ x' = x + o.amount ∧ x' < U64) ∧ ammLoop rest (i + 1) x' (y - dY) (res ++ [(k, dY)]) = .ok r) := by
  unfold ammLoop at h
  by_cases hi : i ≥ Gen.Dex.MaxOrdersSettledPerBlock
  · rw [if_pos hi] at h
    exact Or.inl ⟨hi, (Except.ok.inj h).symm⟩
  · rw [if_neg hi] at h
    cases hd : computeDY x y o.amount with
    | none => rw [hd] at h; cases h
    | some d0 =>
      rw [hd] at h
      dsimp only at h
      refine Or.inr ⟨Nat.lt_of_not_le hi, d0, ?_⟩
      generalize hdY : (if d0 < o.requested then 0 else d0) = dY at h
      have hle : dY ≤ d0 := by rw [← hdY]; split; exact Nat.zero_le _; exact Nat.le_refl _
      by_cases hz : dY = 0
      · subst hz
        rw [if_neg (not_not_intro rfl)] at h
        exact ⟨0, x, rfl, hle, Or.inl rfl, h⟩
      · rw [if_pos hz, ite_error_eq_ok] at h
        exact ⟨dY, _, rfl, hle, Or.inr ⟨addUint64_exact h.1, addUint64_lt⟩, h.2⟩

/-- `HandleDexBatchOrders` succeeds on non-zero reserves only; it runs the AMM loop over the key-sorted orders and pays
the orders in batch order -/
theorem dexBatchOrders_ok {s : State} {os : List LimitOrder} {bh : Bytes} {x y c : Nat} {r : State × Nat × Nat × List Nat}
    (h : dexBatchOrders s os bh x y c = .ok r) :
    x ≠ 0 ∧ y ≠ 0 ∧ ∃ keyed a p, keyed = ((List.range os.length).zip os).map (fun e => (orderKey bh e.1 e.2, e.2)) ∧
      ammLoop (stableSort (fun a b => bytesLt a.1.2 b.1.2) keyed) 0 x y [] = .ok a ∧
      payReceipts c keyed a.2.2 s [] = .ok p ∧ r = (p.1, a.1, a.2.1, p.2) := by
  simp only [dexBatchOrders, bind_eq_ok, throw_bind, pure_eq_ok, ite_error_eq_ok, not_or] at h
  obtain ⟨⟨hx, hy⟩, a, ha, p, hp, rfl⟩ := h
  exact ⟨hx, hy, _, a, p, rfl, ha, hp, rfl⟩

theorem executeRemote_ok {s s' : State} {remote : Batch} {c : Nat} {bh : Bytes} {mirror : Nat}
    (h : executeRemote s remote c bh mirror = .ok s') :
    ∃ r l1 l2, dexBatchOrders s remote.orders bh mirror (getPool s (liquidityId c)).amount c = .ok r ∧
      batchWithdraw r.1 remote.withdrawals c r.2.1 r.2.2.1 false none true = .ok l1 ∧
      batchDeposit l1.s remote c l1.x l1.y false = .ok l2 ∧
      s' = rotate l2.s ({ remote with livenessFallback := false } : Batch).hash (getPool s (liquidityId c)).amount l2.x c
        r.2.2.2 := by
  simp only [executeRemote, bind_eq_ok, pure_eq_ok] at h
  obtain ⟨r, hr, l1, hl1, l2, hl2, rfl⟩ := h
  exact ⟨r, l1, l2, hr, hl1, hl2, rfl⟩

theorem applyReceipts_ok {s : State} {lb remote : Batch} {c : Nat} {r : State × Nat}
    (h : applyReceipts s lb remote c = .ok r) :
    ∃ r0 l1 l2, orderReceipts c lb.orders remote.receipts s (getPool s (liquidityId c)).amount remote.poolSize = .ok r0 ∧
      batchWithdraw r0.1 lb.withdrawals c r0.2.1 r0.2.2 true none true = .ok l1 ∧
      batchDeposit l1.s lb c l1.x l1.y true = .ok l2 ∧ r = (delLocked l2.s c, l2.y) := by
  simp only [applyReceipts, bind_eq_ok, pure_eq_ok] at h
  obtain ⟨r0, hr, l1, hl1, l2, hl2, rfl⟩ := h
  exact ⟨r0, l1, l2, hr, hl1, hl2, rfl⟩

/-- the four ways `HandleRemoteDexBatch` succeeds: an empty remote batch only rotates; with no locked batch of ours the
remote batch is executed; a remote batch that does not answer our locked batch changes nothing; otherwise the receipts
are applied and then the remote batch is executed against the advanced mirror -/
theorem remoteDexBatch_ok {s s' : State} {remote : Batch} {c : Nat} {bh : Bytes} (h : remoteDexBatch s remote c bh = .ok s') :
    (∃ rh, s' = rotate s rh (getPool s (liquidityId c)).amount remote.poolSize c []) ∨
    executeRemote s remote c bh remote.poolSize = .ok s' ∨
    s' = s ∨
    ∃ r, applyReceipts s (getBatch s c true) remote c = .ok r ∧ executeRemote r.1 remote c bh r.2 = .ok s' := by
  simp only [remoteDexBatch, ite_eq_ok, Except.ok.injEq] at h
  rcases h with ⟨_, rfl⟩ | ⟨_, ⟨_, h⟩ | ⟨_, ⟨_, rfl⟩ | ⟨_, h⟩⟩⟩
  · exact Or.inl ⟨_, rfl⟩
  · exact Or.inr (Or.inl h)
  · exact Or.inr (Or.inr (Or.inl rfl))
  · split at h
    · cases h
    · rename_i r hr
      exact Or.inr (Or.inr (Or.inr ⟨r, hr, h⟩))

theorem refundAll_cons {c : Nat} {a : Bytes} {n : Nat} {l : List (Bytes × Nat)} {s s' : State}
    (h : refundAll c ((a, n) :: l) s = .ok s') :
    ∃ s0 s1, poolSub s (holdingId c) n = .ok s0 ∧ accountAdd s0 a n = .ok s1 ∧ refundAll c l s1 = .ok s' := by
  unfold refundAll at h
  split at h
  · cases h
  rename_i s1 hr
  obtain ⟨s0, h0, h1⟩ := bind_ok hr
  exact ⟨s0, s1, h0, h1, h⟩

theorem livenessFallback_ok {s s' : State} {c : Nat} {lb remote : Batch} (h : livenessFallback s c lb remote = .ok s') :
    ∃ s1 s2, refundAll c (lb.orders.map fun o => (o.addr, o.amount)) s = .ok s1 ∧
      refundAll c (lb.deposits.map fun d => (d.addr, d.amount)) s1 = .ok s2 ∧
      s' = setLocked (setPool s2 (liquidityId c)
        { getPool s2 (liquidityId c) with points := remote.poolPoints, total := remote.totalPoolPoints }) c {} := by
  simp only [livenessFallback, bind_eq_ok, pure_eq_ok] at h
  obtain ⟨s1, h1, s2, h2, rfl⟩ := h
  exact ⟨s1, s2, h1, h2, rfl⟩

/-- `HandleDexBatch` on a resolved chain id: the batch passes `CheckBasic`; without liquidity nothing happens; a batch
flagged as liveness fallback runs the fallback first -/
theorem dexBatchOn_ok {s s' : State} {c : Nat} {nested : Bool} {remote : Batch} {bh : Bytes}
    (h : dexBatchOn s c nested remote bh = .ok s') :
    (∃ u, checkBasic remote = .ok u) ∧ ¬(!nested ∧ remote.poolPoints ≠ []) ∧
    ((getPool s (liquidityId c)).amount = 0 ∧ s' = s ∨
     (remote.livenessFallback = true ∧ ∃ s1, livenessFallback s c (getBatch s c true) remote = .ok s1 ∧
        remoteDexBatch s1 remote c bh = .ok s') ∨
     ¬remote.livenessFallback = true ∧ remoteDexBatch s remote c bh = .ok s') := by
  unfold dexBatchOn at h
  split at h
  · cases h
  rename_i u hu
  simp only [ite_error_eq_ok, ite_eq_ok, Except.ok.injEq] at h
  obtain ⟨hnp, ⟨hz, rfl⟩ | ⟨_, ⟨hlf, h⟩ | ⟨hlf, h⟩⟩⟩ := h
  · exact ⟨⟨u, hu⟩, hnp, Or.inl ⟨hz, rfl⟩⟩
  · split at h
    · cases h
    · rename_i s1 h1
      exact ⟨⟨u, hu⟩, hnp, Or.inr (Or.inl ⟨hlf, s1, h1, h⟩)⟩
  · exact ⟨⟨u, hu⟩, hnp, Or.inr (Or.inr ⟨hlf, h⟩)⟩

theorem frame_rotate {s : State} {rh : Bytes} {a b c : Nat} {rs : List Nat} : SellFrame s (rotate s rh a b c rs) := by
  unfold rotate
  split
  · exact SellFrame.refl _
  · exact (frame_delNext).trans (frame_setLocked)

theorem frame_includeOne (s : State) (k : Nat) (b : Batch) : SellFrame s (includeOne s k b) := by
  unfold includeOne
  split
  · exact SellFrame.refl _
  · dsimp only
    split
    · exact SellFrame.refl _
    · split
      · exact (frame_setLocked).trans (frame_delNext)
      · exact (frame_setLocked).trans (frame_setNext)

theorem frame_endBlock (s : State) : SellFrame s (endBlock s) := by
  unfold endBlock
  dsimp only
  refine SellFrame.trans (List.foldlRecOn (motive := SellFrame s) _ _ (SellFrame.refl s) fun s' hs k _ => hs.trans ?_)
    ⟨rfl, fun _ _ => rfl, fun h => h⟩
  split
  · exact frame_includeOne _ _ _
  · exact SellFrame.refl _

end Canopy.Dex
