import Canopy.Proof.SmtOps
/-! From single operations to histories: on a tree that holds both sentinels every valid operation preserves `Rep`
(`rep_apply`), so a history ends in the canonical tree of the map it ends in (`rep_run`); the sequential `commit` is
such a history and never reaches the Go panic (`commit_spec`). Core only. -/
namespace Canopy.Smt

/-- a sentinel repeats one bit -/
theorem snoc_prefix_replicate {n : Nat} (hn : 0 < n) (c : Bool) : [] ++ [c] <+: List.replicate n c := by
  obtain ⟨m, rfl⟩ := Nat.exists_eq_add_one_of_ne_zero (Nat.ne_of_gt hn)
  exact ⟨List.replicate m c, (List.replicate_succ ..).symm⟩

theorem not_snoc_prefix_replicate (n : Nat) (p : Key) (c : Bool) : ¬ p ++ [!c] <+: List.replicate n c := by
  intro h
  have : (!c) ∈ List.replicate n c := h.subset (by simp)
  cases c <;> simp at this

theorem minKey_ne_maxKey {n : Nat} (hn : 0 < n) : minKey n ≠ maxKey n := by
  intro e
  have h : [] ++ [false] <+: minKey n := snoc_prefix_replicate hn false
  rw [e] at h
  exact not_snoc_prefix_replicate n [] true h

theorem KMap.apply_other (S : KMap) (op : Op) {k : Key} (h : op.key ≠ k) : (S.apply op) k = S k := by
  cases op <;> exact if_neg (Ne.symm h)

theorem KMap.apply_key (S : KMap) (op : Op) : (S.apply op) op.key = op.effect := by
  cases op <;> exact if_pos rfl

theorem KMap.set_ne_none {S : KMap} (k : Key) (v : Bytes) {k' : Key} (h : S k' ≠ none) : (S.set k v) k' ≠ none := by
  unfold KMap.set
  split
  · exact Option.some_ne_none v
  · exact h

theorem hasSentinels_apply {n : Nat} {S : KMap} {op : Op} (hs : S.HasSentinels n) (hv : op.Valid n) :
    (S.apply op).HasSentinels n := by
  cases op with
  | set k v => exact ⟨KMap.set_ne_none k v hs.1, KMap.set_ne_none k v hs.2⟩
  | del k => exact ⟨(KMap.apply_other S (.del k) hv.1).symm ▸ hs.1, (KMap.apply_other S (.del k) hv.2).symm ▸ hs.2⟩

theorem initMap_hasSentinels {n : Nat} (hn : 0 < n) : (initMap n).HasSentinels n := by
  have hne := minKey_ne_maxKey hn
  constructor <;> simp [initMap, Ne.symm hne]

namespace Trie

theorem mem_keys_of_rep {n : Nat} {t : Trie} {S : KMap} (h : t.Rep n S) {k : Key} (hk : S k ≠ none) :
    k ∈ t.keys := by
  cases e : S k with
  | none => exact absurd e hk
  | some v => exact mem_keys_of_mem ((h.2 k v).mpr e)

theorem rep_isNode {n : Nat} {t : Trie} {S : KMap} (h : t.Rep n S) (hs : S.HasSentinels n) (hn : 0 < n) :
    t.isNode := by
  cases t with
  | node p l r => trivial
  | leaf k0 v0 =>
    have m1 := mem_keys_leaf.mp (mem_keys_of_rep h hs.1)
    have m2 := mem_keys_leaf.mp (mem_keys_of_rep h hs.2)
    exact (minKey_ne_maxKey hn (m1.trans m2.symm)).elim

theorem top_key_nil {n : Nat} {t : Trie} {S : KMap} (h : t.Rep n S) (hs : S.HasSentinels n) (hn : 0 < n) :
    t.key = [] :=
  -- the sentinels part ways at their first bit
  List.prefix_nil.mp (prefix_of_split (snoc_prefix_replicate hn false) (snoc_prefix_replicate hn true)
    (key_prefix h.1 (mem_keys_of_rep h hs.1)) (key_prefix h.1 (mem_keys_of_rep h hs.2)))

theorem rep_apply {n : Nat} {t : Trie} {S : KMap} {op : Op} (h : t.Rep n S) (hs : S.HasSentinels n)
    (hn : 0 < n) (hv : op.Valid n) : (op.apply t).Rep n (S.apply op) := by
  cases op <;> exact (apply_spec h.1 (rep_isNode h hs hn) hv).rep h

theorem rep_run {n : Nat} (hn : 0 < n) : ∀ (ops : List Op) {t : Trie} {S : KMap}, t.Rep n S → S.HasSentinels n →
    (∀ op ∈ ops, op.Valid n) → (t.run ops).Rep n (S.run ops) ∧ (S.run ops).HasSentinels n := by
  intro ops
  induction ops with
  | nil => exact fun h hs _ => ⟨h, hs⟩
  | cons op ops ih =>
    intro t S h hs hv
    have hv1 := hv op List.mem_cons_self
    exact ih (rep_apply h hs hn hv1) (hasSentinels_apply hs hv1) (fun o ho => hv o (List.mem_cons_of_mem _ ho))

theorem rep_empty {n : Nat} (hn : 0 < n) : (empty n).Rep n (initMap n) := by
  refine ⟨⟨by simp [WF, minKey], by simp [WF, maxKey], ?_, ?_⟩, ?_⟩
  · intro k hk
    rw [mem_keys_leaf.mp hk]; exact snoc_prefix_replicate hn false
  · intro k hk
    rw [mem_keys_leaf.mp hk]; exact snoc_prefix_replicate hn true
  · intro k v
    simp only [empty, toList, initMap]
    have hne := minKey_ne_maxKey hn
    by_cases e1 : k = minKey n
    · subst e1; simp [hne]; exact eq_comm
    · by_cases e2 : k = maxKey n
      · subst e2; simp [Ne.symm hne]; exact eq_comm
      · simp [e1, e2]

theorem keys_of_isLeafAt {k : Key} {t : Trie} (h : isLeafAt k t = true) : t.keys = [k] := by
  cases t with
  | node _ _ _ => cases h
  | leaf k0 v0 => rw [keys_leaf, eq_of_beq h]

/-- on a tree that holds both sentinels no valid operation reaches the Go panic -/
theorem stepTop_eq {n : Nat} {t : Trie} {S : KMap} {op : Op} (h : t.Rep n S) (hs : S.HasSentinels n)
    (hn : 0 < n) (hv : op.Valid n) : stepTop t op = some (op.apply t) := by
  cases op with
  | set k v => cases t <;> rfl
  | del k =>
    have hnode := rep_isNode h hs hn
    cases t with
    | leaf _ _ => cases hnode
    | node p l r =>
      have hmin := mem_keys_of_rep h hs.1
      have hmax := mem_keys_of_rep h hs.2
      simp only [stepTop, Op.apply]
      rw [if_neg]
      -- a leaf `k` right below the root: the sentinel of that side would be `k` itself, or on the other side
      rintro (⟨_, hl⟩ | ⟨_, hr⟩)
      · rcases mem_keys_node.mp hmin with hm | hm
        · rw [keys_of_isLeafAt hl, List.mem_singleton] at hm; exact hv.1 hm.symm
        · exact not_snoc_prefix_replicate n p false (h.1.2.2.2 _ hm)
      · rcases mem_keys_node.mp hmax with hm | hm
        · exact not_snoc_prefix_replicate n p true (h.1.2.2.1 _ hm)
        · rw [keys_of_isLeafAt hr, List.mem_singleton] at hm; exact hv.2 hm.symm

theorem runTop_eq {n : Nat} (hn : 0 < n) : ∀ (ops : List Op) {t : Trie} {S : KMap}, t.Rep n S → S.HasSentinels n →
    (∀ op ∈ ops, op.Valid n) → runTop t ops = some (t.run ops) := by
  intro ops
  induction ops with
  | nil => exact fun _ _ _ => rfl
  | cons op ops ih =>
    intro t S h hs hv
    have hv1 := hv op List.mem_cons_self
    simp only [runTop, stepTop_eq h hs hn hv1]
    exact ih (rep_apply h hs hn hv1) (hasSentinels_apply hs hv1) (fun o ho => hv o (List.mem_cons_of_mem _ ho))

theorem mem_sortOps {ops : List Op} {op : Op} : op ∈ sortOps ops ↔ op ∈ ops := List.mem_mergeSort

theorem valid_sortOps {n : Nat} {ops : List Op} (hv : ∀ op ∈ ops, op.Valid n) : ∀ op ∈ sortOps ops, op.Valid n :=
  fun op hop => hv op (mem_sortOps.mp hop)

/-- `SMT.Commit` of a valid batch never fails and is the history "sorted batch, one operation after the other" -/
theorem commit_spec {n : Nat} (hn : 0 < n) {t : Trie} {S : KMap} {ops : List Op} (h : t.Rep n S)
    (hs : S.HasSentinels n) (hv : ∀ op ∈ ops, op.Valid n) :
    commit t ops = .ok (t.run (sortOps ops)) ∧ (t.run (sortOps ops)).Rep n (S.run (sortOps ops)) ∧
      (S.run (sortOps ops)).HasSentinels n :=
  ⟨by simp only [commit, runTop_eq hn (sortOps ops) h hs (valid_sortOps hv)], rep_run hn _ h hs (valid_sortOps hv)⟩

end Trie
end Canopy.Smt
