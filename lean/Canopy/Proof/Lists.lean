/-! Byte strings laid end to end without framing (the signature-cache keys of C05 and C17): what the concatenation
determines once the outer lengths are known, and what a lookup by it finds. Core Lean only. -/
namespace Canopy

theorem append3_inj {α : Type _} {a b c x y z : List α} (h : a ++ b ++ c = x ++ y ++ z)
    (ha : a.length = x.length) (hc : c.length = z.length) : a = x ∧ b = y ∧ c = z := by
  obtain ⟨h12, h3⟩ := List.append_inj' h hc
  obtain ⟨h1, h2⟩ := List.append_inj h12 ha
  exact ⟨h1, h2, h3⟩

theorem mem_of_contains_append3 {α : Type _} [BEq (List α)] [LawfulBEq (List α)] {l : List (List α × List α × List α)}
    {a b c : List α} {la lc : Nat} (hl : ∀ t ∈ l, t.1.length = la ∧ t.2.2.length = lc)
    (ha : a.length = la) (hc : c.length = lc)
    (h : (l.map fun t => t.1 ++ t.2.1 ++ t.2.2).contains (a ++ b ++ c) = true) : (a, b, c) ∈ l := by
  obtain ⟨⟨x, y, z⟩, ht, hk⟩ := List.mem_map.mp (List.contains_iff_mem.mp h)
  obtain ⟨lx, lz⟩ := hl _ ht
  obtain ⟨rfl, rfl, rfl⟩ := append3_inj hk (lx.trans ha.symm) (lz.trans hc.symm)
  exact ht

end Canopy
