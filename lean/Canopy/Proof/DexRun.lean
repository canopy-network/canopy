import Canopy.Proof.DexEff
/-! Run-level invariants of the DEX (C20), each kept by every admissible operation and so along every run: the escrow
invariant `SInv` (escrow pool = Σ open sell orders), then `DInv` (holding pool = Σ pending, Σ points = total, for every pool).
Core Lean only. -/
namespace Canopy.Dex

/-- side conditions under which an operation is covered by `escrow_eq`:
* `create`: the order id is fresh (ids are the first 20 bytes of the transaction hash; freshness is what replay
  protection, C06, provides) and the escrow balance stays a `uint64` (`PoolAdd` is unguarded; supply < 2^64, C04);
* `edit`: the same `uint64` bound for an increase;
* `swaps`, `dexBatch`: the certificate's chain id is a valid committee id (`≤ MaxChainId`), as `checkChainId`
  enforces for every user message;
* `setPool`, `seedNext` (harness set-up only) do not write an escrow pool. -/
def OpOk (s : State) : Op → Prop
  | .create m => AM.get? s.orders (m.chain, m.id) = none ∧ escAmt s m.chain + m.amount < U64
  | .edit m => ∀ o, AM.get? s.orders (m.chain, m.id) = some o → escAmt s m.chain + (m.amount - o.amount) < U64
  | .swaps c _ => c ≤ maxChainId
  | .dexBatch c nested _ _ => (if nested then s.root else c) ≤ maxChainId
  | .setPool id _ => id < 65535
  | .seedNext c _ => c ≤ maxChainId
  | _ => True

theorem apply_sinv {s s' : State} {op : Op} (hi : SInv s) (hok : OpOk s op) (h : apply s op = .ok s') : SInv s' := by
  cases op with
  | fund a n => exact sinv_of_sellFrame hi (frame_accountAdd h)
  | setPool id p =>
    injection h with h; subst h
    exact sinv_of_sellFrame hi (frame_setPool hok)
  | seedNext c b =>
    injection h with h; subst h
    exact sinv_of_sellFrame hi ((frame_poolAdd (holdingId_lt hok)).trans (frame_setNext))
  | subsidy a id n op =>
    obtain ⟨_, hid, s1, h1, rfl⟩ := subsidy_ok h
    -- an accepted subsidy goes to a chain id (≤ MaxChainId): below every escrow pool id
    have hlt : id < 65535 := Nat.lt_of_le_of_lt hid (by decide)
    exact sinv_of_sellFrame hi ((frame_accountSub h1).trans (frame_poolAdd hlt))
  | create m => exact sinv_createOrder hi h hok.1 hok.2
  | edit m => exact sinv_editOrder hi h hok
  | delete c id => exact sinv_deleteOrderMsg hi h
  | swaps c o =>
    injection h with h; subst h
    exact sinv_handleCommitteeSwaps o hi (maxChainId_lt hok)
  | limit c o => exact sinv_of_sellFrame hi (frame_dexLimitOrder h)
  | deposit c d => exact sinv_of_sellFrame hi (frame_dexDeposit h)
  | withdraw c w => exact sinv_of_sellFrame hi (frame_dexWithdraw h)
  | dexBatch c nested remote bh => exact sinv_of_sellFrame hi (frame_handleDexBatch hok h)
  | endBlock =>
    injection h with h; subst h
    exact sinv_of_sellFrame hi (frame_endBlock _)

theorem step_sinv {s : State} {op : Op} (hi : SInv s) (hok : OpOk s op) : SInv (step s op) := by
  unfold step
  split
  · exact sinv_of_sellFrame (apply_sinv hi hok ‹apply s op = Except.ok _›) (frame_normalize _)
  · exact sinv_of_sellFrame hi (frame_normalize _)

/-- every operation of the run satisfies its side condition in the state it is applied to -/
def Admissible : State → List Op → Prop
  | _, [] => True
  | s, op :: ops => OpOk s op ∧ Admissible (step s op) ops

theorem run_sinv {s : State} {ops : List Op} (hi : SInv s) (h : Admissible s ops) : SInv (run s ops) := by
  induction ops generalizing s with
  | nil => exact hi
  | cons op ops ih => exact ih (step_sinv hi h.1) h.2

theorem sinv_init (self root height minOrder : Nat) : SInv { self, root, height, minOrder } where
  ordersNodup := by simp [AM.keys]
  accountsNodup := by simp [AM.keys]
  eq := fun c _ => by simp [escAmt, escrowSum, getPool, AM.get?, AM.wsum]
  keyed := fun k o h => by simp [AM.get?] at h

def pendOpt : Option Batch → Nat
  | none => 0
  | some b => b.pending

theorem pendOpt_some (b : Batch) : pendOpt (some b) = b.pending := rfl
theorem pendOpt_none : pendOpt none = 0 := rfl

theorem pending_empty : ({} : Batch).pending = 0 := rfl

/-- Σ amounts of the orders and deposits stored for chain `c` in next ∪ locked -/
def pendStored (s : State) (c : Nat) : Nat := pendOpt (AM.get? s.next c) + pendOpt (AM.get? s.locked c)

/-- a batch stored under key `k` -/
structure BatchOk (k : Nat) (b : Batch) : Prop where
  committee : b = {} ∨ b.committee = k
  pct : PctOk b.withdrawals

theorem batchOk_empty (k : Nat) : BatchOk k {} := ⟨Or.inl rfl, fun _ h => by cases h⟩

structure DInv (s : State) : Prop where
  pools : PInv s
  nextNodup : (AM.keys s.next).Nodup
  lockedNodup : (AM.keys s.locked).Nodup
  nextOk : ∀ k b, AM.get? s.next k = some b → BatchOk k b
  lockedOk : ∀ k b, AM.get? s.locked k = some b → BatchOk k b
  /-- chain ids are `1 … MaxChainId` (`0` is reserved: `holdingId 0` is the reward pool of chain `MaxChainId`) -/
  hold : ∀ c, 0 < c → c ≤ maxChainId → holdAmt s c = pendStored s c
  height : 0 < s.height

/-- `GetDexBatch` against the stored entry -/
theorem getBatch_spec (s : State) (c : Nat) (locked : Bool)
    (hok : ∀ b, AM.get? (if locked then s.locked else s.next) c = some b → BatchOk c b) :
    (getBatch s c locked).pending = pendOpt (AM.get? (if locked then s.locked else s.next) c) ∧
    (getBatch s c locked).committee = c ∧ PctOk (getBatch s c locked).withdrawals := by
  unfold getBatch
  dsimp only
  cases hg : AM.get? (if locked then s.locked else s.next) c with
  | none => exact ⟨rfl, rfl, fun _ h => by cases h⟩
  | some b =>
    dsimp only
    by_cases hb : b = {}
    · rw [if_pos hb]; subst hb; exact ⟨rfl, rfl, fun _ h => by cases h⟩
    · rw [if_neg hb]
      exact ⟨rfl, (hok b hg).committee.resolve_left hb, (hok b hg).pct⟩

theorem getBatch_next_spec {s : State} (hi : DInv s) (c : Nat) :
    (getBatch s c false).pending = pendOpt (AM.get? s.next c) ∧ (getBatch s c false).committee = c ∧
    PctOk (getBatch s c false).withdrawals :=
  getBatch_spec s c false (hi.nextOk c)

theorem getBatch_locked_spec {s : State} (hi : DInv s) (c : Nat) :
    (getBatch s c true).pending = pendOpt (AM.get? s.locked c) ∧ (getBatch s c true).committee = c ∧
    PctOk (getBatch s c true).withdrawals :=
  getBatch_spec s c true (hi.lockedOk c)

theorem pending_of_isEmpty {b : Batch} (h : b.isEmpty = true) : b.pending = 0 := by
  unfold Batch.isEmpty at h
  simp only [Bool.and_eq_true, List.isEmpty_iff] at h
  simp [Batch.pending, h.1.1.2, h.2]

/-- `m'` is the table `m` of stored batches with the entry of key `c` rewritten (by a well-formed batch), removed, or
left alone -/
structure Upd (c : Nat) (m m' : List (Nat × Batch)) : Prop where
  nodup : (AM.keys m).Nodup → (AM.keys m').Nodup
  ok : (AM.keys m).Nodup → (∀ k b, AM.get? m k = some b → BatchOk k b) → ∀ k b, AM.get? m' k = some b → BatchOk k b
  other : ∀ c', c' ≠ c → AM.get? m' c' = AM.get? m c'

theorem Upd.refl (c : Nat) (m : List (Nat × Batch)) : Upd c m m := ⟨id, fun _ h => h, fun _ _ => rfl⟩

theorem Upd.set {c : Nat} (m : List (Nat × Batch)) {b : Batch} (hb : BatchOk c b) : Upd c m (AM.set m c b) :=
  ⟨AM.nodup_set, fun _ h => AM.forall_set h hb, fun _ h => AM.get?_set_other h⟩

theorem Upd.del (c : Nat) (m : List (Nat × Batch)) : Upd c m (AM.del m c) :=
  ⟨AM.nodup_del, fun hnd h => AM.forall_del hnd h, fun _ h => AM.get?_del_other h⟩

/-- the invariant survives a change that touches the stored batches under key `c` only, moves no other holding pool,
and restores `holding pool = Σ pending` for `c` -/
theorem dinv_upd {s s' : State} {c : Nat} (hi : DInv s) (hn : Upd c s.next s'.next) (hl : Upd c s.locked s'.locked)
    (hh : s'.height = s.height) (hp : PInv s') (ho : ∀ c', c' ≤ maxChainId → c' ≠ c → holdAmt s' c' = holdAmt s c')
    (hc : 0 < c → c ≤ maxChainId → holdAmt s' c = pendStored s' c) : DInv s' where
  pools := hp
  nextNodup := hn.nodup hi.nextNodup
  lockedNodup := hl.nodup hi.lockedNodup
  nextOk := hn.ok hi.nextNodup hi.nextOk
  lockedOk := hl.ok hi.lockedNodup hi.lockedOk
  hold := fun c' h0 hc' => by
    by_cases h : c' = c
    · subst h; exact hc h0 hc'
    · rw [ho c' hc' h, hi.hold c' h0 hc']; unfold pendStored; rw [hn.other c' h, hl.other c' h]
  height := hh ▸ hi.height

/-- the batches stored under key `c` change, their pending Σ does not; pools and height stay -/
theorem dinv_tables {s : State} {c : Nat} {nx lk : List (Nat × Batch)} (hi : DInv s) (hn : Upd c s.next nx)
    (hl : Upd c s.locked lk) (hp : pendOpt (AM.get? nx c) + pendOpt (AM.get? lk c) = pendStored s c) :
    DInv { s with next := nx, locked := lk } :=
  dinv_upd hi hn hl rfl hi.pools (fun _ _ _ => rfl) fun h0 hc => (hi.hold c h0 hc).trans hp.symm

/-- same stored batches, same holding balances (key 0, of which the invariant says nothing, stands for the key touched) -/
theorem dinv_of_same {s s' : State} (hi : DInv s) (hn : s'.next = s.next) (hl : s'.locked = s.locked)
    (hh : s'.height = s.height) (hp : PInv s') (hho : ∀ c, 0 < c → c ≤ maxChainId → holdAmt s' c = holdAmt s c) : DInv s' :=
  dinv_upd (c := 0) hi (hn ▸ Upd.refl 0 _) (hl ▸ Upd.refl 0 _) hh hp (fun c hc h0 => hho c (Nat.pos_of_ne_zero h0) hc)
    fun h => absurd h (Nat.lt_irrefl 0)

theorem dinv_of_eff0 {s s' : State} {c : Nat} (hc : c ≤ maxChainId) (hi : DInv s) (e : Eff c s s' 0) : DInv s' :=
  dinv_of_same hi e.next e.locked e.height (e.pinv hi.pools) (fun c' _ hc' => by
    by_cases h : c' = c
    · subst h; have := e.hold; omega
    · exact e.holdOther c' hc' h)

theorem dinv_of_sellEff {s s' : State} (hi : DInv s) (e : SellEff s s') : DInv s' :=
  dinv_of_eff0 (c := 0) (by unfold maxChainId; omega) hi (e 0 (by unfold maxChainId; omega))

theorem dinv_normalize {s : State} (hi : DInv s) : DInv (normalize s) := by
  refine dinv_of_same hi rfl rfl rfl (fun id => ?_) (fun _ _ _ => getPool_normalize_amount s _)
  rw [getPool_normalize]
  split
  · exact poolOk_empty
  · exact hi.pools id

/-- `n` tokens enter the holding pool of `c` (from an account, or minted by the harness) while the next batch of `c`
grows by `n` pending -/
theorem dinv_holdIn {s s1 : State} {c n : Nat} {b' : Batch} (hi : DInv s) (hc : c ≤ maxChainId)
    (e1 : Eff c s s1 0) (hfit : holdAmt s c + n < U64) (hb : BatchOk c b')
    (hpend : b'.pending = pendOpt (AM.get? s.next c) + n) : DInv (setNext (poolAdd s1 (holdingId c) n) c b') := by
  refine dinv_upd hi ?_ (e1.locked ▸ Upd.refl c s1.locked : Upd c s.locked s1.locked) e1.height ?_ ?_ fun h0 _ => ?_
  · show Upd c s.next (AM.set s1.next c b')
    rw [e1.next]; exact Upd.set _ hb
  · exact pinv_setPool (e1.pinv hi.pools) (poolOk_amount (e1.pinv hi.pools _) (Nat.mod_lt _ (by decide)))
  · intro c' hc' hne
    show (getPool (poolAdd s1 (holdingId c) n) (holdingId c')).amount = _
    rw [poolAdd_other (fun e => hne (holdingId_inj hc hc' e))]
    exact e1.holdOther c' hc' hne
  · show (getPool (poolAdd s1 (holdingId c) n) (holdingId c)).amount =
      pendOpt (AM.get? (AM.set s1.next c b') c) + pendOpt (AM.get? s1.locked c)
    rw [poolAdd_self, AM.get?_set_self, e1.locked, pendOpt_some, hpend]
    show (holdAmt s1 c + n) % U64 = _
    rw [show holdAmt s1 c = holdAmt s c from e1.hold, Nat.mod_eq_of_lt hfit, hi.hold c h0 hc]
    exact Nat.add_right_comm _ _ _

theorem dinv_limit {s s' : State} {c : Nat} {o : LimitOrder} (hi : DInv s) (h : dexLimitOrder s c o = .ok s')
    (hfit : holdAmt s c + o.amount < U64) : DInv s' := by
  obtain ⟨hb1, hb2, hb3⟩ := getBatch_next_spec hi c
  obtain ⟨hc, s1, h1, rfl⟩ := dexLimitOrder_ok h
  refine dinv_holdIn hi hc (eff_accountSub h1) hfit ⟨Or.inr hb2, hb3⟩ ?_
  simp only [Batch.pending] at hb1 ⊢
  simp; omega

theorem dinv_deposit {s s' : State} {c : Nat} {d : Deposit} (hi : DInv s) (h : dexDeposit s c d = .ok s')
    (hfit : holdAmt s c + d.amount < U64) : DInv s' := by
  obtain ⟨hb1, hb2, hb3⟩ := getBatch_next_spec hi c
  obtain ⟨hc, s1, h1, rfl⟩ := dexDeposit_ok h
  refine dinv_holdIn hi hc (eff_accountSub h1) hfit ⟨Or.inr hb2, hb3⟩ ?_
  simp only [Batch.pending] at hb1 ⊢
  simp; omega

theorem dinv_withdraw {s s' : State} {c : Nat} {w : Withdraw} (hi : DInv s) (h : dexWithdraw s c w = .ok s') : DInv s' := by
  obtain ⟨hb1, hb2, hb3⟩ := getBatch_next_spec hi c
  obtain ⟨_, hpct, rfl⟩ := dexWithdraw_ok h
  refine dinv_tables hi (Upd.set _ ⟨Or.inr hb2, ?_⟩) (Upd.refl c _) ?_
  · intro w' hw'
    rcases List.mem_append.mp hw' with hw' | hw'
    · exact hb3 w' hw'
    · simp at hw'; subst hw'; exact hpct
  · rw [AM.get?_set_self]
    unfold pendStored
    simp only [pendOpt_some, Batch.pending] at hb1 ⊢; omega

theorem dinv_rotate {s : State} (hi : DInv s) (c : Nat) {rh : Bytes} {a b : Nat} {rs : List Nat} :
    DInv (rotate s rh a b c rs) := by
  unfold rotate
  split
  · exact hi
  · rename_i hE
    have hE' : (getBatch s c true).isEmpty = true := by simpa using hE
    obtain ⟨hl1, _, _⟩ := getBatch_locked_spec hi c
    rw [pending_of_isEmpty hE'] at hl1
    obtain ⟨hn1, hn2, hn3⟩ := getBatch_next_spec hi c
    refine dinv_tables (s := s) (nx := AM.del s.next c) (lk := AM.set s.locked c _) hi (Upd.del c _)
      (Upd.set _ ⟨Or.inr hn2, hn3⟩) ?_
    rw [AM.get?_del_self hi.nextNodup, AM.get?_set_self]
    show 0 + Batch.pending _ = pendOpt (AM.get? s.next c) + pendOpt (AM.get? s.locked c)
    rw [← hn1, ← hl1]
    simp [Batch.pending]

theorem sum_take_drop (l : List Nat) (n : Nat) : (l.take n).sum + (l.drop n).sum = l.sum := by
  rw [← List.sum_append, List.take_append_drop]

def movedInto (b n : Batch) (om dm : Nat) (ws : List Withdraw) : Batch :=
  { b with orders := b.orders ++ n.orders.take om, deposits := b.deposits ++ n.deposits.take dm, withdrawals := ws }

def leftIn (n : Batch) (om dm : Nat) (ws : List Withdraw) : Batch :=
  { n with orders := n.orders.drop om, deposits := n.deposits.drop dm, withdrawals := ws }

theorem pending_move (b n : Batch) (om dm : Nat) (ws ws' : List Withdraw) :
    (leftIn n om dm ws').pending + (movedInto b n om dm ws).pending = n.pending + b.pending := by
  simp only [movedInto, leftIn, Batch.pending, List.map_append, List.sum_append, List.map_take, List.map_drop]
  have h1 := sum_take_drop (n.orders.map (·.amount)) om
  have h2 := sum_take_drop (n.deposits.map (·.amount)) dm
  omega

theorem dinv_includeOne {s : State} {k : Nat} {b : Batch} (hi : DInv s) (hk : AM.get? s.locked k = some b) :
    DInv (includeOne s k b) := by
  unfold includeOne
  split
  · exact hi
  · rename_i hh
    have hbk := hi.lockedOk k b hk
    have hcom : b.committee = k := by
      rcases hbk.committee with h | h
      · subst h; exfalso; apply hh; show (0 : Nat) ≠ s.height; have := hi.height; omega
      · exact h
    subst hcom
    obtain ⟨hn1, hn2, hn3⟩ := getBatch_next_spec hi b.committee
    dsimp only
    generalize getBatch s b.committee false = n at hn1 hn2 hn3 ⊢
    generalize canMove b.orders.length n.orders.length Gen.Dex.MaxOrdersPerDexBatch = om
    generalize canMove b.deposits.length n.deposits.length Gen.Dex.MaxDepositsPerDexBatch = dm
    generalize canMove b.withdrawals.length n.withdrawals.length Gen.Dex.MaxWithdrawsPerDexBatch = wm
    split
    · exact hi
    · have hlk : Upd b.committee s.locked
          (AM.set s.locked b.committee (movedInto b n om dm (b.withdrawals ++ n.withdrawals.take wm))) :=
        Upd.set _ ⟨Or.inr rfl, fun w hw => by
          rcases List.mem_append.mp hw with hw | hw
          · exact hbk.pct w hw
          · exact hn3 w (List.mem_of_mem_take hw)⟩
      -- what the locked batch gains the next batch loses
      have key : (leftIn n om dm (n.withdrawals.drop wm)).pending +
          (movedInto b n om dm (b.withdrawals ++ n.withdrawals.take wm)).pending = pendStored s b.committee := by
        unfold pendStored
        rw [hk, ← hn1, pendOpt_some]
        exact pending_move b n om dm _ _
      split
      · -- next batch fully moved: deleted
        rename_i hall
        refine dinv_tables (s := s) (nx := AM.del s.next b.committee) (lk := AM.set s.locked b.committee _) hi
          (Upd.del _ _) hlk ?_
        have hz : (leftIn n om dm (n.withdrawals.drop wm)).pending = 0 := by
          simp [leftIn, Batch.pending, hall.1, hall.2.1]
        rw [AM.get?_del_self hi.nextNodup, AM.get?_set_self, ← key, hz]
        rfl
      · refine dinv_tables (s := s) (nx := AM.set s.next b.committee _) (lk := AM.set s.locked b.committee _) hi
          (Upd.set _ ⟨Or.inr hn2, fun w hw => hn3 w (List.mem_of_mem_drop hw)⟩) hlk ?_
        rw [AM.get?_set_self, AM.get?_set_self]
        exact key

theorem dinv_endBlock {s : State} (hi : DInv s) : DInv (endBlock s) := by
  unfold endBlock
  dsimp only
  have h := List.foldlRecOn (motive := DInv) ((s.locked.map (·.1)).mergeSort (fun a b => a ≤ b))
    (fun s k => match AM.get? s.locked k with
      | some b => includeOne s k b
      | none => s) hi fun s hs k _ => by
    split
    · exact dinv_includeOne hs ‹_›
    · exact hs
  exact { h with height := Nat.succ_pos _ }

/-- our locked batch was settled (receipts) or refunded (fallback): exactly its pending Σ left the holding pool, and
what stands in its place (nothing, or the empty batch) has nothing pending -/
theorem dinv_unlock {s s1 : State} {c D : Nat} {lk : List (Nat × Batch)} (hi : DInv s) (e : Eff c s s1 D)
    (hD : D = pendOpt (AM.get? s.locked c)) (hl : Upd c s1.locked lk) (hz : pendOpt (AM.get? lk c) = 0) :
    DInv { s1 with locked := lk } := by
  refine dinv_upd hi (e.next ▸ Upd.refl c _) (e.locked ▸ hl) e.height (e.pinv hi.pools) e.holdOther fun h0 hc => ?_
  show holdAmt s1 c = pendOpt (AM.get? s1.next c) + pendOpt (AM.get? lk c)
  have := e.hold
  have := hi.hold c h0 hc
  unfold pendStored at this
  rw [hz, e.next]; omega

theorem dinv_executeRemote {s s' : State} {remote : Batch} {c : Nat} {bh : Bytes} {mirror : Nat} (hi : DInv s)
    (hc : c ≤ maxChainId) (hw : PctOk remote.withdrawals) (hm : mirror < U64)
    (h : executeRemote s remote c bh mirror = .ok s') : DInv s' := by
  obtain ⟨s1, rh, a, b, rs, e, rfl⟩ := moves_executeRemote hc h
  exact dinv_rotate (dinv_of_eff0 hc hi (e.eff ⟨hi.pools, hw, hm⟩)) c

theorem dinv_remoteDexBatch {s s' : State} {remote : Batch} {c : Nat} {bh : Bytes} (hi : DInv s) (hc : c ≤ maxChainId)
    (hw : PctOk remote.withdrawals) (hm : remote.poolSize < U64)
    (h : remoteDexBatch s remote c bh = .ok s') : DInv s' := by
  rcases remoteDexBatch_ok h with ⟨rh, rfl⟩ | h | rfl | ⟨r, hr, h⟩
  · exact dinv_rotate hi c
  · exact dinv_executeRemote hi hc hw hm h
  · exact hi
  · obtain ⟨hl1, _, hl3⟩ := getBatch_locked_spec hi c
    obtain ⟨s1, D, m, hr1, hr'⟩ := moves_applyReceipts hc hr
    have e := m.eff ⟨hi.pools, hl3, hm⟩
    obtain ⟨hr2, hdis⟩ := hr' ⟨hi.pools, hl3, hm⟩
    -- step 2 succeeded, so neither the mirror nor our pool was zero: the deposits were debited too
    obtain ⟨hm0, hl0⟩ := executeRemote_pos h
    have hD : D = (getBatch s c true).pending := by
      rcases hdis with hd | hd | hd
      · exact hd
      · exact absurd hd hm0
      · exfalso; apply hl0; rw [hr1]; exact hd
    have hi1 : DInv r.1 := by
      rw [hr1]
      exact dinv_unlock hi e (by rw [hD, hl1]) (Upd.del c _) (by rw [e.locked, AM.get?_del_self hi.lockedNodup]; rfl)
    exact dinv_executeRemote hi1 hc hw hr2 h

theorem checkBasic_pct {b : Batch} {u : Unit} (h : checkBasic b = .ok u) : PctOk b.withdrawals := by
  simp only [checkBasic, throw_bind, ite_error_eq_ok, List.any_eq_true, decide_eq_true_eq] at h
  intro w hw
  have : ¬ (w.percent = 0 ∨ w.percent > 100) := fun hbad => h.2.2.1 ⟨w, hw, hbad⟩
  omega

theorem dinv_dexBatchOn {s s' : State} {c : Nat} {nested : Bool} {remote : Batch} {bh : Bytes} (hi : DInv s)
    (hc : c ≤ maxChainId) (hm : remote.poolSize < U64)
    (hrt : remote.livenessFallback = true → ptsSum remote.poolPoints = remote.totalPoolPoints ∧ remote.totalPoolPoints < U64)
    (h : dexBatchOn s c nested remote bh = .ok s') : DInv s' := by
  obtain ⟨⟨u, hu⟩, _, hcase⟩ := dexBatchOn_ok h
  have hw := checkBasic_pct hu
  rcases hcase with ⟨_, rfl⟩ | ⟨hlf, s1, h1, h⟩ | ⟨_, h⟩
  · exact hi
  · obtain ⟨s0, e, rfl⟩ := moves_livenessFallback hc h1
    obtain ⟨hl1, _, _⟩ := getBatch_locked_spec hi c
    exact dinv_remoteDexBatch (dinv_unlock hi (e.eff (hrt hlf)) hl1 (Upd.set _ (batchOk_empty c)) (by rw [AM.get?_set_self]; rfl)) hc hw hm h
  · exact dinv_remoteDexBatch hi hc hw hm h

/-- side conditions for the DEX invariants (beyond those of `escrow_eq`):
* `limit` / `deposit`: the holding pool stays a `uint64` (`PoolAdd` is unguarded; supply < 2^64);
* `dexBatch`: valid committee chain id; the remote pool size is a `uint64`; a fallback batch carries a consistent
  points table (it is the counter chain's own table);
* `swaps`: valid committee chain id;
* `setPool` (harness set-up): a well-formed pool, not a holding pool;
* `seedNext` (harness set-up): a valid chain id with no next batch stored yet, a batch that may be stored under it, and
  the holding pool stays a `uint64`. -/
def DexOk (s : State) : Op → Prop
  | .limit c o => holdAmt s c + o.amount < U64
  | .deposit c d => holdAmt s c + d.amount < U64
  | .swaps c _ => c ≤ maxChainId
  | .dexBatch c nested remote _ => (if nested then s.root else c) ≤ maxChainId ∧
      ∀ r, remote = some r → r.poolSize < U64 ∧
        (r.livenessFallback = true → ptsSum r.poolPoints = r.totalPoolPoints ∧ r.totalPoolPoints < U64)
  | .setPool id p => PoolOk p ∧ ∀ c, c ≤ maxChainId → id ≠ holdingId c
  | .seedNext c b => c ≤ maxChainId ∧ AM.get? s.next c = none ∧ BatchOk c b ∧ holdAmt s c + b.pending < U64
  | _ => True

theorem apply_dinv {s s' : State} {op : Op} (hi : DInv s) (hok : DexOk s op) (h : apply s op = .ok s') : DInv s' := by
  cases op with
  | fund a n => exact dinv_of_sellEff hi (sellEff_accountAdd h)
  | setPool id p =>
    injection h with h; subst h
    exact dinv_of_same hi rfl rfl rfl (pinv_setPool hi.pools hok.1)
      (fun c _ hc => by unfold holdAmt; rw [getPool_setPool_other (Ne.symm (hok.2 c hc))])
  | seedNext c b =>
    injection h with h; subst h
    obtain ⟨hc, hnone, hb, hfit⟩ := hok
    exact dinv_holdIn hi hc (Eff.refl c s) hfit hb (by rw [hnone]; simp [pendOpt])
  | subsidy a id n op =>
    obtain ⟨_, hid, s1, h1, rfl⟩ := subsidy_ok h
    have e1 : Eff 0 s s1 0 := eff_accountSub h1
    refine dinv_of_same hi e1.next e1.locked e1.height
      (pinv_setPool (e1.pinv hi.pools) (poolOk_amount (e1.pinv hi.pools _) (Nat.mod_lt _ (by decide)))) (fun c h0 hc => ?_)
    -- an accepted subsidy goes to a chain id (≤ MaxChainId): below every holding pool id of a chain ≥ 1
    have hne : holdingId c ≠ id := by
      unfold holdingId Gen.Dex.HoldingPoolAddend U64; unfold maxChainId at hid hc; omega
    show (getPool (poolAdd s1 id n) (holdingId c)).amount = _
    rw [poolAdd_other hne]
    exact holdAmt_congr (accountsOnly_accountSub h1).pools c
  | create m => exact dinv_of_sellEff hi (sellEff_create h)
  | edit m => exact dinv_of_sellEff hi (sellEff_edit h)
  | delete c id => exact dinv_of_sellEff hi (sellEff_delete h)
  | swaps c o =>
    injection h with h; subst h
    exact dinv_of_sellEff hi (sellEff_swaps s c o hok)
  | limit c o => exact dinv_limit hi h hok
  | deposit c d => exact dinv_deposit hi h hok
  | withdraw c w => exact dinv_withdraw hi h
  | dexBatch c nested remote bh =>
    cases remote with
    | none => injection h with h; subst h; exact hi
    | some r =>
      obtain ⟨hm, hrt⟩ := hok.2 r rfl
      exact dinv_dexBatchOn hi hok.1 hm hrt h
  | endBlock =>
    injection h with h; subst h
    exact dinv_endBlock hi

theorem step_dinv {s : State} {op : Op} (hi : DInv s) (hok : DexOk s op) : DInv (step s op) := by
  unfold step
  split
  · exact dinv_normalize (apply_dinv hi hok ‹apply s op = Except.ok _›)
  · exact dinv_normalize hi

def DexAdmissible : State → List Op → Prop
  | _, [] => True
  | s, op :: ops => DexOk s op ∧ DexAdmissible (step s op) ops

theorem run_dinv {s : State} {ops : List Op} (hi : DInv s) (h : DexAdmissible s ops) : DInv (run s ops) := by
  induction ops generalizing s with
  | nil => exact hi
  | cons op ops ih => exact ih (step_dinv hi h.1) h.2

theorem dinv_init (self root height minOrder : Nat) (hh : 0 < height) : DInv { self, root, height, minOrder } where
  pools := fun _ => poolOk_empty
  nextNodup := by simp [AM.keys]
  lockedNodup := by simp [AM.keys]
  nextOk := fun k b h => by simp [AM.get?] at h
  lockedOk := fun k b h => by simp [AM.get?] at h
  hold := fun c _ _ => by simp [holdAmt, pendStored, getPool, AM.get?, pendOpt]
  height := hh

end Canopy.Dex
