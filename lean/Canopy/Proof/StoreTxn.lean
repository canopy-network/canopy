import Canopy.Proof.StoreView
/-! `Txn`: an overlay of pending operations over a parent reader, nested arbitrarily (C10).
`mergeRun` (the `TxnIterator`'s `Valid/Next` loop) yields exactly the prefix scan of the parent's view
with the pending operations applied: own writes visible, deletes hide, ordered, duplicate-free. -/
namespace Canopy.Store

/-- pending operations applied on top of a view -/
def applyOvR (ov : Overlay) (R : View) : View := fun k x =>
  match smGet ov k with
  | some op => op.read = some x
  | none => R k x

/-- order in iteration direction -/
def dlt (reverse : Bool) (a b : Bytes) : Prop := if reverse then blt b a = true else blt a b = true

theorem dlt_irrefl (r : Bool) (a : Bytes) : ¬ dlt r a a := by
  unfold dlt; cases r <;> simp [blt_irrefl]

theorem dlt_trans {r : Bool} {a b c : Bytes} (h1 : dlt r a b) (h2 : dlt r b c) : dlt r a c := by
  unfold dlt at *
  cases r
  · exact blt_trans h1 h2
  · exact blt_trans h2 h1

theorem dlt_asymm {r : Bool} {a b : Bytes} (h1 : dlt r a b) : ¬ dlt r b a :=
  fun h2 => dlt_irrefl r a (dlt_trans h1 h2)

theorem cmpDir_spec (r : Bool) (a b : Bytes) :
    (cmpDir r a b = .lt → dlt r a b) ∧ (cmpDir r a b = .eq → a = b) ∧ (cmpDir r a b = .gt → dlt r b a) := by
  unfold cmpDir dlt
  rcases blt_trichotomy a b with h | rfl | h
  · cases r <;> simp [h, Ordering.swap]
  · cases r <;> simp [blt_irrefl, Ordering.swap]
  · have hne : a ≠ b := by rintro rfl; simp [blt_irrefl] at h
    cases r <;> simp [h, blt_asymm h, hne, Ordering.swap]

theorem keysSorted_cons {r : Bool} {k : Bytes} {ks : List Bytes} :
    KeysSorted r (k :: ks) ↔ (∀ k' ∈ ks, dlt r k k') ∧ KeysSorted r ks := by
  unfold KeysSorted dlt
  rw [List.pairwise_cons]

theorem sorted_head_lt {α : Type} {r : Bool} {k : Bytes} {a : α} {l : List (Bytes × α)}
    (h : KeysSorted r (((k, a) :: l).map (·.1))) : (∀ e ∈ l, dlt r k e.1) ∧ KeysSorted r (l.map (·.1)) := by
  rw [List.map_cons, keysSorted_cons] at h
  exact ⟨fun e he => h.1 e.1 (List.mem_map_of_mem he), h.2⟩

theorem dlt_all_cons {α : Type} {r : Bool} {a : Bytes} {b : Bytes × α} {l : List (Bytes × α)} (h : dlt r a b.1)
    (hl : ∀ e ∈ l, dlt r b.1 e.1) : ∀ e ∈ b :: l, dlt r a e.1 := by
  intro e he
  rcases List.mem_cons.mp he with rfl | he
  · exact h
  · exact dlt_trans h (hl e he)

theorem sorted_mem_unique (reverse : Bool) : ∀ (o1 o2 : List (Bytes × Bytes)),
    KeysSorted reverse (o1.map (·.1)) → KeysSorted reverse (o2.map (·.1)) → (∀ e, e ∈ o1 ↔ e ∈ o2) → o1 = o2 := by
  intro o1 o2 hs1 hs2 hmem
  have hs1 : o1.Pairwise fun a b => dlt reverse a.1 b.1 := List.pairwise_map.mp hs1
  have hs2 : o2.Pairwise fun a b => dlt reverse a.1 b.1 := List.pairwise_map.mp hs2
  have nodup : ∀ {o : List (Bytes × Bytes)}, (o.Pairwise fun a b => dlt reverse a.1 b.1) → o.Nodup :=
    fun h => h.imp (S := (· ≠ ·)) fun hab e => dlt_irrefl reverse _ (e ▸ hab)
  exact ((List.perm_ext_iff_of_nodup (nodup hs1) (nodup hs2)).mpr hmem).eq_of_pairwise
    (fun _ _ _ _ hab hba => absurd hba (dlt_asymm hab)) hs1 hs2

theorem isScan_unique {f : Bytes → Option Bytes} {p : Bytes} {reverse : Bool} {o1 o2 : List (Bytes × Bytes)}
    (h1 : IsScan f p reverse o1) (h2 : IsScan f p reverse o2) : o1 = o2 :=
  sorted_mem_unique reverse o1 o2 h1.1 h2.1 fun e => by obtain ⟨k, x⟩ := e; rw [h1.2, h2.2]

/-- `out` merges the pending operations `ts` over the parent's run `ps`: in order, and holding exactly
the pending sets and those entries of the parent that no pending operation hides -/
def Merges (r : Bool) (ts : Overlay) (ps out : List (Bytes × Bytes)) : Prop :=
  KeysSorted r (out.map (·.1)) ∧
  ∀ k x, (k, x) ∈ out ↔ ((k, TOp.set x) ∈ ts ∨ ((k, x) ∈ ps ∧ ∀ op, (k, op) ∉ ts))

theorem Merges.before {r : Bool} {ts : Overlay} {ps out : List (Bytes × Bytes)} (h : Merges r ts ps out) {a : Bytes}
    (h1 : ∀ e ∈ ts, dlt r a e.1) (h2 : ∀ e ∈ ps, dlt r a e.1) : ∀ k ∈ out.map (·.1), dlt r a k := by
  intro k hk
  obtain ⟨⟨k, x⟩, hm, rfl⟩ := List.mem_map.mp hk
  rcases (h.2 k x).mp hm with hm | ⟨hm, _⟩
  · exact h1 _ hm
  · exact h2 _ hm

theorem not_mem_cons_iff {r : Bool} {ts : Overlay} {ps : List (Bytes × Bytes)} {tk : Bytes} {top : TOp}
    (h2 : ∀ e ∈ ps, dlt r tk e.1) {k x : Bytes} (hm : (k, x) ∈ ps) :
    (∀ op, (k, op) ∉ (tk, top) :: ts) ↔ ∀ op, (k, op) ∉ ts := by
  have hne : k ≠ tk := fun e => dlt_irrefl r tk (e ▸ h2 _ hm)
  simp [hne]

theorem Merges.del {r : Bool} {ts : Overlay} {ps out : List (Bytes × Bytes)} (h : Merges r ts ps out) {tk : Bytes}
    (h2 : ∀ e ∈ ps, dlt r tk e.1) : Merges r ((tk, .del) :: ts) ps out := by
  refine ⟨h.1, fun k x => ?_⟩
  rw [h.2, List.mem_cons]
  simp only [Prod.mk.injEq, reduceCtorEq, and_false, false_or]
  exact or_congr_right (and_congr_right fun hm => (not_mem_cons_iff h2 hm).symm)

theorem Merges.set {r : Bool} {ts : Overlay} {ps out : List (Bytes × Bytes)} (h : Merges r ts ps out) {tk : Bytes}
    (v : Bytes) (h1 : ∀ e ∈ ts, dlt r tk e.1) (h2 : ∀ e ∈ ps, dlt r tk e.1) :
    Merges r ((tk, .set v) :: ts) ps ((tk, v) :: out) := by
  refine ⟨keysSorted_cons.mpr ⟨h.before h1 h2, h.1⟩, fun k x => ?_⟩
  rw [List.mem_cons, h.2, List.mem_cons, or_assoc]
  simp only [Prod.mk.injEq, TOp.set.injEq]
  exact or_congr_right (or_congr_right (and_congr_right fun hm => (not_mem_cons_iff h2 hm).symm))

theorem Merges.hide {r : Bool} {ts : Overlay} {ps out : List (Bytes × Bytes)} {tk : Bytes} {top : TOp}
    (h : Merges r ((tk, top) :: ts) ps out) (pv : Bytes) : Merges r ((tk, top) :: ts) ((tk, pv) :: ps) out := by
  refine ⟨h.1, fun k x => ?_⟩
  rw [h.2]
  refine or_congr_right ⟨fun ⟨hm, hno⟩ => ⟨List.mem_cons_of_mem _ hm, hno⟩, fun ⟨hm, hno⟩ => ⟨?_, hno⟩⟩
  rcases List.mem_cons.mp hm with e | hm
  · exact absurd List.mem_cons_self ((Prod.mk.inj e).1 ▸ hno top)
  · exact hm

theorem Merges.pass {r : Bool} {ts : Overlay} {ps out : List (Bytes × Bytes)} (h : Merges r ts ps out) {pk : Bytes}
    (pv : Bytes) (h1 : ∀ e ∈ ts, dlt r pk e.1) (h2 : ∀ e ∈ ps, dlt r pk e.1) :
    Merges r ts ((pk, pv) :: ps) ((pk, pv) :: out) := by
  refine ⟨keysSorted_cons.mpr ⟨h.before h1 h2, h.1⟩, fun k x => ?_⟩
  have hno : ∀ op, (pk, op) ∉ ts := fun op hm => dlt_irrefl r pk (h1 _ hm)
  rw [List.mem_cons, h.2, List.mem_cons]
  constructor
  · rintro (e | hm | ⟨hm, hn⟩)
    · exact Or.inr ⟨Or.inl e, (Prod.mk.inj e).1 ▸ hno⟩
    · exact Or.inl hm
    · exact Or.inr ⟨Or.inr hm, hn⟩
  · rintro (hm | ⟨e | hm, hn⟩)
    · exact Or.inr (Or.inl hm)
    · exact Or.inl e
    · exact Or.inr (Or.inr ⟨hm, hn⟩)

theorem mergeRun_merges (r : Bool) (ts : Overlay) (ps : List (Bytes × Bytes))
    (hts : KeysSorted r (ts.map (·.1))) (hps : KeysSorted r (ps.map (·.1))) : Merges r ts ps (mergeRun r ts ps) := by
  fun_induction mergeRun r ts ps with
  | case1 ps => exact ⟨hps, by simp⟩
  | case2 tk ts ih => exact (ih (sorted_head_lt hts).2 hps).del (by simp)
  | case3 tk ts v ih =>
    have ht := sorted_head_lt hts
    exact (ih ht.2 hps).set v ht.1 (by simp)
  | case4 tk top ts pk pv ps hc ih =>
    have hp := sorted_head_lt hps
    exact (ih hts hp.2).pass pv (dlt_all_cons ((cmpDir_spec _ _ _).2.2 hc) (sorted_head_lt hts).1) hp.1
  | case5 tk ts pk pv ps hc ih =>
    have hp := sorted_head_lt hps
    cases (cmpDir_spec _ _ _).2.1 hc
    exact ((ih (sorted_head_lt hts).2 hp.2).del hp.1).hide pv
  | case6 tk ts pk pv ps hc v ih =>
    have ht := sorted_head_lt hts
    have hp := sorted_head_lt hps
    cases (cmpDir_spec _ _ _).2.1 hc
    exact ((ih ht.2 hp.2).set v ht.1 hp.1).hide pv
  | case7 tk ts pk pv ps hc ih =>
    exact (ih (sorted_head_lt hts).2 hps).del (dlt_all_cons ((cmpDir_spec _ _ _).1 hc) (sorted_head_lt hps).1)
  | case8 tk ts pk pv ps hc v ih =>
    have ht := sorted_head_lt hts
    exact (ih ht.2 hps).set v ht.1 (dlt_all_cons ((cmpDir_spec _ _ _).1 hc) (sorted_head_lt hps).1)

/-- a predicate that, once false along the list, stays false: the leading run satisfying it is all that
satisfies it, and what follows the run is all that does not -/
theorem span_eq_filter {α : Type} {p : α → Bool} {l : List α} (h : l.Pairwise fun a b => p b = true → p a = true) :
    l.takeWhile p = l.filter p ∧ l.dropWhile p = l.filter fun a => !p a := by
  induction l with
  | nil => exact ⟨rfl, rfl⟩
  | cons a l ih =>
    obtain ⟨ha, hl⟩ := List.pairwise_cons.mp h
    cases hp : p a with
    | true =>
      simp only [List.takeWhile_cons, List.dropWhile_cons, List.filter_cons, hp, Bool.not_true, if_true,
        Bool.false_eq_true, if_false, ih hl, and_self]
    | false =>
      have hall : ∀ b ∈ l, p b = false := fun b hb => Bool.eq_false_iff.mpr fun hpb => by
        rw [ha b hb hpb] at hp; cases hp
      have h1 : l.filter p = [] := List.filter_eq_nil_iff.mpr fun b hb => by rw [hall b hb]; exact Bool.false_ne_true
      have h2 : (l.filter fun a => !p a) = l := List.filter_eq_self.mpr fun b hb => by rw [hall b hb]; rfl
      simp only [List.takeWhile_cons, List.dropWhile_cons, List.filter_cons, hp, Bool.not_false, if_true,
        Bool.false_eq_true, if_false, h1, h2, and_self]

/-- keys a `Txn` may hold: non-empty, at most 256 bytes (`maxKeyBytes`) -/
def OvKeysOK (ov : Overlay) : Prop := ∀ e ∈ ov, e.1 ≠ [] ∧ e.1.length ≤ 256

/-- The in-memory side of a `TxnIterator` is the pending operations under the prefix, in order.
In a sorted overlay the keys under `p` are contiguous (`prefix_of_range`), so both the seek-then-scan of
the forward iterator and the scan down from above every key under `p` of the reverse one stop exactly at
the ends of that run. -/
theorem txnItems_eq (ov : Overlay) (hs : SSorted ov) (hk : OvKeysOK ov) (p : Bytes) (reverse : Bool) :
    txnItems ov p reverse =
      if reverse then (ov.filter fun e => hasPrefix p e.1).reverse else ov.filter fun e => hasPrefix p e.1 := by
  unfold txnItems
  have hne : ∀ x ∈ ov, x.1.isEmpty = false := fun x hx => List.isEmpty_eq_false_iff.mpr (hk x hx).1
  have hlt : ∀ B, ov.Pairwise fun a b => blt b.1 B = true → blt a.1 B = true :=
    fun B => hs.imp fun hab hb => blt_trans hab hb
  cases reverse with
  | false =>
    simp only [Bool.false_eq_true, if_false]
    rw [(span_eq_filter (hlt p)).2]
    have hrun : (ov.filter fun x => !blt x.1 p).Pairwise fun a b =>
        (!b.1.isEmpty && hasPrefix p b.1) = true → (!a.1.isEmpty && hasPrefix p a.1) = true := by
      refine (hs.filter _).imp_of_mem fun {a b} ha _ hab hb => ?_
      obtain ⟨ha, hpa⟩ := List.mem_filter.mp ha
      obtain ⟨t, ht⟩ := hasPrefix_iff.mp (Bool.and_eq_true_iff.mp hb).2
      rw [hne a ha, hasPrefix_iff.mpr (prefix_of_range hpa (ht ▸ hab))]
      rfl
    rw [(span_eq_filter hrun).1, List.filter_filter]
    refine List.filter_congr fun x hx => ?_
    rw [hne x hx]
    cases hp : hasPrefix p x.1 with
    | false => rfl
    | true => exact ble_of_prefix (hasPrefix_iff.mp hp)
  | true =>
    simp only [if_true]
    have hnone : smGet ov (prefixEnd p) = none := Option.eq_none_iff_forall_ne_some.mpr fun op hg => by
      have := (hk _ ((smGet_eq_some_iff hs _ _).mp hg)).2
      rw [prefixEnd_length] at this
      exact absurd (Nat.le_trans (Nat.le_add_left 257 p.length) this) (by decide)
    simp only [hnone, Option.isSome_none, Bool.false_eq_true, if_false]
    rw [(span_eq_filter (hlt _)).1]
    have hrun : (ov.filter fun x => blt x.1 (prefixEnd p ++ endBytes)).reverse.Pairwise fun a b =>
        (!b.1.isEmpty && hasPrefix p b.1) = true → (!a.1.isEmpty && hasPrefix p a.1) = true := by
      rw [List.pairwise_reverse]
      refine (hs.filter _).imp_of_mem fun {a b} _ hb hab ha => ?_
      obtain ⟨hb, hbB⟩ := List.mem_filter.mp hb
      have hpa := ble_of_prefix (hasPrefix_iff.mp (Bool.and_eq_true_iff.mp ha).2)
      have hpb : ble p b.1 = true := ble_iff.mpr (Or.inl (blt_of_ble_of_blt hpa hab))
      rw [prefixEnd, List.append_assoc] at hbB
      rw [hne b hb, hasPrefix_iff.mpr (prefix_of_range hpb hbB)]
      rfl
    rw [(span_eq_filter hrun).1, List.filter_reverse, List.filter_filter]
    congr 1
    refine List.filter_congr fun x hx => ?_
    rw [hne x hx]
    cases hp : hasPrefix p x.1 with
    | false => rfl
    | true =>
      obtain ⟨t, ht⟩ := hasPrefix_iff.mp hp
      have hl : t.length ≤ 256 := by
        have := (hk x hx).2
        rw [← ht, List.length_append] at this
        exact Nat.le_trans (Nat.le_add_left _ _) this
      exact blt_trans (ht ▸ blt_prefixEnd hl) (by rw [blt_append_self]; rfl)

theorem layer_scan (ov : Overlay) (hs : SSorted ov) (hk : OvKeysOK ov) (R : View) (p : Bytes) (reverse : Bool)
    (ps : List (Bytes × Bytes)) (hps : IsScanR R p reverse ps) :
    IsScanR (applyOvR ov R) p reverse (mergeRun reverse (txnItems ov p reverse) ps) := by
  have hfs : SSorted (ov.filter fun e => hasPrefix p e.1) := hs.sublist List.filter_sublist
  have hts : KeysSorted reverse ((txnItems ov p reverse).map (·.1)) := by
    rw [txnItems_eq ov hs hk]
    unfold KeysSorted
    cases reverse with
    | false => simp only [Bool.false_eq_true, if_false]; rw [List.pairwise_map]; exact hfs
    | true => simp only [if_true]; rw [List.pairwise_map, List.pairwise_reverse]; exact hfs
  have hmem : ∀ k op, (k, op) ∈ txnItems ov p reverse ↔ (hasPrefix p k = true ∧ smGet ov k = some op) := by
    intro k op
    rw [txnItems_eq ov hs hk, smGet_eq_some_iff hs]
    cases reverse <;> simp [List.mem_filter, and_comm]
  have hm := mergeRun_merges reverse _ ps hts hps.1
  refine ⟨hm.1, ?_⟩
  intro k x
  rw [hm.2, hps.2]
  simp only [hmem, applyOvR]
  cases smGet ov k with
  | none => simp only [reduceCtorEq, and_false, false_or, not_false_eq_true, implies_true, and_true]
  | some op =>
    constructor
    · rintro (⟨hp, e⟩ | ⟨⟨hp, _⟩, hno⟩)
      · cases e; exact ⟨hp, rfl⟩
      · exact absurd ⟨hp, rfl⟩ (hno op)
    · rintro ⟨hp, h⟩
      cases op with
      | del => cases h
      | set v => cases h; exact Or.inl ⟨hp, rfl⟩

/-- what the bottom `VersionedStore` reader shows under the handle's key prefix -/
def Handle.baseView (h : Handle) : View := fun k x => Sees h.snap h.rver (h.pfx ++ k) x

theorem base_scan (h : Handle) (hdb : WFL h.snap) (hver : h.rver ≤ maxVer) (p : Bytes) (reverse seek : Bool)
    (hc : PrefixCompat h.snap (h.pfx ++ p)) :
    IsScanR h.baseView p reverse
      (((VS.mk h.snap h.rver).iter (h.pfx ++ p) reverse seek).map fun kv => (kv.1.drop h.pfx.length, kv.2)) := by
  have hraw := VS.iter_sees h.snap hdb h.rver hver (h.pfx ++ p) hc reverse seek
  generalize (VS.mk h.snap h.rver).iter (h.pfx ++ p) reverse seek = raw at hraw
  have hpre : ∀ e ∈ raw, e.1 = h.pfx ++ e.1.drop h.pfx.length := by
    intro e he
    obtain ⟨t, ht⟩ := hasPrefix_iff.mp ((hraw.2 e.1 e.2).mp he).1
    rw [← ht, List.append_assoc, List.drop_left]
  constructor
  · have := hraw.1
    unfold KeysSorted at this ⊢
    rw [List.map_map, List.pairwise_map] at *
    refine this.imp_of_mem fun {a b} ha hb hab => ?_
    rw [hpre a ha, hpre b hb, blt_append_left, blt_append_left] at hab
    exact hab
  · intro k x
    have hmem : (k, x) ∈ raw.map (fun kv => (kv.1.drop h.pfx.length, kv.2)) ↔ (h.pfx ++ k, x) ∈ raw := by
      rw [List.mem_map]
      constructor
      · rintro ⟨e, he, heq⟩
        cases heq
        rw [← hpre e he]
        exact he
      · exact fun he => ⟨_, he, by rw [List.drop_left]⟩
    rw [hmem, hraw.2, hasPrefix_iff, hasPrefix_iff, List.prefix_append_right_inj]
    exact Iff.rfl

structure Handle.WF (h : Handle) : Prop where
  db : WFL h.snap
  ver : h.rver ≤ maxVer
  layers : ∀ l ∈ h.layers, SSorted l.ov ∧ OvKeysOK l.ov

end Canopy.Store
