import Canopy.Proof.LedgerMap
import Canopy.Proof.Guards
/-! Effect of every ledger primitive on the quantities the invariants speak about.
Primitives are characterised as "the result is the input with ONE field replaced, and the replaced field's
sum changed by so much"; handlers are then chains of such steps. -/
namespace Canopy.Ledger
open AMap

def accSum (L : Ledger) : Nat := NMap.total L.accounts
def poolSum (L : Ledger) : Nat := NMap.total L.pools
def stakeSum (L : Ledger) : Nat := sumBy (·.stake) L.validators
/-- tokens that exist: accounts + pools + validator stakes -/
def bal (L : Ledger) : Nat := accSum L + poolSum L + stakeSum L

/-- C04 invariant: the recorded total is the sum of everything, as a natural number below 2^64 -/
def InvSupply (L : Ledger) : Prop := L.supply.total = bal L ∧ L.supply.total < U64

theorem two_pow_64 : (2 : Nat) ^ 64 = U64 := rfl

theorem accGet_le (L : Ledger) (a : Addr) : accGet L a ≤ accSum L := NMap.get_le_total _ _
theorem poolGet_le (L : Ledger) (id : Nat) : poolGet L id ≤ poolSum L := NMap.get_le_total _ _
theorem stake_le (L : Ledger) (a : Addr) (v : Validator) (h : valGet? L a = some v) : v.stake ≤ stakeSum L := by
  have := ow_le_sumBy (·.stake) L.validators a
  unfold valGet? at h; rw [h] at this; exact this

/-- one guard followed by the rest of the block `k` -/
theorem guard_ok {β : Type} {c : Prop} [Decidable c] {e : Err} {k : Unit → M β} {b : β} :
    (if c then throw e >>= k else k ()) = .ok b ↔ ¬ c ∧ k () = .ok b := by
  simp only [throw_bind, ite_error_eq_ok]

theorem foldl_keeps {σ α : Type} {f : σ → α → σ} (P : σ → Prop) (hf : ∀ s x, P s → P (f s x)) (xs : List α) (s : σ)
    (hs : P s) : P (xs.foldl f s) :=
  List.foldlRecOn xs f hs fun s hs x _ => hf s x hs

theorem foldlM_keeps {σ α : Type} {f : σ → α → M σ} (P : σ → Prop) :
    ∀ (xs : List α), (∀ x ∈ xs, ∀ s s', P s → f s x = .ok s' → P s') → ∀ s s', P s → xs.foldlM f s = .ok s' → P s'
  | [], _, s, s', hs, h => by obtain rfl := Except.ok.inj h; exact hs
  | x :: xs, hf, s, s', hs, h => by
    simp only [List.foldlM_cons] at h
    obtain ⟨s1, h1, h2⟩ := bind_ok h
    exact foldlM_keeps P xs (fun y hy => hf y (List.mem_cons_of_mem _ hy)) s1 s' (hf x (List.mem_cons_self ..) s s1 hs h1) h2

/-- a reflexive, transitive relation that holds across every step holds across the fold -/
theorem foldl_rel {σ α : Type} {R : σ → σ → Prop} (refl : ∀ s, R s s) (trans : ∀ {a b c}, R a b → R b c → R a c)
    {f : σ → α → σ} (hf : ∀ s x, R s (f s x)) (xs : List α) (s : σ) : R s (xs.foldl f s) :=
  foldl_keeps (R s) (fun s' x h => trans h (hf s' x)) xs s (refl s)

theorem foldlM_rel {σ α : Type} {R : σ → σ → Prop} (refl : ∀ s, R s s) (trans : ∀ {a b c}, R a b → R b c → R a c)
    {f : σ → α → M σ} (hf : ∀ s x s', f s x = .ok s' → R s s') (xs : List α) {s s' : σ} (h : xs.foldlM f s = .ok s') : R s s' :=
  foldlM_keeps (R s) xs (fun x _ s1 s2 h1 h2 => trans h1 (hf s1 x s2 h2)) s s' (refl s) h

theorem accSum_accPut (L : Ledger) (a : Addr) (v : Nat) : accSum (accPut L a v) + accGet L a = accSum L + v :=
  NMap.total_put _ _ _

theorem accSum_setAccount (L : Ledger) (a : Addr) (v : Nat) (t : Option Vest) :
    accSum (setAccount L a v t) + accGet L a = accSum L + v := accSum_accPut L a v

theorem setAccount_shape (L : Ledger) (a : Addr) (v : Nat) (t : Option Vest) :
    ∃ acc vs, setAccount L a v t = { L with accounts := acc, vesting := vs } := ⟨_, _, rfl⟩

theorem accountAdd_ok {L L' : Ledger} {a : Addr} {x : Nat} (h : accountAdd L a x = .ok L') :
    ∃ acc vs, L' = { L with accounts := acc, vesting := vs } ∧ accSum L' = accSum L + x := by
  unfold accountAdd at h
  rcases ite_eq_iff.1 h with ⟨hx, h⟩ | ⟨_, h⟩
  · cases h; exact ⟨L.accounts, L.vesting, rfl, by omega⟩
  · cases (ite_error_eq_ok.1 h).2
    refine ⟨_, _, rfl, ?_⟩
    have := accSum_setAccount L a (accGet L a + x) (vestGet? L a); omega

theorem accSpendable_le (L : Ledger) (a : Addr) : accSpendable L a ≤ accGet L a := by
  unfold accSpendable; split <;> omega

theorem accountSub_ok {L L' : Ledger} {a : Addr} {x : Nat} (h : accountSub L a x = .ok L') :
    ∃ acc vs, L' = { L with accounts := acc, vesting := vs } ∧ accSum L' + x = accSum L := by
  unfold accountSub at h
  rcases ite_eq_iff.1 h with ⟨hx, h⟩ | ⟨_, h⟩
  · cases h; exact ⟨L.accounts, L.vesting, rfl, by omega⟩
  · obtain ⟨hlt, h⟩ := ite_error_eq_ok.1 h
    cases h
    refine ⟨_, _, rfl, ?_⟩
    have := accSum_setAccount L a (accGet L a - x) (vestGet? L a); have := accGet_le L a
    have := accSpendable_le L a; omega

theorem poolSum_poolPut (L : Ledger) (id v : Nat) : poolSum (poolPut L id v) + poolGet L id = poolSum L + v :=
  NMap.total_put _ _ _

/-- `PoolAdd` adds exactly `x` when the pool does not overflow -/
theorem poolAdd_noWrap (L : Ledger) (id x : Nat) (h : poolGet L id + x < U64) :
    ∃ p, poolAdd L id x = { L with pools := p } ∧ poolSum (poolAdd L id x) = poolSum L + x := by
  refine ⟨_, rfl, ?_⟩
  unfold poolAdd
  rw [Nat.mod_eq_of_lt h]
  have := poolSum_poolPut L id (poolGet L id + x); omega

/-- companion (F5): at the excluded point the pool balance wraps -/
theorem poolAdd_wraps (L : Ledger) (id x : Nat) (h : U64 ≤ poolGet L id + x) (hx : x < U64) (hp : poolGet L id < U64) :
    poolSum (poolAdd L id x) + U64 = poolSum L + x := by
  unfold poolAdd
  have e : (poolGet L id + x) % U64 = poolGet L id + x - U64 := by
    rw [Nat.mod_eq_sub_mod h, Nat.mod_eq_of_lt (by omega)]
  rw [e]
  have := poolSum_poolPut L id (poolGet L id + x - U64); omega

theorem poolSub_ok {L L' : Ledger} {id x : Nat} (h : poolSub L id x = .ok L') :
    ∃ p, L' = { L with pools := p } ∧ poolSum L' + x = poolSum L := by
  unfold poolSub at h
  split at h
  · cases h
  · cases h
    refine ⟨_, rfl, ?_⟩
    have := poolSum_poolPut L id (poolGet L id - x); have := poolGet_le L id; omega

theorem addToTotal_noWrap (L : Ledger) (x : Nat) (h : L.supply.total + x < U64) :
    addToTotal L x = { L with supply := { L.supply with total := L.supply.total + x } } := by
  unfold addToTotal; rw [Nat.mod_eq_of_lt h]

/-- companion (F5): at the excluded point the recorded total wraps -/
theorem addToTotal_wraps (L : Ledger) (x : Nat) (h : U64 ≤ L.supply.total + x) (hx : x < U64) (ht : L.supply.total < U64) :
    (addToTotal L x).supply.total + U64 = L.supply.total + x := by
  unfold addToTotal
  show (L.supply.total + x) % U64 + U64 = _
  rw [Nat.mod_eq_sub_mod h, Nat.mod_eq_of_lt (by omega)]; omega

theorem addToTotal_lt (L : Ledger) (x : Nat) : (addToTotal L x).supply.total < U64 :=
  Nat.mod_lt _ (by decide)

theorem subFromTotal_ok {L L' : Ledger} {x : Nat} : subFromTotal L x = .ok L' ↔
    x ≤ L.supply.total ∧ L' = { L with supply := { L.supply with total := L.supply.total - x } } := by
  unfold subFromTotal
  rw [ite_error_eq_ok, Nat.not_lt, Except.ok.injEq, eq_comm (b := L')]

theorem addToStaked_ok {L L' : Ledger} {x : Nat} : addToStaked L x = .ok L' ↔
    L.supply.staked ≤ MAXU - x ∧ L' = { L with supply := { L.supply with staked := L.supply.staked + x } } := by
  unfold addToStaked
  rw [ite_error_eq_ok, Nat.not_lt, Except.ok.injEq, eq_comm (b := L')]

theorem subFromStaked_ok {L L' : Ledger} {x : Nat} : subFromStaked L x = .ok L' ↔
    x ≤ L.supply.staked ∧ L' = { L with supply := { L.supply with staked := L.supply.staked - x } } := by
  unfold subFromStaked
  rw [ite_error_eq_ok, Nat.not_lt, Except.ok.injEq, eq_comm (b := L')]

theorem addToDelegated_ok {L L' : Ledger} {x : Nat} : addToDelegated L x = .ok L' ↔
    L.supply.delegatedOnly ≤ MAXU - x ∧ L' = { L with supply := { L.supply with delegatedOnly := L.supply.delegatedOnly + x } } := by
  unfold addToDelegated
  rw [ite_error_eq_ok, Nat.not_lt, Except.ok.injEq, eq_comm (b := L')]

theorem subFromDelegated_ok {L L' : Ledger} {x : Nat} : subFromDelegated L x = .ok L' ↔
    x ≤ L.supply.delegatedOnly ∧ L' = { L with supply := { L.supply with delegatedOnly := L.supply.delegatedOnly - x } } := by
  unfold subFromDelegated
  rw [ite_error_eq_ok, Nat.not_lt, Except.ok.injEq, eq_comm (b := L')]

/-- two ledgers agree on everything except the per-committee supply pools and the legacy index keys -/
structure SameCore (L L' : Ledger) : Prop where
  cfg : L'.cfg = L.cfg
  params : L'.params = L.params
  height : L'.height = L.height
  accounts : L'.accounts = L.accounts
  pools : L'.pools = L.pools
  validators : L'.validators = L.validators
  total : L'.supply.total = L.supply.total
  staked : L'.supply.staked = L.supply.staked
  delegatedOnly : L'.supply.delegatedOnly = L.supply.delegatedOnly
  unstaking : L'.unstaking = L.unstaking
  paused : L'.paused = L.paused
  nonSigners : L'.nonSigners = L.nonSigners
  committeesData : L'.committeesData = L.committeesData
  retired : L'.retired = L.retired
  doubleSigners : L'.doubleSigners = L.doubleSigners
  slashTracker : L'.slashTracker = L.slashTracker

theorem v2_of_sameCore {L L' : Ledger} (h : SameCore L L') : v2 L' = v2 L := by
  simp [v2, featureEnabled, h.height, h.params]

/-! ### the committee / delegation bookkeeping, as guarded updates and loops on the two supply pool lists -/

theorem addToCommitteeSupply_eq (L : Ledger) (c x : Nat) : addToCommitteeSupply L c x =
    (NMap.add? L.supply.committee x c).map fun m => { L with supply := { L.supply with committee := m } } := by
  unfold addToCommitteeSupply NMap.add?; split <;> rfl
theorem subFromCommitteeSupply_eq (L : Ledger) (c x : Nat) : subFromCommitteeSupply L c x =
    (NMap.sub? L.supply.committee x c).map fun m => { L with supply := { L.supply with committee := m } } := by
  unfold subFromCommitteeSupply NMap.sub?; split <;> rfl
theorem addToDelegateSupply_eq (L : Ledger) (c x : Nat) : addToDelegateSupply L c x =
    (NMap.add? L.supply.delegated x c).map fun m => { L with supply := { L.supply with delegated := m } } := by
  unfold addToDelegateSupply NMap.add?; split <;> rfl
theorem subFromDelegateSupply_eq (L : Ledger) (c x : Nat) : subFromDelegateSupply L c x =
    (NMap.sub? L.supply.delegated x c).map fun m => { L with supply := { L.supply with delegated := m } } := by
  unfold subFromDelegateSupply NMap.sub?; split <;> rfl

/-- the legacy index writes touch their key set only (and nothing under protocol v2) -/
theorem indexKeys_eq (L : Ledger) (a : Addr) (c s : Nat) :
    (∃ k, setCommitteeMember L a c s = { L with committeeKeys := k }) ∧
    (∃ k, deleteCommitteeMember L a c s = { L with committeeKeys := k }) ∧
    (∃ k, setDelegate L a c s = { L with delegateKeys := k }) ∧ (∃ k, deleteDelegate L a c s = { L with delegateKeys := k }) := by
  unfold setCommitteeMember deleteCommitteeMember setDelegate deleteDelegate
  refine ⟨?_, ?_, ?_, ?_⟩ <;> split <;> exact ⟨_, rfl⟩

/-- a map over a success -/
theorem map_eq_ok {α β : Type} {x : M α} {f : α → β} {b : β} (h : x.map f = .ok b) : ∃ a, x = .ok a ∧ f a = b := by
  cases x with
  | error e => cases h
  | ok a => exact ⟨a, rfl, Except.ok.inj h⟩

/-- writing the two pool lists and the index keys keeps the core -/
theorem sameCore_pools (L : Ledger) (c d : NMap Nat) (k1 k2 : KSet (Nat × Nat × Addr)) :
    SameCore L { L with supply := { L.supply with committee := c, delegated := d }, committeeKeys := k1, delegateKeys := k2 } := by
  constructor <;> rfl

/-- `SetCommittees` is the adding loop on the committee pools (beside the index writes) -/
theorem setCommittees_run {a : Addr} {s : Nat} : ∀ {cs : List Nat} {L L' : Ledger}, setCommittees L a s cs = .ok L' →
    ∃ m k, NMap.addAll L.supply.committee s cs = .ok m ∧
      L' = { L with supply := { L.supply with committee := m }, committeeKeys := k }
  | [], L, L', h => by cases h; exact ⟨_, _, rfl, rfl⟩
  | c :: cs, L, L', h => by
    simp only [setCommittees] at h
    obtain ⟨k0, e0⟩ := (indexKeys_eq L a c s).1
    rw [e0, addToCommitteeSupply_eq] at h
    obtain ⟨L1, h1, h2⟩ := bind_ok h
    obtain ⟨m1, hm, rfl⟩ := map_eq_ok h1
    obtain ⟨m, k, h3, rfl⟩ := setCommittees_run h2
    exact ⟨m, k, by rw [NMap.addAll_cons]; exact bind_eq_ok.2 ⟨m1, hm, h3⟩, rfl⟩

theorem setCommittees_ok_of {a : Addr} {s : Nat} : ∀ (cs : List Nat) (L : Ledger) (m : NMap Nat),
    NMap.addAll L.supply.committee s cs = .ok m →
    ∃ k, setCommittees L a s cs = .ok { L with supply := { L.supply with committee := m }, committeeKeys := k }
  | [], L, _, h => by cases h; exact ⟨_, rfl⟩
  | c :: cs, L, m, h => by
    rw [NMap.addAll_cons] at h
    obtain ⟨m1, h1, h2⟩ := bind_ok h
    obtain ⟨k0, e0⟩ := (indexKeys_eq L a c s).1
    simp only [setCommittees]
    rw [e0, addToCommitteeSupply_eq, h1]
    exact setCommittees_ok_of cs _ m h2

/-- `DeleteCommittees` is the subtracting loop on the committee pools (beside the index writes) -/
theorem deleteCommittees_run {a : Addr} {s : Nat} : ∀ {cs : List Nat} {L L' : Ledger}, deleteCommittees L a s cs = .ok L' →
    ∃ m k, NMap.subAll L.supply.committee s cs = .ok m ∧
      L' = { L with supply := { L.supply with committee := m }, committeeKeys := k }
  | [], L, L', h => by cases h; exact ⟨_, _, rfl, rfl⟩
  | c :: cs, L, L', h => by
    simp only [deleteCommittees] at h
    obtain ⟨k0, e0⟩ := (indexKeys_eq L a c s).2.1
    rw [e0, subFromCommitteeSupply_eq] at h
    obtain ⟨L1, h1, h2⟩ := bind_ok h
    obtain ⟨m1, hm, rfl⟩ := map_eq_ok h1
    obtain ⟨m, k, h3, rfl⟩ := deleteCommittees_run h2
    exact ⟨m, k, by rw [NMap.subAll_cons]; exact bind_eq_ok.2 ⟨m1, hm, h3⟩, rfl⟩

theorem deleteCommittees_ok_of {a : Addr} {s : Nat} : ∀ (cs : List Nat) (L : Ledger) (m : NMap Nat),
    NMap.subAll L.supply.committee s cs = .ok m →
    ∃ k, deleteCommittees L a s cs = .ok { L with supply := { L.supply with committee := m }, committeeKeys := k }
  | [], L, _, h => by cases h; exact ⟨_, rfl⟩
  | c :: cs, L, m, h => by
    rw [NMap.subAll_cons] at h
    obtain ⟨m1, h1, h2⟩ := bind_ok h
    obtain ⟨k0, e0⟩ := (indexKeys_eq L a c s).2.1
    simp only [deleteCommittees]
    rw [e0, subFromCommitteeSupply_eq, h1]
    exact deleteCommittees_ok_of cs _ m h2

/-- `SetDelegations` is the adding loop on both pool lists (beside the index writes) -/
theorem setDelegations_run {a : Addr} {s : Nat} : ∀ {cs : List Nat} {L L' : Ledger}, setDelegations L a s cs = .ok L' →
    ∃ md mc k, NMap.addAll L.supply.delegated s cs = .ok md ∧ NMap.addAll L.supply.committee s cs = .ok mc ∧
      L' = { L with supply := { L.supply with delegated := md, committee := mc }, delegateKeys := k }
  | [], L, L', h => by cases h; exact ⟨_, _, _, rfl, rfl, rfl⟩
  | c :: cs, L, L', h => by
    simp only [setDelegations] at h
    obtain ⟨k0, e0⟩ := (indexKeys_eq L a c s).2.2.1
    rw [e0, addToDelegateSupply_eq] at h
    obtain ⟨L1, h1, h⟩ := bind_ok h
    obtain ⟨d1, hd, rfl⟩ := map_eq_ok h1
    rw [addToCommitteeSupply_eq] at h
    obtain ⟨L2, h2, h⟩ := bind_ok h
    obtain ⟨m1, hm, rfl⟩ := map_eq_ok h2
    obtain ⟨md, mc, k, h3, h4, rfl⟩ := setDelegations_run h
    exact ⟨md, mc, k, by rw [NMap.addAll_cons]; exact bind_eq_ok.2 ⟨d1, hd, h3⟩,
      by rw [NMap.addAll_cons]; exact bind_eq_ok.2 ⟨m1, hm, h4⟩, rfl⟩

theorem setDelegations_ok_of {a : Addr} {s : Nat} : ∀ (cs : List Nat) (L : Ledger) (md mc : NMap Nat),
    NMap.addAll L.supply.delegated s cs = .ok md → NMap.addAll L.supply.committee s cs = .ok mc →
    ∃ k, setDelegations L a s cs = .ok { L with supply := { L.supply with delegated := md, committee := mc }, delegateKeys := k }
  | [], L, _, _, hD, hC => by cases hD; cases hC; exact ⟨_, rfl⟩
  | c :: cs, L, md, mc, hD, hC => by
    rw [NMap.addAll_cons] at hD hC
    obtain ⟨d1, h1, h2⟩ := bind_ok hD
    obtain ⟨m1, h3, h4⟩ := bind_ok hC
    obtain ⟨k0, e0⟩ := (indexKeys_eq L a c s).2.2.1
    simp only [setDelegations]
    rw [e0, addToDelegateSupply_eq, h1]
    show ∃ k, (addToCommitteeSupply _ c s >>= fun L2 => setDelegations L2 a s cs) = .ok _
    rw [addToCommitteeSupply_eq, h3]
    exact setDelegations_ok_of cs _ md mc h2 h4

/-- `DeleteDelegations` is the subtracting loop on both pool lists (beside the index writes) -/
theorem deleteDelegations_run {a : Addr} {s : Nat} : ∀ {cs : List Nat} {L L' : Ledger}, deleteDelegations L a s cs = .ok L' →
    ∃ md mc k, NMap.subAll L.supply.delegated s cs = .ok md ∧ NMap.subAll L.supply.committee s cs = .ok mc ∧
      L' = { L with supply := { L.supply with delegated := md, committee := mc }, delegateKeys := k }
  | [], L, L', h => by cases h; exact ⟨_, _, _, rfl, rfl, rfl⟩
  | c :: cs, L, L', h => by
    simp only [deleteDelegations] at h
    obtain ⟨k0, e0⟩ := (indexKeys_eq L a c s).2.2.2
    rw [e0, subFromDelegateSupply_eq] at h
    obtain ⟨L1, h1, h⟩ := bind_ok h
    obtain ⟨d1, hd, rfl⟩ := map_eq_ok h1
    rw [subFromCommitteeSupply_eq] at h
    obtain ⟨L2, h2, h⟩ := bind_ok h
    obtain ⟨m1, hm, rfl⟩ := map_eq_ok h2
    obtain ⟨md, mc, k, h3, h4, rfl⟩ := deleteDelegations_run h
    exact ⟨md, mc, k, by rw [NMap.subAll_cons]; exact bind_eq_ok.2 ⟨d1, hd, h3⟩,
      by rw [NMap.subAll_cons]; exact bind_eq_ok.2 ⟨m1, hm, h4⟩, rfl⟩

theorem deleteDelegations_ok_of {a : Addr} {s : Nat} : ∀ (cs : List Nat) (L : Ledger) (md mc : NMap Nat),
    NMap.subAll L.supply.delegated s cs = .ok md → NMap.subAll L.supply.committee s cs = .ok mc →
    ∃ k, deleteDelegations L a s cs = .ok { L with supply := { L.supply with delegated := md, committee := mc }, delegateKeys := k }
  | [], L, _, _, hD, hC => by cases hD; cases hC; exact ⟨_, rfl⟩
  | c :: cs, L, md, mc, hD, hC => by
    rw [NMap.subAll_cons] at hD hC
    obtain ⟨d1, h1, h2⟩ := bind_ok hD
    obtain ⟨m1, h3, h4⟩ := bind_ok hC
    obtain ⟨k0, e0⟩ := (indexKeys_eq L a c s).2.2.2
    simp only [deleteDelegations]
    rw [e0, subFromDelegateSupply_eq, h1]
    show ∃ k, (subFromCommitteeSupply _ c s >>= fun L2 => deleteDelegations L2 a s cs) = .ok _
    rw [subFromCommitteeSupply_eq, h3]
    exact deleteDelegations_ok_of cs _ md mc h2 h4

/-- the supply quantities only depend on the core -/
theorem bal_of_sameCore {L L' : Ledger} (h : SameCore L L') : bal L' = bal L := by
  simp [bal, accSum, poolSum, stakeSum, h.accounts, h.pools, h.validators]

theorem stakeSum_valPut (L : Ledger) (a : Addr) (v : Validator) :
    stakeSum (valPut L a v) + ow (·.stake) (valGet? L a) = stakeSum L + v.stake :=
  sumBy_set (fun x : Validator => x.stake) L.validators a v

theorem stakeSum_valDel (L : Ledger) (a : Addr) :
    stakeSum (valDel L a) + ow (·.stake) (valGet? L a) = stakeSum L :=
  sumBy_erase (fun x : Validator => x.stake) L.validators a

/-- `L'` has the same accounts, pools and supply record as `L` -/
structure SameMoney (L L' : Ledger) : Prop where
  accounts : L'.accounts = L.accounts
  pools : L'.pools = L.pools
  supply : L'.supply = L.supply

theorem stakeSum_valPut_same {L : Ledger} {a : Addr} {old v : Validator} (hg : valGet? L a = some old) (hs : v.stake = old.stake) :
    stakeSum (valPut L a v) = stakeSum L :=
  sumBy_set_same (f := fun x : Validator => x.stake) (m := L.validators) (k := a) (v := v) hg hs

/-- `SetValidatorUnstaking` as one record update -/
theorem setValidatorUnstaking_eq (L : Ledger) (a : Addr) (val : Validator) (f : Nat) :
    setValidatorUnstaking L a val f = { L with
      unstaking := KSet.add L.unstaking (f, a),
      paused := if val.maxPausedHeight ≠ 0 then KSet.del L.paused (val.maxPausedHeight, a) else L.paused,
      validators := AMap.set L.validators a { val with maxPausedHeight := 0, unstakingHeight := f } } := by
  unfold setValidatorUnstaking valPut; split <;> rfl

@[simp] theorem setValidatorUnstaking_validators (L : Ledger) (a : Addr) (val : Validator) (f : Nat) :
    (setValidatorUnstaking L a val f).validators = AMap.set L.validators a { val with maxPausedHeight := 0, unstakingHeight := f } := by
  rw [setValidatorUnstaking_eq]
theorem setValidatorUnstaking_money (L : Ledger) (a : Addr) (val : Validator) (f : Nat) : SameMoney L (setValidatorUnstaking L a val f) := by
  rw [setValidatorUnstaking_eq]; exact ⟨rfl, rfl, rfl⟩
@[simp] theorem setValidatorPaused_validators (L : Ledger) (a : Addr) (val : Validator) (f : Nat) :
    (setValidatorPaused L a val f).validators = AMap.set L.validators a { val with maxPausedHeight := f } := rfl
theorem setValidatorPaused_money (L : Ledger) (a : Addr) (val : Validator) (f : Nat) : SameMoney L (setValidatorPaused L a val f) := by
  constructor <;> rfl
@[simp] theorem setValidatorUnpaused_validators (L : Ledger) (a : Addr) (val : Validator) :
    (setValidatorUnpaused L a val).validators = AMap.set L.validators a { val with maxPausedHeight := 0 } := rfl
theorem setValidatorUnpaused_money (L : Ledger) (a : Addr) (val : Validator) : SameMoney L (setValidatorUnpaused L a val) := by
  constructor <;> rfl

theorem stakeSum_setValidatorUnstaking {L : Ledger} {a : Addr} {old val : Validator} (f : Nat) (hg : valGet? L a = some old)
    (hs : val.stake = old.stake) : stakeSum (setValidatorUnstaking L a val f) = stakeSum L := by
  unfold stakeSum; rw [setValidatorUnstaking_validators]; exact stakeSum_valPut_same hg hs
theorem stakeSum_setValidatorPaused {L : Ledger} {a : Addr} {old val : Validator} (f : Nat) (hg : valGet? L a = some old)
    (hs : val.stake = old.stake) : stakeSum (setValidatorPaused L a val f) = stakeSum L := by
  unfold stakeSum; rw [setValidatorPaused_validators]; exact stakeSum_valPut_same hg hs
theorem stakeSum_setValidatorUnpaused {L : Ledger} {a : Addr} {old val : Validator} (hg : valGet? L a = some old)
    (hs : val.stake = old.stake) : stakeSum (setValidatorUnpaused L a val) = stakeSum L := by
  unfold stakeSum; rw [setValidatorUnpaused_validators]; exact stakeSum_valPut_same hg hs

theorem getValidator_ok {L : Ledger} {a : Addr} {v : Validator} (h : getValidator L a = .ok v) : valGet? L a = some v := by
  unfold getValidator at h; split at h
  · next v' hv => cases h; exact hv
  · cases h

end Canopy.Ledger
