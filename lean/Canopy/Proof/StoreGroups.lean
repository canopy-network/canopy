import Canopy.Proof.StoreOrder
/-! The physical key list as a sequence of per-user-key groups (C10): under `WFKeys` (no stored user
key is a proper byte-prefix of another) all versions of one user key are contiguous, newest first,
and the groups appear in byte order of their user keys (`exists_groups` in `StoreSorted`). -/
namespace Canopy.Store

/-- all versions of one user key, as `(version, rawValue)`; newest first when `G.WF` -/
structure G where
  uk : Bytes
  es : List (Nat × Bytes)

def G.entries (g : G) : List Entry := g.es.map fun p => (mkKey g.uk p.1, p.2)

def flat (gs : List G) : List Entry := (gs.map G.entries).flatten

/-- `parseValueWithTombstone` and the test for `DeadTombstone`: the value, nothing behind a tombstone -/
def emit (raw : Bytes) : Option Bytes := if (parseVal raw).1 = deadTomb then none else some (parseVal raw).2

theorem emit_eq_some {raw x : Bytes} : emit raw = some x ↔ (parseVal raw).1 ≠ deadTomb ∧ (parseVal raw).2 = x := by
  unfold emit
  split <;> simp [*]

/-- the entry a reader at version `v` sees for this user key -/
def G.pick (v : Nat) (g : G) : Option (Bytes × Bytes) :=
  (g.es.find? fun p => decide (p.1 ≤ v)).bind fun p => (emit p.2).map fun x => (g.uk, x)

structure G.WF (g : G) : Prop where
  uk_ne : g.uk ≠ []
  -- with the 8 version bytes a physical key has at most `maxKeyBytes` = 256 bytes (`store.go`), fewer
  -- than `endBytes`: it lies below `prefixEnd` of each of its prefixes (`blt_prefixEnd`)
  uk_len : g.uk.length ≤ 248
  es_ne : g.es ≠ []
  desc : g.es.Pairwise fun p q => q.1 < p.1
  le_max : ∀ p ∈ g.es, p.1 ≤ maxVer

/-- groups in byte order of their user keys, no user key a prefix of another -/
structure WFG (gs : List G) : Prop where
  wf : ∀ g ∈ gs, g.WF
  order : gs.Pairwise fun g h => blt g.uk h.uk = true ∧ ¬ g.uk <+: h.uk

theorem mem_entries {g : G} {e : Entry} : e ∈ g.entries ↔ ∃ p ∈ g.es, e = (mkKey g.uk p.1, p.2) :=
  List.mem_map.trans (exists_congr fun _ => and_congr_right fun _ => eq_comm)

theorem entries_length_pos {g : G} (hg : g.WF) : 0 < g.entries.length := by
  have := List.length_pos_iff.mpr hg.es_ne
  simpa [G.entries] using this

theorem G.WF.userKeyOf {g : G} (h : g.WF) {e : Entry} (he : e ∈ g.entries) : userKeyOf? e.1 = some g.uk := by
  obtain ⟨p, _, rfl⟩ := mem_entries.mp he
  exact userKeyOf_mkKey _ h.uk_ne

theorem G.WF.versionOf {g : G} (h : g.WF) {p : Nat × Bytes} (hp : p ∈ g.es) :
    versionOf (mkKey g.uk p.1) = p.1 := versionOf_mkKey _ (h.le_max p hp)

/-- in a descending version list `find?` returns the newest version ≤ `v` -/
theorem find_newest_iff {es : List (Nat × Bytes)} (hd : es.Pairwise fun p q => q.1 < p.1) (v : Nat)
    (q : Nat × Bytes) :
    es.find? (fun p => decide (p.1 ≤ v)) = some q ↔
      q ∈ es ∧ q.1 ≤ v ∧ ∀ p ∈ es, p.1 ≤ v → p.1 ≤ q.1 := by
  rw [List.find?_eq_some_iff_append]
  constructor
  · rintro ⟨hq, as, bs, rfl, has⟩
    refine ⟨List.mem_append_right _ List.mem_cons_self, of_decide_eq_true hq, fun p hp hpv => ?_⟩
    rcases List.mem_append.mp hp with hp | hp
    · have := has p hp
      simp only [hpv, decide_true, Bool.not_true, Bool.false_eq_true] at this
    · rcases List.mem_cons.mp hp with rfl | hp
      · exact Nat.le_refl _
      · exact Nat.le_of_lt ((List.pairwise_cons.mp (List.pairwise_append.mp hd).2.1).1 p hp)
  · rintro ⟨hm, hq, hmax⟩
    obtain ⟨as, bs, rfl⟩ := List.append_of_mem hm
    refine ⟨decide_eq_true hq, as, bs, rfl, fun a ha => ?_⟩
    -- an earlier entry is newer than `q`, so it cannot be ≤ `v`
    have hlt : q.1 < a.1 := (List.pairwise_append.mp hd).2.2 a ha q List.mem_cons_self
    have hna : ¬ a.1 ≤ v := fun hav => Nat.not_le_of_lt hlt (hmax a (List.mem_append_left _ ha) hav)
    simp only [hna, decide_false, Bool.not_false]

theorem split_newer (v : Nat) (es : List (Nat × Bytes)) (hd : es.Pairwise fun p q => q.1 < p.1) :
    ∃ es1 rest, es = es1 ++ rest ∧ (∀ p ∈ es1, v < p.1) ∧ (∀ p ∈ rest, p.1 ≤ v) ∧
      es.find? (fun p => decide (p.1 ≤ v)) = rest.head? := by
  cases hf : es.find? (fun p => decide (p.1 ≤ v)) with
  | none =>
    refine ⟨es, [], (List.append_nil _).symm, fun p hp => ?_, by simp, rfl⟩
    simpa using List.find?_eq_none.mp hf p hp
  | some q =>
    obtain ⟨hq, as, bs, rfl, has⟩ := List.find?_eq_some_iff_append.mp hf
    refine ⟨as, q :: bs, rfl, fun p hp => by simpa using has p hp, fun p hp => ?_, rfl⟩
    -- `q` is found, so it is ≤ `v`, and everything behind it is older
    rcases List.mem_cons.mp hp with rfl | hp
    · exact of_decide_eq_true hq
    · exact Nat.le_trans (Nat.le_of_lt ((List.pairwise_cons.mp (List.pairwise_append.mp hd).2.1).1 p hp))
        (of_decide_eq_true hq)

/-- the versions of a well-formed group around the read version `v`: those newer than `v`, then the
rest, whose head is the one a reader at `v` finds -/
theorem G.WF.split {g : G} (hg : g.WF) (v : Nat) :
    ∃ es1 rest, g.es = es1 ++ rest ∧ (∀ p ∈ es1, v < p.1 ∧ p.1 ≤ maxVer) ∧
      (∀ p ∈ rest, p.1 ≤ v ∧ p.1 ≤ maxVer) ∧ g.es.find? (fun p => decide (p.1 ≤ v)) = rest.head? := by
  obtain ⟨es1, rest, hes, h1, h2, h3⟩ := split_newer v g.es hg.desc
  exact ⟨es1, rest, hes,
    fun p hp => ⟨h1 p hp, hg.le_max p (hes ▸ List.mem_append_left _ hp)⟩,
    fun p hp => ⟨h2 p hp, hg.le_max p (hes ▸ List.mem_append_right _ hp)⟩,
    h3⟩

theorem G.pick_eq_some {v : Nat} {g : G} {k x : Bytes} :
    g.pick v = some (k, x) ↔ k = g.uk ∧ ∃ p, g.es.find? (fun p => decide (p.1 ≤ v)) = some p ∧
      (parseVal p.2).1 ≠ deadTomb ∧ (parseVal p.2).2 = x := by
  unfold G.pick
  cases g.es.find? (fun p => decide (p.1 ≤ v)) with
  | none => simp
  | some p => simp [emit_eq_some, @eq_comm _ k, and_left_comm]

theorem G.pick_iff {g : G} (hg : g.WF) (v : Nat) (k x : Bytes) :
    g.pick v = some (k, x) ↔
      k = g.uk ∧ ∃ w raw, (w, raw) ∈ g.es ∧ w ≤ v ∧ (∀ q ∈ g.es, q.1 ≤ v → q.1 ≤ w) ∧
        (parseVal raw).1 ≠ deadTomb ∧ (parseVal raw).2 = x := by
  rw [G.pick_eq_some]
  constructor
  · rintro ⟨hk, p, hf, hal, hx⟩
    obtain ⟨hm, hv, hmax⟩ := (find_newest_iff hg.desc v p).mp hf
    exact ⟨hk, p.1, p.2, hm, hv, hmax, hal, hx⟩
  · rintro ⟨hk, w, raw, hm, hv, hmax, hal, hx⟩
    exact ⟨hk, (w, raw), (find_newest_iff hg.desc v _).mpr ⟨hm, hv, hmax⟩, hal, hx⟩

@[simp] theorem flat_nil : flat [] = [] := rfl
@[simp] theorem flat_cons (g : G) (gs : List G) : flat (g :: gs) = g.entries ++ flat gs := by
  simp [flat]
@[simp] theorem flat_append (a b : List G) : flat (a ++ b) = flat a ++ flat b := by
  simp [flat]

theorem mem_flat {gs : List G} {e : Entry} : e ∈ flat gs ↔ ∃ g ∈ gs, e ∈ g.entries :=
  List.mem_flatMap (f := G.entries)

theorem flat_filter_groups (gs : List G) (c : G → Bool) (p : Entry → Bool)
    (h : ∀ g ∈ gs, ∀ e ∈ g.entries, p e = c g) : (flat gs).filter p = flat (gs.filter c) := by
  induction gs with
  | nil => rfl
  | cons g gs ih =>
    have ih' := ih (fun x hx => h x (List.mem_cons_of_mem _ hx))
    have hg := h g List.mem_cons_self
    rw [flat_cons, List.filter_append, ih', List.filter_cons]
    cases hc : c g with
    | true =>
      have : g.entries.filter p = g.entries := List.filter_eq_self.mpr (fun e he => by rw [hg e he, hc])
      simp [this]
    | false =>
      have : g.entries.filter p = [] := List.filter_eq_nil_iff.mpr (fun e he => by rw [hg e he, hc]; simp)
      simp [this]

theorem WFG.nil : WFG [] := ⟨by simp, by simp⟩

theorem WFG.tail {g : G} {gs : List G} (h : WFG (g :: gs)) : WFG gs :=
  ⟨fun x hx => h.wf x (List.mem_cons_of_mem _ hx), (List.pairwise_cons.mp h.order).2⟩

theorem WFG.cons {g : G} {gs : List G} (hg : g.WF) (ho : ∀ x ∈ gs, blt g.uk x.uk = true ∧ ¬ g.uk <+: x.uk)
    (h : WFG gs) : WFG (g :: gs) :=
  ⟨List.forall_mem_cons.mpr ⟨hg, h.wf⟩, List.pairwise_cons.mpr ⟨ho, h.order⟩⟩

theorem WFG.mid {a b : List G} {g : G} (h : WFG (a ++ g :: b)) : g.WF :=
  h.wf g (List.mem_append_right _ List.mem_cons_self)

theorem WFG.append_left {a b : List G} (h : WFG (a ++ b)) : WFG a :=
  ⟨fun x hx => h.wf x (List.mem_append_left _ hx), (List.pairwise_append.mp h.order).1⟩

theorem WFG.append_right {a b : List G} (h : WFG (a ++ b)) : WFG b :=
  ⟨fun x hx => h.wf x (List.mem_append_right _ hx), (List.pairwise_append.mp h.order).2.1⟩

theorem WFG.filter {gs : List G} (h : WFG gs) (c : G → Bool) : WFG (gs.filter c) :=
  ⟨fun g hg => h.wf g (List.mem_filter.mp hg).1, h.order.filter c⟩

theorem mem_flat_of_group {gs : List G} (hW : WFG gs) {g : G} (hg : g ∈ gs) :
    ∃ q, q ∈ g.es ∧ (mkKey g.uk q.1, q.2) ∈ flat gs := by
  obtain ⟨q, qs, hq⟩ := List.exists_cons_of_ne_nil (hW.wf g hg).es_ne
  have hm : q ∈ g.es := hq ▸ List.mem_cons_self
  exact ⟨q, hm, mem_flat.mpr ⟨g, hg, mem_entries.mpr ⟨q, hm, rfl⟩⟩⟩

theorem length_le_flat {gs : List G} (h : WFG gs) : gs.length ≤ (flat gs).length := by
  induction gs with
  | nil => simp
  | cons g gs ih =>
    have hg := entries_length_pos (h.wf g List.mem_cons_self)
    have hgs := ih h.tail
    simp only [List.length_cons, flat_cons, List.length_append]
    omega

/-- every key of an earlier group is below anything that extends a later group's user key -/
theorem blt_of_earlier {g h : G} (hlt : blt g.uk h.uk = true) (hp : ¬ g.uk <+: h.uk)
    {e : Entry} (he : e ∈ g.entries) (t : Bytes) : blt e.1 (h.uk ++ t) = true := by
  obtain ⟨p, _, rfl⟩ := mem_entries.mp he
  exact blt_append_of_not_prefix hlt hp _ _

theorem WFG.before {a : List G} {g : G} {b : List G} (h : WFG (a ++ g :: b))
    {e : Entry} (he : e ∈ flat a) (t : Bytes) : blt e.1 (g.uk ++ t) = true := by
  obtain ⟨x, hx, hex⟩ := mem_flat.mp he
  have := (List.pairwise_append.mp h.order).2.2 x hx g List.mem_cons_self
  exact blt_of_earlier this.1 this.2 hex t

theorem WFG.after {a : List G} {g : G} {b : List G} (h : WFG (a ++ g :: b))
    {e : Entry} (he : e ∈ flat b) (t : Bytes) : blt (g.uk ++ t) e.1 = true := by
  obtain ⟨x, hx, hex⟩ := mem_flat.mp he
  obtain ⟨p, _, rfl⟩ := mem_entries.mp hex
  have := (List.pairwise_cons.mp (List.pairwise_append.mp h.order).2.1).1 x hx
  exact blt_append_of_not_prefix this.1 this.2 _ _

theorem WFG.uk_ne_of_mem {a : List G} {g : G} {b : List G} (h : WFG (a ++ g :: b)) :
    (∀ x ∈ a, x.uk ≠ g.uk) ∧ (∀ x ∈ b, x.uk ≠ g.uk) := by
  constructor
  · intro x hx e
    have := (List.pairwise_append.mp h.order).2.2 x hx g List.mem_cons_self
    rw [e, blt_irrefl] at this
    exact Bool.false_ne_true this.1
  · intro x hx e
    have := (List.pairwise_cons.mp (List.pairwise_append.mp h.order).2.1).1 x hx
    rw [e, blt_irrefl] at this
    exact Bool.false_ne_true this.1

theorem WFG.uk_unique {gs : List G} (hW : WFG gs) {g h : G} (hg : g ∈ gs) (hh : h ∈ gs) (e : g.uk = h.uk) : g = h := by
  obtain ⟨a, b, rfl⟩ := List.append_of_mem hg
  rcases List.mem_append.mp hh with hh | hh
  · exact absurd e.symm (hW.uk_ne_of_mem.1 h hh)
  · rcases List.mem_cons.mp hh with rfl | hh
    · rfl
    · exact absurd e.symm (hW.uk_ne_of_mem.2 h hh)

theorem filter_key_eq_find {gs : List G} (hW : WFG gs) (uk : Bytes) :
    gs.filter (fun g => decide (g.uk = uk)) = (gs.find? fun g => decide (g.uk = uk)).toList := by
  induction gs with
  | nil => rfl
  | cons g gs ih =>
    by_cases h : g.uk = uk
    · have hnone : gs.filter (fun g => decide (g.uk = uk)) = [] :=
        List.filter_eq_nil_iff.mpr fun x hx => by
          simpa [← h] using (WFG.uk_ne_of_mem (a := []) hW).2 x hx
      simp [h, hnone]
    · simp [h, ih hW.tail]

end Canopy.Store
