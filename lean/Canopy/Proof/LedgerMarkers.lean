import Canopy.Proof.LedgerTally
/-! C12: the marker ↔ validator-status biconditionals under the status changes. -/
namespace Canopy.Ledger
open AMap

/-- the part of `WF` that concerns validator records and markers -/
structure WFm (L : Ledger) : Prop where
  validators : NodupKeys L.validators
  unstaking : NodupKeys L.unstaking
  paused : NodupKeys L.paused

theorem valGet_set (L : Ledger) (a b : Addr) (v : Validator) :
    find? (AMap.set L.validators a v) b = if a = b then some v else valGet? L b := by
  unfold valGet?; exact find?_set _ _ _ _

theorem Markers.of_same {L L' : Ledger} (hm : Markers L) (hv : L'.validators = L.validators) (hu : L'.unstaking = L.unstaking)
    (hp : L'.paused = L.paused) : Markers L' := by
  have hget : ∀ b, valGet? L' b = valGet? L b := by intro b; unfold valGet?; rw [hv]
  exact ⟨fun h b => by rw [hu, hget]; exact hm.unstaking h b, fun h b => by rw [hp, hget]; exact hm.paused h b,
    fun b v hvb => by rw [hget] at hvb; exact hm.exclusive b v hvb⟩

theorem WFm.of_same {L L' : Ledger} (hw : WFm L) (hv : L'.validators = L.validators) (hu : L'.unstaking = L.unstaking)
    (hp : L'.paused = L.paused) : WFm L' := ⟨by rw [hv]; exact hw.validators, by rw [hu]; exact hw.unstaking, by rw [hp]; exact hw.paused⟩

/-! ### one marker set against one status field

Both biconditionals of `Markers` have the shape `Marks f S m`; every status operation rewrites the record of ONE address
`a` and changes the marker set at most in the marker of `a`. So the set needs looking at only at `a`, where its content is
the (non-zero) value of the field in the record: `AMap.ow f` of the entry, which is `0` where there is no record. -/

section marks
variable {f : Validator → Nat} {S S' : KSet (Nat × Addr)} {m m' : List (Addr × Validator)} {a : Addr} {nv : Option Validator}

/-- `S` holds `(h, b)` exactly when the record of `b` in `m` has the non-zero value `h` in field `f` -/
def Marks (f : Validator → Nat) (S : KSet (Nat × Addr)) (m : List (Addr × Validator)) : Prop :=
  ∀ h b, KSet.has S (h, b) = true ↔ ∃ v, find? m b = some v ∧ f v = h ∧ h ≠ 0

theorem some_iff_ow (f : Validator → Nat) (o : Option Validator) (h : Nat) :
    (∃ v, o = some v ∧ f v = h ∧ h ≠ 0) ↔ ow f o = h ∧ h ≠ 0 := by
  cases o with
  | none => exact ⟨fun ⟨_, e, _⟩ => (nomatch e), fun ⟨e, hne⟩ => absurd e.symm hne⟩
  | some v => exact ⟨fun ⟨_, e, r⟩ => Option.some.inj e ▸ r, fun r => ⟨v, rfl, r⟩⟩

theorem Marks.at (hm : Marks f S m) (h : Nat) (b : Addr) : KSet.has S (h, b) = true ↔ ow f (find? m b) = h ∧ h ≠ 0 :=
  (hm h b).trans (some_iff_ow f _ h)

/-- the record at `a` becomes `nv`; the set changes only at `a`, to what `nv` says -/
theorem Marks.update (hm : Marks f S m) (hget : ∀ b, find? m' b = if a = b then nv else find? m b)
    (hS : ∀ h b, KSet.has S' (h, b) = true ↔ if a = b then ow f nv = h ∧ h ≠ 0 else KSet.has S (h, b) = true) :
    Marks f S' m' := by
  intro h b
  rw [hS, hget]
  by_cases hab : a = b
  · rw [if_pos hab, if_pos hab]; exact (some_iff_ow f nv h).symm
  · rw [if_neg hab, if_neg hab]; exact hm h b

/-- the field keeps its value: the set stays -/
theorem Marks.keep (hm : Marks f S m) (hget : ∀ b, find? m' b = if a = b then nv else find? m b)
    (hx : ow f nv = ow f (find? m a)) : Marks f S m' :=
  hm.update hget fun h b => by
    by_cases hab : a = b
    · subst hab; rw [if_pos rfl, hx]; exact hm.at h a
    · rw [if_neg hab]

/-- the field was zero and becomes `x ≠ 0`: the marker `(x, a)` is added -/
theorem Marks.add (hm : Marks f S m) (hget : ∀ b, find? m' b = if a = b then nv else find? m b)
    (h0 : ow f (find? m a) = 0) {x : Nat} (hx : ow f nv = x) (hne : x ≠ 0) : Marks f (KSet.add S (x, a)) m' :=
  hm.update hget fun h b => by
    rw [has_add, Prod.mk.injEq]
    by_cases hab : a = b
    · subst hab
      rw [if_pos rfl, hx]
      have hno : ¬ KSet.has S (h, a) = true := fun e => ((hm.at h a).1 e).2 (((hm.at h a).1 e).1.symm.trans h0)
      exact ⟨fun e => e.elim (fun e => ⟨e.1, e.1 ▸ hne⟩) (fun e => absurd e hno), fun e => Or.inl ⟨e.1, rfl⟩⟩
    · rw [if_neg hab]; exact ⟨fun e => e.elim (fun e => absurd e.2 hab) id, Or.inr⟩

/-- the field was `g` and becomes zero (or the record goes): the marker `(g, a)` is deleted -/
theorem Marks.del (hm : Marks f S m) (hn : NodupKeys S) (hget : ∀ b, find? m' b = if a = b then nv else find? m b)
    {g : Nat} (hg : ow f (find? m a) = g) (hx : ow f nv = 0) : Marks f (KSet.del S (g, a)) m' :=
  hm.update hget fun h b => by
    by_cases hab : a = b
    · subst hab hg
      rw [if_pos rfl, hx]
      refine ⟨fun e => ?_, fun e => absurd e.1.symm e.2⟩
      -- a marker of `a` that survived is a marker of `a` in `S`, hence the deleted one
      rw [((hm.at h a).1 (has_del_of _ _ _ e)).1, has_del_self _ _ hn] at e
      cases e
    · rw [if_neg hab, has_del_ne _ (fun e => hab (Prod.mk.inj e).2)]

theorem Marks.delIf (hm : Marks f S m) (hn : NodupKeys S) (hget : ∀ b, find? m' b = if a = b then nv else find? m b)
    {g : Nat} (hg : ow f (find? m a) = g) (hx : ow f nv = 0) : Marks f (if g ≠ 0 then KSet.del S (g, a) else S) m' := by
  split
  · exact hm.del hn hget hg hx
  · next h0 => exact hm.keep hget (by rw [hx, hg]; omega)

/-- the records of the addresses in `D` go, and with them exactly the markers of those addresses -/
theorem Marks.remove {f : Validator → Nat} {S S' : KSet (Nat × Addr)} {m m' : List (Addr × Validator)} {D : List Addr}
    (hm : Marks f S m) (hget : ∀ b, find? m' b = if b ∈ D then none else find? m b)
    (hS : ∀ h b, KSet.has S' (h, b) = true ↔ KSet.has S (h, b) = true ∧ b ∉ D) : Marks f S' m' := by
  intro h b
  rw [hS, hget]
  by_cases hb : b ∈ D
  · rw [if_pos hb]; exact ⟨fun e => absurd hb e.2, fun ⟨_, e, _⟩ => nomatch e⟩
  · rw [if_neg hb]; exact (and_iff_left hb).trans (hm h b)

/-- a property of all records survives when the new record has it -/
theorem forall_find?_update {P : Validator → Prop} (hm : ∀ b v, find? m b = some v → P v)
    (hget : ∀ b, find? m' b = if a = b then nv else find? m b) (hnv : ∀ v, nv = some v → P v) :
    ∀ b v, find? m' b = some v → P v := by
  intro b v hv
  rw [hget] at hv
  by_cases hab : a = b
  · rw [if_pos hab] at hv; exact hnv v hv
  · rw [if_neg hab] at hv; exact hm b v hv

end marks

/-- `SetValidatorUnstaking` on a validator that is not yet unstaking: the new marker appears, a paused marker goes -/
theorem markers_setValidatorUnstaking {L : Ledger} {a : Addr} {old val : Validator} {f : Nat} (hm : Markers L) (hw : WFm L)
    (hg : valGet? L a = some old) (hu : old.unstakingHeight = 0) (hp : val.maxPausedHeight = old.maxPausedHeight) (hf : f ≠ 0) :
    Markers (setValidatorUnstaking L a val f) ∧ WFm (setValidatorUnstaking L a val f) := by
  have hvv := setValidatorUnstaking_validators L a val f
  have hun : (setValidatorUnstaking L a val f).unstaking = KSet.add L.unstaking (f, a) := by
    rw [setValidatorUnstaking_eq]
  have hpa : (setValidatorUnstaking L a val f).paused =
      if val.maxPausedHeight ≠ 0 then KSet.del L.paused (val.maxPausedHeight, a) else L.paused := by
    rw [setValidatorUnstaking_eq]
  have hget : ∀ b, find? (setValidatorUnstaking L a val f).validators b =
      if a = b then some { val with maxPausedHeight := 0, unstakingHeight := f } else find? L.validators b := by
    rw [hvv]; exact fun b => find?_set _ _ _ _
  have hg' : find? L.validators a = some old := hg
  refine ⟨⟨?_, ?_, ?_⟩, ⟨?_, ?_, ?_⟩⟩
  · rw [hun]; exact Marks.add hm.unstaking hget (by rw [hg']; exact hu) rfl hf
  · rw [hpa]; exact Marks.delIf hm.paused hw.paused hget (by rw [hg', hp]; rfl) rfl
  · exact forall_find?_update hm.exclusive hget (fun v e _ => by cases e; rfl)
  · rw [hvv]; exact nodup_set _ _ _ hw.validators
  · rw [hun]; exact nodup_set _ _ _ hw.unstaking
  · rw [hpa]; split
    · exact nodup_erase _ _ hw.paused
    · exact hw.paused

/-- `SetValidatorPaused` on an active validator -/
theorem markers_setValidatorPaused {L : Ledger} {a : Addr} {old : Validator} {m : Nat} (hm : Markers L) (hw : WFm L)
    (hg : valGet? L a = some old) (hu : old.unstakingHeight = 0) (hp : old.maxPausedHeight = 0) (hf : m ≠ 0) :
    Markers (setValidatorPaused L a old m) ∧ WFm (setValidatorPaused L a old m) := by
  have hget : ∀ b, find? (setValidatorPaused L a old m).validators b =
      if a = b then some { old with maxPausedHeight := m } else find? L.validators b := fun b => find?_set _ _ _ _
  have hg' : find? L.validators a = some old := hg
  exact ⟨⟨Marks.keep hm.unstaking hget (by rw [hg']; rfl), Marks.add hm.paused hget (by rw [hg']; exact hp) rfl hf,
      forall_find?_update hm.exclusive hget (fun v e hne => by cases e; exact absurd hu hne)⟩,
    ⟨nodup_set _ _ _ hw.validators, hw.unstaking, nodup_set _ _ _ hw.paused⟩⟩

/-- `SetValidatorUnpaused` on an existing validator, paused or not -/
theorem markers_setValidatorUnpaused {L : Ledger} {a : Addr} {old : Validator} (hm : Markers L) (hw : WFm L)
    (hg : valGet? L a = some old) :
    Markers (setValidatorUnpaused L a old) ∧ WFm (setValidatorUnpaused L a old) := by
  have hget : ∀ b, find? (setValidatorUnpaused L a old).validators b =
      if a = b then some { old with maxPausedHeight := 0 } else find? L.validators b := fun b => find?_set _ _ _ _
  have hg' : find? L.validators a = some old := hg
  exact ⟨⟨Marks.keep hm.unstaking hget (by rw [hg']; rfl), Marks.del hm.paused hw.paused hget (by rw [hg']; rfl) rfl,
      forall_find?_update hm.exclusive hget (fun v e _ => by cases e; rfl)⟩,
    ⟨nodup_set _ _ _ hw.validators, hw.unstaking, nodup_erase _ _ hw.paused⟩⟩

end Canopy.Ledger
