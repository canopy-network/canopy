import Canopy.Model.Handshake
import Canopy.Proof.Guards
/-!
Helper lemmas for C17 (handshake, Dolev-Yao model): which send key fits which receive key
(`key_match`), the meaning of acceptance (`finish_ok`), the invariant `Pub` that bounds the attacker's
knowledge, and the core case analysis `auth_core`. Core Lean only.
-/
namespace Canopy.Handshake
open Term

theorem mkDh_inj {a b c d : Nat} (h : mkDh a b = mkDh c d) : (a = c ∧ b = d) ∨ (a = d ∧ b = c) := by
  simp only [mkDh, dh.injEq] at h
  rcases Nat.le_total a b with hab | hab <;> rcases Nat.le_total c d with hcd | hcd
  all_goals simp only [Nat.min_eq_left, Nat.min_eq_right, Nat.max_eq_left, Nat.max_eq_right, hab, hcd] at h
  · exact .inl h
  · exact .inr h
  · exact .inr h.symm
  · exact .inl h.symm

theorem sendKey_ne_recvKey_same (a b : Nat) : sendKey a b ≠ recvKey a b := by
  unfold sendKey recvKey; split <;> simp

/-- an honest frame that opens under `p`'s receive key was sent by the run whose ephemeral key `p`
received and which received `p`'s: the two directions use different keys, so `p`'s own frames do not fit -/
theorem key_match {a x e y : Nat} (hk : sendKey e y = recvKey a x) : e = x ∧ y = a := by
  have hd : mkDh e y = mkDh a x := by
    unfold sendKey recvKey at hk
    split at hk <;> split at hk <;> simp only [kdf.injEq] at hk <;> exact hk.2
  rcases mkDh_inj hd with ⟨h1, h2⟩ | ⟨h1, h2⟩
  · subst h1 h2; exact absurd hk (sendKey_ne_recvKey_same e y)
  · exact ⟨h1, h2⟩

theorem openEnc_eq_some {k : Term} {n : Nat} {t m : Term} : openEnc k n t = some m ↔ t = enc k n m := by
  cases t <;> simp [openEnc, and_assoc, eq_comm]

/-- what acceptance means: exactly these two frames -/
theorem finish_ok {ro : Bool} {p : Party} {x : Nat} {f1 f2 t : Term}
    (h : p.finish ro (pk (atom x)) f1 f2 = .ok t) :
    ∃ j, t = pk (atom j) ∧
      f1 = enc (recvKey p.eph x) 0 (pair (pk (atom j)) (sig (atom j) (chal (mkDh p.eph x)))) ∧
      f2 = enc (recvKey p.eph x) 1 (pair (pmeta p.net p.chain) (sig (atom j) (pmeta p.net p.chain))) ∧
      (ro = true → j ≠ p.id) := by
  simp only [Party.finish] at h
  split at h
  · rename_i j s h1
    simp only [ite_error_eq_ok, Decidable.not_not] at h
    obtain ⟨hown, rfl, h⟩ := h
    split at h
    · rename_i n c ms h2
      simp only [ite_error_eq_ok, Decidable.not_not] at h
      obtain ⟨rfl, rfl, rfl, h⟩ := h
      cases h
      exact ⟨j, rfl, openEnc_eq_some.mp h1, openEnc_eq_some.mp h2, fun hr hj => hown ⟨hr, hj⟩⟩
    · cases h
  all_goals cases h

/-- what honest key holders have signed -/
def World.honestSig (W : World) (sk m : Term) : Prop :=
  ∃ s ∈ W.sessions, sk = atom s.party.id ∧
    (m = chal (mkDh s.party.eph s.peer) ∨ m = pmeta s.party.net s.party.chain)

/-- an over-approximation of what the attacker can ever know (`DY.isPub`) -/
def Pub (W : World) : Term → Prop
  | atom n => ¬ W.sec n
  | pk _ => True
  | dh a b => ¬ W.sec a ∨ ¬ W.sec b
  | kdf _ s => Pub W s
  | sig sk m => Pub W m ∧ (Pub W sk ∨ W.honestSig sk m)
  | enc k n m => (Pub W k ∧ Pub W m) ∨ W.outputs (enc k n m)
  | pair a b => Pub W a ∧ Pub W b
  | pmeta _ _ => True

theorem pub_mkDh (W : World) (a b : Nat) : Pub W (mkDh a b) ↔ (¬ W.sec a ∨ ¬ W.sec b) := by
  simp only [mkDh, Pub]
  rcases Nat.le_total a b with h | h
  · rw [Nat.min_eq_left h, Nat.max_eq_right h]
  · rw [Nat.min_eq_right h, Nat.max_eq_left h]; exact Or.comm

theorem pub_sendKey (W : World) (a b : Nat) : Pub W (sendKey a b) ↔ Pub W (mkDh a b) := by
  unfold sendKey; split <;> simp [Pub]

theorem pub_recvKey (W : World) (a b : Nat) : Pub W (recvKey a b) ↔ Pub W (mkDh a b) := by
  unfold recvKey; split <;> simp [Pub]

theorem pub_of_output (W : World) {k n m} (ho : W.outputs (enc k n m)) (hk : Pub W k) : Pub W m := by
  obtain ⟨s, hs, h | h⟩ := ho
  · simp only [Party.msg2, enc.injEq] at h
    obtain ⟨rfl, rfl, rfl⟩ := h
    rw [pub_sendKey] at hk
    exact ⟨trivial, by simpa [chal, Pub] using hk, Or.inr ⟨s, hs, rfl, Or.inl rfl⟩⟩
  · simp only [Party.msg3, enc.injEq] at h
    obtain ⟨rfl, rfl, rfl⟩ := h
    exact ⟨trivial, trivial, Or.inr ⟨s, hs, rfl, Or.inr rfl⟩⟩

theorem DY.isPub {W : World} {t : Term} (h : DY W t) : Pub W t := by
  induction h with
  | out ho =>
    obtain ⟨s, hs, h | h⟩ := ho
    · rw [h]; exact Or.inr ⟨s, hs, Or.inl rfl⟩
    · rw [h]; exact Or.inr ⟨s, hs, Or.inr rfl⟩
  | atom h => exact h
  | pub n => trivial
  | pk _ _ => trivial
  | dh b _ ih => exact (pub_mkDh W _ b).mpr (Or.inl ih)
  | kdf i _ ih => exact ih
  | sig _ _ ih1 ih2 => exact ⟨ih2, Or.inl ih1⟩
  | unsig _ ih => exact ih.1
  | enc n _ _ ih1 ih2 => exact Or.inl ⟨ih1, ih2⟩
  | dec _ _ ih1 ih2 =>
    rcases ih1 with h | h
    · exact h.2
    · exact pub_of_output W h ih2
  | pair _ _ ih1 ih2 => exact ⟨ih1, ih2⟩
  | fst _ ih => exact ih.1
  | snd _ ih => exact ih.2
  | pmeta _ _ => trivial

/-- **core of `auth`.** `p` (an honest run in the world, which received the ephemeral key of scalar `x`)
accepts identity `j` on frames the attacker could deliver; `j` is uncompromised. Then either the
matching run of `j` exists (it used the ephemeral key `p` received, received `p`'s, and has `p`'s
network and chain) — or the code does not refuse its own key and this is the reflection:
`j` is `p`'s own identity and the ephemeral key `p` received is the attacker's. -/
theorem auth_core (W : World) (ro : Bool) (sA : Session) (hA : sA ∈ W.sessions) {f1 f2 : Term}
    (h1 : DY W f1) (h2 : DY W f2) {j : Nat}
    (hacc : sA.party.finish ro (pk (atom sA.peer)) f1 f2 = .ok (pk (atom j))) (hsec : W.sec j) :
    (∃ s ∈ W.sessions, s.party.id = j ∧ s.party.eph = sA.peer ∧ s.peer = sA.party.eph ∧
        s.party.net = sA.party.net ∧ s.party.chain = sA.party.chain) ∨
    (ro = false ∧ j = sA.party.id ∧ ¬ W.sec sA.peer) := by
  obtain ⟨j', hj, hf1, hf2, hro⟩ := finish_ok hacc
  simp only [pk.injEq, atom.injEq] at hj
  subst hj
  have hsa := W.ephSecret sA hA
  have p1 := h1.isPub
  have p2 := h2.isPub
  rw [hf1] at p1
  rw [hf2] at p2
  -- who produced the first frame?
  rcases p1 with ⟨pk1, pm1⟩ | ⟨s, hs, ho | ho⟩
  · -- the attacker sealed it: it knows the channel key, so the ephemeral key `p` received is its own
    right
    rw [pub_recvKey, pub_mkDh] at pk1
    have hx : ¬ W.sec sA.peer := pk1.resolve_left (not_not_intro hsa)
    obtain ⟨_, _, hsig⟩ := pm1
    rcases hsig with h | ⟨s, hs, hid, hm | hm⟩
    · exact absurd hsec h
    · simp only [atom.injEq] at hid
      simp only [chal, kdf.injEq, true_and] at hm
      rcases mkDh_inj hm with ⟨e1, _⟩ | ⟨_, e1⟩
      · -- the signature is the one `p` itself made in this very run
        have := W.ephFresh sA hA s hs e1
        subst this
        refine ⟨?_, hid, hx⟩
        cases ro with
        | false => rfl
        | true => exact absurd hid (hro rfl)
      · -- signed by a run whose ephemeral key is the attacker's: impossible, honest ephemerals are secret
        exact absurd (W.ephSecret s hs) (by rw [← e1]; exact hx)
    · simp [chal] at hm
  · -- an honest run `s` sealed it as ITS message 2
    left
    simp only [Party.msg2, enc.injEq, pair.injEq, pk.injEq, atom.injEq, sig.injEq, true_and] at ho
    obtain ⟨hk, ⟨hid, _, _⟩⟩ := ho
    obtain ⟨he, hp⟩ := key_match hk.symm
    refine ⟨s, hs, hid.symm, he, hp, ?_⟩
    -- the second frame: either from the same run, or the attacker knows the key (impossible: both ephemerals secret)
    rcases p2 with ⟨pk2, _⟩ | ⟨s', hs', ho' | ho'⟩
    · rw [pub_recvKey, pub_mkDh] at pk2
      exact absurd (he ▸ W.ephSecret s hs) (pk2.resolve_left (not_not_intro hsa))
    · simp [Party.msg2] at ho'
    · simp only [Party.msg3, enc.injEq, pair.injEq, pmeta.injEq, true_and] at ho'
      obtain ⟨hk', ⟨hn, hc⟩, _⟩ := ho'
      obtain ⟨he', _⟩ := key_match hk'.symm
      have := W.ephFresh s hs s' hs' (he.trans he'.symm)
      subst this
      exact ⟨hn.symm, hc.symm⟩
  · simp [Party.msg3] at ho

end Canopy.Handshake
