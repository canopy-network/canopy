import Canopy.Proof.BftQuorum
/-!
Safety lemmas of M-bft-abs. Everything the proof uses about the code's decisions is confined to

* `hun    : ∀ w y, c.unlock w y = true → w < y`     (SafeNode's LIVENESS comparison respects the view order),
* `hadopt : ∀ w y, c.adoptOk w y = true → w < y`    (a lock is only replaced by a higher certificate),
* `hf     : c.Fresh tr`                              (a PRECOMMIT_VOTE locks on the PROPOSE_VOTE certificate of its own view).

`hf` follows from the guard when `certBound` binds the certificate to the view (`fresh_of_bound`).
-/
namespace Canopy.Bft

theorem Ev.isProposeFor_iff (e : Ev) (r : Nat) (v : View) (b : Nat) :
    e.isProposeFor r v b = true ↔ ∃ hq, e = .propose r v b hq := by
  cases e <;> simp [Ev.isProposeFor, and_assoc]

theorem Ev.isPrecommitFor_iff (e : Ev) (r : Nat) (v : View) (b : Nat) :
    e.isPrecommitFor r v b = true ↔ ∃ q qp, e = .precommit r v b q qp := by
  cases e <;> simp [Ev.isPrecommitFor, and_assoc]

theorem Ev.isProposeAt_eq_true {e : Ev} {r : Nat} {v : View} (h : e.isProposeAt r v = true) :
    e.rep = r ∧ e.voteView = some v := by
  cases e <;> simp_all [Ev.isProposeAt, Ev.rep, Ev.voteView]

theorem Ev.isPrecommitAt_eq_true {e : Ev} {r : Nat} {v : View} (h : e.isPrecommitAt r v = true) :
    e.rep = r ∧ e.voteView = some v := by
  cases e <;> simp_all [Ev.isPrecommitAt, Ev.rep, Ev.voteView]

theorem votedPropose_iff {tr : List Ev} {r : Nat} {v : View} {b : Nat} :
    votedPropose tr r v b = true ↔ ∃ hq, Ev.propose r v b hq ∈ tr := by
  simp only [votedPropose, List.any_eq_true, Ev.isProposeFor_iff]
  exact ⟨fun ⟨_, he, hq, h⟩ => ⟨hq, h ▸ he⟩, fun ⟨hq, h⟩ => ⟨_, h, hq, rfl⟩⟩

theorem votedPrecommit_iff {tr : List Ev} {r : Nat} {v : View} {b : Nat} :
    votedPrecommit tr r v b = true ↔ ∃ q qp, Ev.precommit r v b q qp ∈ tr := by
  simp only [votedPrecommit, List.any_eq_true, Ev.isPrecommitFor_iff]
  exact ⟨fun ⟨_, he, q, qp, h⟩ => ⟨q, qp, h ▸ he⟩, fun ⟨q, qp, h⟩ => ⟨_, h, q, qp, rfl⟩⟩

namespace Cfg
variable (c : Cfg)

theorem proposeQC_mono (xs : List Ev) {s : List Ev} {v : View} {b : Nat} (h : c.proposeQC s v b) :
    c.proposeQC (xs ++ s) v b := by
  refine Nat.le_trans h (c.powerOf_mono fun r hr => ?_)
  rw [votedPropose, List.any_append, Bool.or_eq_true]
  exact .inr hr

theorem safeCond_mono (xs : List Ev) {tr : List Ev} {b : Nat} {hq : Option View} {lk : Option (View × Nat)}
    (h : c.safeCond tr b hq lk) : c.safeCond (xs ++ tr) b hq lk :=
  match lk, h with
  | none, _ => trivial
  | some _, .inl h => .inl h
  | some _, .inr h =>
    match hq, h with
    | some _, ⟨h1, h2⟩ => .inr ⟨h1, c.proposeQC_mono xs h2⟩

theorem Valid.tail {c : Cfg} {e : Ev} {tr : List Ev} (h : c.Valid (e :: tr)) : c.Valid tr := by
  cases h <;> assumption

theorem Valid.suffix {c : Cfg} : ∀ (xs s : List Ev), c.Valid (xs ++ s) → c.Valid s
  | [], _, h => h
  | _ :: xs, s, h => Valid.suffix xs s (Valid.tail h)

theorem Valid.guard_head {c : Cfg} {e : Ev} {tr : List Ev} (h : c.Valid (e :: tr))
    (hh : c.byz e.rep = false) : c.guard tr e := by
  cases h with
  | honest _ _ _ _ g => exact g
  | byzantine _ _ _ hb => rw [hh] at hb; cases hb

theorem Valid.guard_mem {c : Cfg} {tr : List Ev} (h : c.Valid tr) {e : Ev} (he : e ∈ tr) (hh : c.byz e.rep = false) :
    ∃ newer t, tr = newer ++ e :: t ∧ c.guard t e := by
  obtain ⟨newer, t, rfl⟩ := List.append_of_mem he
  exact ⟨newer, t, rfl, Valid.guard_head (Valid.suffix newer _ h) hh⟩

/-- an honest entry newer than `e` passed its guard against a history that contains `e` -/
theorem Valid.guard_mem_newer {c : Cfg} {xs t : List Ev} {e : Ev} (h : c.Valid (xs ++ e :: t)) {x : Ev} (hx : x ∈ xs)
    (hh : c.byz x.rep = false) : ∃ t', c.guard t' x ∧ e ∈ t' := by
  obtain ⟨a, b, rfl⟩ := List.append_of_mem hx
  rw [List.append_assoc] at h
  exact ⟨b ++ e :: t, Valid.guard_head (Valid.suffix a _ h) hh, List.mem_append_right _ List.mem_cons_self⟩

theorem validP_drop : ∀ (n : Nat) (tr : List Ev), c.validP tr → c.validP (tr.drop n)
  | 0, _, h => h
  | _ + 1, [], h => h
  | n + 1, _ :: tr, h => validP_drop n tr h.1

theorem Fresh.tail {c : Cfg} {e : Ev} {tr : List Ev} (h : c.Fresh (e :: tr)) : c.Fresh tr :=
  fun r v b q qp hm hr => h r v b q qp (List.mem_cons_of_mem _ hm) hr

theorem Fresh.suffix {c : Cfg} (xs s : List Ev) (h : c.Fresh (xs ++ s)) : c.Fresh s :=
  fun r v b q qp hm hr => h r v b q qp (List.mem_append_right _ hm) hr

theorem fresh_of_bound {c : Cfg} (hbound : ∀ q qp v, c.certBound q qp v = true → q = v ∧ qp = true)
    {tr : List Ev} (h : c.Valid tr) : c.Fresh tr := by
  intro r v b q qp hm hr
  obtain ⟨_, _, _, g⟩ := h.guard_mem hm hr
  exact hbound q qp v g.2.2.1

/-- the lock dominates every PRECOMMIT_VOTE of the replica, and agrees with it at equal views -/
theorem lock_dominates {c : Cfg} (hadopt : ∀ w y, c.adoptOk w y = true → w < y)
    {tr : List Ev} (h : c.Valid tr) (hf : c.Fresh tr) {r : Nat} (hr : c.byz r = false)
    {v : View} {b : Nat} {q : View} {qp : Bool} (hm : Ev.precommit r v b q qp ∈ tr) :
    ∃ w bw, lock tr r = some (w, bw) ∧ v ≤ w ∧ (v = w → b = bw) := by
  induction tr with
  | nil => cases hm
  | cons e tr ih =>
    rcases List.mem_cons.mp hm with h0 | hm'
    · subst h0
      obtain rfl : q = v := (hf r v b q qp List.mem_cons_self hr).1
      exact ⟨q, b, if_pos rfl, View.le_refl _, fun _ => rfl⟩
    · obtain ⟨w, bw, hl, h1, h2⟩ := ih h.tail hf.tail hm'
      cases e with
      | propose => exact ⟨w, bw, hl, h1, h2⟩
      | adopt r' q' b' =>
        by_cases hrr : r' = r
        · subst hrr
          -- the adopted certificate is above the old lock, hence strictly above the vote
          have ga := (h.guard_head hr).2
          rw [hl] at ga
          have hvq : v < q' := View.le_lt_trans h1 (hadopt _ _ ga)
          exact ⟨q', b', if_pos rfl, View.le_of_lt hvq, fun he => absurd (he ▸ hvq) (View.lt_irrefl _)⟩
        · exact ⟨w, bw, (if_neg hrr).trans hl, h1, h2⟩
      | precommit r' v' b' q' qp' =>
        by_cases hrr : r' = r
        · subst hrr
          obtain rfl : q' = v' := (hf r' v' b' q' qp' List.mem_cons_self hr).1
          -- the older vote's view is not above this one's, and it is not a second vote of this view
          have g := h.guard_head hr
          refine ⟨q', b', if_pos rfl, g.1 _ hm' rfl v rfl, fun hv => ?_⟩
          subst hv
          have := g.2.1 _ hm'
          simp [Ev.isPrecommitAt] at this
        · exact ⟨w, bw, (if_neg hrr).trans hl, h1, h2⟩

/-- an honest replica's lock is a PROPOSE_VOTE certificate that exists in the history -/
theorem lock_cert {c : Cfg} {tr : List Ev} (h : c.Valid tr) (hf : c.Fresh tr) {r : Nat} (hr : c.byz r = false)
    {w : View} {bw : Nat} (hl : lock tr r = some (w, bw)) : c.proposeQC tr w bw := by
  induction tr with
  | nil => cases hl
  | cons e tr ih =>
    apply c.proposeQC_mono [e]
    cases e with
    | propose => exact ih h.tail hf.tail hl
    | adopt r' q' b' =>
      by_cases hrr : r' = r
      · subst hrr
        cases (if_pos rfl).symm.trans hl
        exact (h.guard_head hr).1
      · exact ih h.tail hf.tail ((if_neg hrr).symm.trans hl)
    | precommit r' v' b' q' qp' =>
      by_cases hrr : r' = r
      · subst hrr
        cases (if_pos rfl).symm.trans hl
        have gc := (h.guard_head hr).2.2.2
        rw [(hf r' v' _ _ qp' List.mem_cons_self hr).2] at gc
        exact gc
      · exact ih h.tail hf.tail ((if_neg hrr).symm.trans hl)

/-- an honest replica precommit-votes for one block per view: whichever of two such votes is the newer one was cast
    with the other already in the history -/
theorem precommit_unique {c : Cfg} {tr : List Ev} (hv : c.Valid tr) {r : Nat} (hr : c.byz r = false)
    {v : View} {b1 b2 : Nat} {q1 q2 : View} {p1 p2 : Bool}
    (h1 : Ev.precommit r v b1 q1 p1 ∈ tr) (h2 : Ev.precommit r v b2 q2 p2 ∈ tr) : b1 = b2 := by
  obtain ⟨newer, t, rfl, g⟩ := hv.guard_mem h1 hr
  rcases List.mem_append.mp h2 with hn | ho
  · obtain ⟨t2, g2, hsub⟩ := hv.guard_mem_newer hn hr
    have := g2.2.1 _ hsub
    simp [Ev.isPrecommitAt] at this
  · rcases List.mem_cons.mp ho with h | h
    · cases h; rfl
    · have := g.2.1 _ h
      simp [Ev.isPrecommitAt] at this

theorem propose_unique {c : Cfg} {tr : List Ev} (hv : c.Valid tr) {r : Nat} (hr : c.byz r = false)
    {v : View} {b1 b2 : Nat} {j1 j2 : Option View}
    (h1 : Ev.propose r v b1 j1 ∈ tr) (h2 : Ev.propose r v b2 j2 ∈ tr) : b1 = b2 := by
  obtain ⟨newer, t, rfl, g⟩ := hv.guard_mem h1 hr
  rcases List.mem_append.mp h2 with hn | ho
  · obtain ⟨t2, g2, hsub⟩ := hv.guard_mem_newer hn hr
    have := g2.2.1 _ hsub
    simp [Ev.isProposeAt] at this
  · rcases List.mem_cons.mp ho with h | h
    · cases h; rfl
    · have := g.2.1 _ h
      simp [Ev.isProposeAt] at this

theorem proposeQC_unique {c : Cfg} (hb : 3 * c.powerOf c.byz < c.total) {tr : List Ev} (hv : c.Valid tr)
    {v : View} {b1 b2 : Nat} (h1 : c.proposeQC tr v b1) (h2 : c.proposeQC tr v b2) : b1 = b2 := by
  obtain ⟨r, _, hp, hq, hh⟩ := c.quorum_intersect hb h1 h2
  obtain ⟨j1, m1⟩ := votedPropose_iff.mp hp
  obtain ⟨j2, m2⟩ := votedPropose_iff.mp hq
  exact propose_unique hv hh m1 m2

/-- Key claim: once a PRECOMMIT_VOTE quorum for `(v1,b1)` exists in the final trace, no honest member of it
    ever propose-votes a different block at a later view. Induction over time (suffixes of the trace). -/
theorem no_conflicting_propose {c : Cfg} (hb : 3 * c.powerOf c.byz < c.total)
    (hun : ∀ w y, c.unlock w y = true → w < y) (hadopt : ∀ w y, c.adoptOk w y = true → w < y)
    (tr : List Ev) (hv : c.Valid tr) (hf : c.Fresh tr) (v1 : View) (b1 : Nat) (hq : c.precommitQC tr v1 b1) :
    ∀ (s newer : List Ev), tr = newer ++ s →
    ∀ (r : Nat) (v : View) (b : Nat) (j : Option View), c.byz r = false → votedPrecommit tr r v1 b1 = true →
      Ev.propose r v b j ∈ s → v1 < v → b = b1 := by
  intro s
  induction s with
  | nil =>
    intro _ _ _ _ _ _ _ _ hm
    cases hm
  | cons e s ih =>
    intro newer ht r v b j hr hpc hm hlt
    have ht' : tr = (newer ++ [e]) ++ s := ht.trans (List.append_cons newer e s)
    rcases List.mem_cons.mp hm with he | hm'
    · subst he
      have hvs : c.Valid (Ev.propose r v b j :: s) := Valid.suffix newer _ (ht ▸ hv)
      have hfs : c.Fresh s := Fresh.suffix _ s (ht' ▸ hf)
      have g := hvs.guard_head hr
      -- a PROPOSE_VOTE certificate of `s` above `v1` is for `b1`: one of its honest signers is in the commit quorum
      have cert : ∀ y b', c.proposeQC s y b' → v1 < y → b' = b1 := by
        intro y b' hy hlt'
        obtain ⟨r', _, hp', hq', hh'⟩ := c.quorum_intersect hb hy hq
        obtain ⟨j', hj'⟩ := votedPropose_iff.mp hp'
        exact ih _ ht' r' y b' j' hh' hq' hj' hlt'
      obtain ⟨q1, p1, hpcm⟩ := votedPrecommit_iff.mp hpc
      -- r's PRECOMMIT_VOTE for (v1,b1) is older than this vote
      have hpc_s : Ev.precommit r v1 b1 q1 p1 ∈ s := by
        rw [ht] at hpcm
        rcases List.mem_append.mp hpcm with hin | hin
        · obtain ⟨t2, g2, hsub⟩ := Valid.guard_mem_newer (ht ▸ hv) hin hr
          exact absurd (View.lt_le_trans hlt (g2.1 _ hsub rfl v rfl)) (View.lt_irrefl _)
        · exact (List.mem_cons.mp hin).resolve_left nofun
      obtain ⟨w, bw, hl, hle, heq⟩ := lock_dominates hadopt hvs.tail hfs hr hpc_s
      -- the lock is a PROPOSE_VOTE certificate at `v1`, where it is the vote's, or above
      have hbw : bw = b1 := by
        rcases hle with hlt1 | heq1
        · exact cert w bw (lock_cert hvs.tail hfs hr hl) hlt1
        · exact (heq heq1).symm
      have gs := g.2.2
      rw [hl] at gs
      rcases gs with hsame | hjust
      · rw [← hsame, hbw]
      · cases j with
        | none => cases hjust
        | some y =>
          -- a justification above the lock is above v1 too
          exact cert y b hjust.2 (View.le_lt_trans hle (hun _ _ hjust.1))
    · exact ih _ ht' r v b j hr hpc hm' hlt

/-- Agreement for fresh histories: two commit certificates in one valid history carry the same block. -/
theorem agreement_of_fresh {c : Cfg} (hb : 3 * c.powerOf c.byz < c.total)
    (hun : ∀ w y, c.unlock w y = true → w < y) (hadopt : ∀ w y, c.adoptOk w y = true → w < y)
    {tr : List Ev} (hv : c.Valid tr) (hf : c.Fresh tr)
    {v1 v2 : View} {b1 b2 : Nat} (h1 : c.precommitQC tr v1 b1) (h2 : c.precommitQC tr v2 b2) : b1 = b2 := by
  have later : ∀ (va vb : View) (ba bb : Nat), c.precommitQC tr va ba → c.precommitQC tr vb bb → va < vb → bb = ba := by
    intro va vb ba bb ha hbq hlt
    obtain ⟨r2, _, hp2, hh2⟩ := c.quorum_honest hb hbq
    obtain ⟨q2, p2, hm2⟩ := votedPrecommit_iff.mp hp2
    obtain ⟨newer, t, ht, g⟩ := hv.guard_mem hm2 hh2
    have hfr := hf r2 vb bb q2 p2 hm2 hh2
    have gc := g.2.2.2
    rw [hfr.1, hfr.2] at gc
    simp only [certQC, if_true] at gc
    obtain ⟨r, _, hp, hq, hh⟩ := c.quorum_intersect hb gc ha
    obtain ⟨j, hj⟩ := votedPropose_iff.mp hp
    exact no_conflicting_propose hb hun hadopt tr hv hf va ba ha t (newer ++ [Ev.precommit r2 vb bb q2 p2])
      (ht.trans (List.append_cons ..)) r vb bb j hh hq hj hlt
  rcases View.lt_or_ge v1 v2 with h | h
  · exact (later v1 v2 b1 b2 h1 h2 h).symm
  · rcases h with h | h
    · exact later v2 v1 b2 b1 h2 h1 h
    · subst h
      obtain ⟨r, _, hp, hq, hh⟩ := c.quorum_intersect hb h1 h2
      obtain ⟨qa, pa, hma⟩ := votedPrecommit_iff.mp hp
      obtain ⟨qb, pb, hmb⟩ := votedPrecommit_iff.mp hq
      exact precommit_unique hv hh hma hmb

/-- Agreement, parametric in the three code decisions. -/
theorem agreement_param (c : Cfg) (hb : 3 * c.powerOf c.byz < c.total)
    (hun : ∀ w y, c.unlock w y = true → w < y) (hadopt : ∀ w y, c.adoptOk w y = true → w < y)
    (hbound : ∀ q qp v, c.certBound q qp v = true → q = v ∧ qp = true)
    (tr : List Ev) (hv : c.Valid tr)
    (v1 v2 : View) (b1 b2 : Nat) (h1 : c.precommitQC tr v1 b1) (h2 : c.precommitQC tr v2 b2) : b1 = b2 :=
  agreement_of_fresh hb hun hadopt hv (fresh_of_bound hbound hv) h1 h2

end Cfg
end Canopy.Bft
