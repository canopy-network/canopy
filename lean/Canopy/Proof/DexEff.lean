import Canopy.Proof.DexPoints
/-! The holding pool and what goes into it with a DEX order or deposit (`holdAmt`, `holding_holdIn`). Then the effects of
the DEX functions (`Eff`) and of the sell-order functions (`SellEff`) on the holding pool, the stored batches and the pool
tables, in the form needed for the run-level invariants `holding_eq` and `points_sum` (C20). Everything that runs inside
`HandleDexBatch` is decomposed once into account moves, holding-pool debits and rewrites of the liquidity pool (`Moves`,
`moves_*`; `DepEff` for a pass of the deposit logic): that gives its frame for the sell-order world and its effect on the
DEX world together. Core Lean only. -/
namespace Canopy.Dex

def holdAmt (s : State) (c : Nat) : Nat := (getPool s (holdingId c)).amount

theorem holdAmt_congr {s s' : State} (h : s'.pools = s.pools) (c : Nat) : holdAmt s' c = holdAmt s c := by
  simp [holdAmt, getPool_congr h]

theorem holdAmt_poolSub {s s' : State} {c n : Nat} (h : poolSub s (holdingId c) n = .ok s') :
    holdAmt s' c + n = holdAmt s c := by
  obtain ⟨hle, rfl⟩ := poolSub_ok h
  unfold holdAmt; rw [getPool_setPool_self]; simp only; omega

theorem getBatch_setNext_self (s : State) (c : Nat) (b : Batch) (hb : b ≠ {}) :
    getBatch (setNext s c b) c false = b := by
  unfold getBatch setNext
  simp [AM.get?_set_self, hb]

theorem holding_holdIn {s s1 : State} {a : Bytes} {c n : Nat} (b : Batch) (h1 : accountSub s a n = .ok s1)
    (hfit : holdAmt s c + n < U64) :
    holdAmt (setNext (poolAdd s1 (holdingId c) n) c b) c = holdAmt s c + n ∧
    (setNext (poolAdd s1 (holdingId c) n) c b).locked = s.locked := by
  refine ⟨?_, (accountsOnly_accountSub h1).locked⟩
  show (getPool (poolAdd s1 (holdingId c) n) (holdingId c)).amount = _
  rw [poolAdd_self]
  have := holdAmt_congr (accountsOnly_accountSub h1).pools c
  unfold holdAmt at this hfit ⊢
  rw [this, Nat.mod_eq_of_lt hfit]

def liqAmt (s : State) (c : Nat) : Nat := (getPool s (liquidityId c)).amount

theorem liqAmt_congr {s s' : State} (h : s'.pools = s.pools) (c : Nat) : liqAmt s' c = liqAmt s c := by
  simp [liqAmt, getPool_congr h]

theorem liqAmt_poolSub {s s' : State} {c n : Nat} (h : poolSub s (liquidityId c) n = .ok s') : liqAmt s' c + n = liqAmt s c := by
  obtain ⟨hle, rfl⟩ := poolSub_ok h
  unfold liqAmt; rw [getPool_setPool_self]; simp only; omega

/-- a pool is well formed: Σ points = total (a `uint64`) and the balance is a `uint64` -/
structure PoolOk (p : Pool) : Prop where
  pts : PointsOk p
  amt : p.amount < U64

def PInv (s : State) : Prop := ∀ id, PoolOk (getPool s id)

theorem poolOk_empty : PoolOk {} := ⟨⟨rfl, by decide⟩, by decide⟩

theorem poolOk_amount {p : Pool} (hp : PoolOk p) {a : Nat} (ha : a < U64) : PoolOk { p with amount := a } :=
  ⟨⟨hp.pts.sum, hp.pts.fits⟩, ha⟩

theorem poolOk_sub {p : Pool} (hp : PoolOk p) (n : Nat) : PoolOk { p with amount := p.amount - n } :=
  poolOk_amount hp (Nat.lt_of_le_of_lt (Nat.sub_le _ _) hp.amt)

theorem pinv_congr {s s' : State} (h : s'.pools = s.pools) (hp : PInv s) : PInv s' :=
  fun id => by rw [getPool_congr h]; exact hp id

theorem pinv_setPool {s : State} {id : Nat} {p : Pool} (hp : PInv s) (hok : PoolOk p) : PInv (setPool s id p) := by
  intro id'
  by_cases h : id' = id
  · subst h; rw [getPool_setPool_self]; exact hok
  · rw [getPool_setPool_other h]; exact hp id'

/-- what an inner DEX function may do: it leaves the stored batches and the height alone, debits the holding pool of
chain `c` by exactly `debit`, leaves the other holding pools alone, and keeps every pool well formed (the root chain id,
which `HandleDexBatch` reads when nested, stays too) -/
structure Eff (c : Nat) (s s' : State) (debit : Nat) : Prop where
  next : s'.next = s.next
  locked : s'.locked = s.locked
  height : s'.height = s.height
  root : s'.root = s.root
  hold : holdAmt s' c + debit = holdAmt s c
  holdOther : ∀ c', c' ≤ maxChainId → c' ≠ c → holdAmt s' c' = holdAmt s c'
  pinv : PInv s → PInv s'

theorem Eff.refl (c : Nat) (s : State) : Eff c s s 0 :=
  ⟨rfl, rfl, rfl, rfl, rfl, fun _ _ _ => rfl, id⟩

theorem Eff.trans {c : Nat} {a b d : State} {m n : Nat} (h1 : Eff c a b m) (h2 : Eff c b d n) : Eff c a d (m + n) :=
  ⟨h2.next.trans h1.next, h2.locked.trans h1.locked, h2.height.trans h1.height, h2.root.trans h1.root,
   by have := h1.hold; have := h2.hold; omega,
   fun c' h hne => (h2.holdOther c' h hne).trans (h1.holdOther c' h hne), fun h => h2.pinv (h1.pinv h)⟩

theorem eff_of_pools_eq {c : Nat} {s s' : State} (hn : s'.next = s.next) (hl : s'.locked = s.locked) (hh : s'.height = s.height)
    (hr : s'.root = s.root) (hp : s'.pools = s.pools) : Eff c s s' 0 :=
  ⟨hn, hl, hh, hr, by simp [holdAmt_congr hp], fun c' _ _ => holdAmt_congr hp c', pinv_congr hp⟩

theorem eff_of_accountsOnly {c : Nat} {s s' : State} (h : AccountsOnly s s') : Eff c s s' 0 :=
  eff_of_pools_eq h.next h.locked h.height h.root h.pools

theorem eff_accountAdd {c : Nat} {s s' : State} {a : Bytes} {n : Nat} (h : accountAdd s a n = .ok s') : Eff c s s' 0 :=
  eff_of_accountsOnly (accountsOnly_accountAdd h)

theorem eff_accountSub {c : Nat} {s s' : State} {a : Bytes} {n : Nat} (h : accountSub s a n = .ok s') : Eff c s s' 0 :=
  eff_of_accountsOnly (accountsOnly_accountSub h)

theorem eff_setPool_other {c : Nat} (s : State) (id : Nat) (p : Pool) (hid : ∀ c', c' ≤ maxChainId → holdingId c' ≠ id)
    (hc : c ≤ maxChainId) (hok : PInv s → PoolOk p) : Eff c s (setPool s id p) 0 :=
  ⟨rfl, rfl, rfl, rfl,
   by unfold holdAmt; rw [getPool_setPool_other (hid c hc)]; rfl,
   fun c' h _ => by unfold holdAmt; rw [getPool_setPool_other (hid c' h)],
   fun hp => pinv_setPool hp (hok hp)⟩

theorem eff_setPool_liq {c : Nat} (s : State) (p : Pool) (hc : c ≤ maxChainId) (hok : PInv s → PoolOk p) :
    Eff c s (setPool s (liquidityId c) p) 0 :=
  eff_setPool_other s _ p (fun _ h => holdingId_ne_liq hc h) hc hok

theorem eff_poolSub_hold {c : Nat} {s s' : State} {n : Nat} (hc : c ≤ maxChainId)
    (h : poolSub s (holdingId c) n = .ok s') : Eff c s s' n := by
  have hh := holdAmt_poolSub h
  obtain ⟨_, rfl⟩ := poolSub_ok h
  refine ⟨rfl, rfl, rfl, rfl, hh, ?_, ?_⟩
  · intro c' h' hne; unfold holdAmt
    rw [getPool_setPool_other (fun e => hne (holdingId_inj hc h' e))]
  · intro hp; exact pinv_setPool hp (poolOk_sub (hp _) n)

/-- What a function that runs inside `HandleDexBatch` for chain `c` does to the state: the sell-order world is untouched,
and the DEX world changes by `Eff` with holding debit `out`. `escrow_eq` needs the first with no assumption; the second
needs `G`, the well-formedness of the arguments (`PInv`, `PctOk`, `uint64` ledgers). The inner lemmas leave `G` open and
take those facts as `G → …`; the lemmas for the steps of `HandleDexBatch` name them as their `G`, so that a caller reads
`.frame` outright (`frame_remoteDexBatch`) and `.eff` with the facts in hand (`dinv_*`). -/
structure Moves (G : Prop) (c : Nat) (s s' : State) (out : Nat) : Prop where
  frame : SellFrame s s'
  eff : G → Eff c s s' out

variable {G : Prop}

namespace Moves
variable {c : Nat}

theorem refl (s : State) : Moves G c s s 0 := ⟨SellFrame.refl s, fun _ => Eff.refl c s⟩

theorem trans {a b d : State} {m n : Nat} (h1 : Moves G c a b m) (h2 : Moves G c b d n) : Moves G c a d (m + n) :=
  ⟨h1.frame.trans h2.frame, fun g => (h1.eff g).trans (h2.eff g)⟩

theorem cast {a b : State} {m n : Nat} (h : Moves G c a b m) (e : m = n) : Moves G c a b n := e ▸ h

theorem accountAdd {s s' : State} {a : Bytes} {n : Nat} (h : accountAdd s a n = .ok s') : Moves G c s s' 0 :=
  ⟨frame_accountAdd h, fun _ => eff_accountAdd h⟩

theorem liq (s : State) (p : Pool) (hc : c ≤ maxChainId) (hok : G → PInv s → PoolOk p) :
    Moves G c s (setPool s (liquidityId c) p) 0 :=
  ⟨frame_setPool (liquidityId_lt hc), fun g => eff_setPool_liq s p hc (hok g)⟩

theorem liqAdd (s : State) (n : Nat) (hc : c ≤ maxChainId) : Moves G c s (poolAdd s (liquidityId c) n) 0 :=
  liq s _ hc fun _ hp => poolOk_amount (hp _) (Nat.mod_lt _ (by decide))

theorem liqSub {s s' : State} {n : Nat} (hc : c ≤ maxChainId) (h : poolSub s (liquidityId c) n = .ok s') :
    Moves G c s s' 0 := by
  obtain ⟨_, rfl⟩ := poolSub_ok h
  exact liq s _ hc fun _ hp => poolOk_sub (hp _) n

theorem holdSub {s s' : State} {n : Nat} (hc : c ≤ maxChainId) (h : poolSub s (holdingId c) n = .ok s') :
    Moves G c s s' n :=
  ⟨frame_poolSub (holdingId_lt hc) h, fun _ => eff_poolSub_hold hc h⟩

theorem persist (s : State) (hc : c ≤ maxChainId) (persist : Bool) {p : Pool} (hok : G → PoolOk p) :
    Moves G c s (if persist then setPool s (liquidityId c) p else s) 0 := by
  split
  · exact liq _ _ hc fun g _ => hok g
  · exact refl _

end Moves

theorem moves_withdrawPay {c tx ty T : Nat} {isLocal : Bool} {ws : List Withdraw} {st st' : WState}
    (h : withdrawPay tx ty T isLocal ws st = .ok st') : Moves G c st.s st'.s 0 := by
  induction ws generalizing st with
  | nil => cases h; exact Moves.refl _
  | cons w ws ih =>
    rcases withdrawPay_cons h with ⟨_, h⟩ | ⟨i, s1, n, _, h1, h⟩
    · exact ih h
    · exact (Moves.accountAdd h1).trans (ih h)

structure LOk (l : Ledger) : Prop where
  pool : PoolOk l.p
  x64 : l.x < U64
  y64 : l.y < U64

theorem LOk.state {l : Ledger} (h : LOk l) (s : State) : LOk { l with s := s } := ⟨h.pool, h.x64, h.y64⟩

/-- `handleBatchWithdraw`: no effect on holding pools or stored batches; the ledger it leaves is well formed -/
theorem moves_batchWithdraw {s : State} {ws : List Withdraw} {c x y : Nat} {isLocal : Bool} {p0 : Option Pool} {persist : Bool}
    {l : Ledger} (hc : c ≤ maxChainId) (h : batchWithdraw s ws c x y isLocal p0 persist = .ok l) (hw : G → PctOk ws)
    (hl : G → LOk { s, p := p0.getD (getPool s (liquidityId c)), x, y }) : Moves G c s l.s 0 ∧ (G → LOk l) := by
  have hpts := fun g => points_batchWithdraw (hw g) (hl g).pool.pts h
  rcases batchWithdraw_ok rfl h with ⟨_, rfl⟩ | ⟨T, _, ⟨_, hp, hs, hx, hy⟩ | ⟨_, st, hst, _, hp, hs, hx, hy⟩⟩
  · exact ⟨Moves.refl _, hl⟩
  · have hok : G → PoolOk l.p := fun g => ⟨hpts g, by rw [hp]; exact (hl g).pool.amt⟩
    rw [hs]
    exact ⟨Moves.persist s hc _ hok, fun g => ⟨hok g, by rw [hx]; exact (hl g).x64, by rw [hy]; exact (hl g).y64⟩⟩
  · have hok : G → PoolOk l.p := fun g => ⟨hpts g, by rw [hp]; dsimp only; split <;> exact subU64_lt⟩
    rw [hs]
    exact ⟨(moves_withdrawPay hst).trans (Moves.persist _ hc _ hok), fun g => ⟨hok g,
      by rw [hx]; exact subU64_lt, by rw [hy]; exact subU64_lt⟩⟩

/-- the local ledger `x` of the origin role is the liquidity pool's balance, before and after -/
theorem batchWithdraw_track {s : State} {ws : List Withdraw} {c x y : Nat} {l : Ledger}
    (hx : x = liqAmt s c) (h : batchWithdraw s ws c x y true none true = .ok l) : l.x = liqAmt l.s c := by
  rcases batchWithdraw_ok rfl h with ⟨_, rfl⟩ | ⟨T, _, ⟨_, hl, hs, hx', _⟩ | ⟨_, st, _, _, hl, hs, hx', _⟩⟩
  · exact hx
  · rw [hs, hx', if_pos rfl]; unfold liqAmt; rw [getPool_setPool_self, hl]; exact hx
  · rw [hs, hx', if_pos rfl]; unfold liqAmt; rw [getPool_setPool_self, hl]; simp only [↓reduceIte]

theorem sum_append_singleton (l : List Nat) (n : Nat) : (l ++ [n]).sum = l.sum + n := by
  simp

def depSum (ds : List Deposit) : Nat := (ds.map (·.amount)).sum

theorem depSum_cons (d : Deposit) (ds : List Deposit) : depSum (d :: ds) = d.amount + depSum ds := rfl

theorem depSum_append_one (l : List Deposit) (d : Deposit) : depSum (l ++ [d]) = depSum l + d.amount := by
  unfold depSum
  rw [List.map_append]
  exact sum_append_singleton _ _

/-- Σ amounts of the deposits flagged `b` -/
def flagSum (b : Bool) : List (Deposit × Bool) → Nat
  | [] => 0
  | (d, f) :: zs => (if f = b then d.amount else 0) + flagSum b zs

theorem flagSum_split (zs : List (Deposit × Bool)) : flagSum true zs + flagSum false zs = depSum (zs.map (·.1)) := by
  induction zs with
  | nil => rfl
  | cons e zs ih =>
    obtain ⟨d, f⟩ := e
    cases f <;> simp [flagSum, depSum] at ih ⊢ <;> omega

theorem sumDeposits_exact {ds : List Deposit} {acc r : Nat} (h : sumDeposits ds acc = .ok r) : r = acc + depSum ds := by
  induction ds generalizing acc with
  | nil => simp [sumDeposits] at h; simp [depSum, h]
  | cons d ds ih =>
    simp only [sumDeposits, ite_error_eq_ok] at h
    rw [ih h.2, addUint64_exact h.1]
    simp [depSum]; omega

/-- PASS 1: the flags it appends, what it refunds (local side only), what it accepts -/
theorem moves_depositPass1 {p : Pool} {c : Nat} {isLocal : Bool} (hc : c ≤ maxChainId) {ds : List Deposit} {st st' : P1}
    (h : depositPass1 p c isLocal ds st = .ok st') :
    ∃ fl, st'.accepted = st.accepted ++ fl ∧ fl.length = ds.length ∧
      Moves G c st.s st'.s (if isLocal then flagSum false (ds.zip fl) else 0) ∧
      st'.total = st.total + flagSum true (ds.zip fl) := by
  induction ds generalizing st with
  | nil => simp [depositPass1] at h; subst h; exact ⟨[], by simp, rfl, by simpa [flagSum] using Moves.refl _, by simp [flagSum]⟩
  | cons d ds ih =>
    rcases depositPass1_cons h with ⟨s1, hs1, h⟩ | ⟨hov, st1, hs, ha, ht, h⟩
    · -- refused at the cap: refunded on the local side
      obtain ⟨fl, hacc, hlen, heff, htot⟩ := ih h
      refine ⟨false :: fl, by simp [hacc], by simp [hlen], ?_, by simpa [flagSum] using htot⟩
      rcases hs1 with ⟨hl, s0, h0, h1⟩ | ⟨hl, rfl⟩
      · have e := ((Moves.holdSub hc h0).trans (Moves.accountAdd h1)).trans heff
        simp only [hl, if_true] at e ⊢
        exact e.cast (by simp [flagSum])
      · simpa [hl] using heff
    · obtain ⟨fl, hacc, hlen, heff, htot⟩ := ih h
      rw [hs] at heff
      refine ⟨true :: fl, by simp [hacc, ha], by simp [hlen], ?_, ?_⟩
      · cases isLocal <;> simp [flagSum] at heff ⊢ <;> exact heff
      · rw [ht, addUint64_exact hov] at htot
        simp [flagSum] at htot ⊢; omega

theorem moves_depositLocal {s : State} {p : Pool} {c : Nat} {d : Deposit} {isLocal : Bool} {r : State × Pool}
    (hc : c ≤ maxChainId) (hp : G → PoolOk p) (h : depositLocal s p c d isLocal = .ok r) :
    Moves G c s r.1 (if isLocal then d.amount else 0) ∧ (G → PoolOk r.2) := by
  rcases depositLocal_ok h with ⟨hl, h1, hr⟩ | ⟨hl, rfl⟩
  · rw [hr, hl]; exact ⟨Moves.holdSub hc h1, fun g => poolOk_amount (hp g) (addUint64_lt)⟩
  · rw [hl]; exact ⟨Moves.refl _, hp⟩

theorem moves_depositPass2 {dl td c : Nat} {isLocal : Bool} (hc : c ≤ maxChainId) {zs : List (Deposit × Bool)} {st st' : P2}
    (h : depositPass2 dl td c isLocal zs st = .ok st') (hp : G → PoolOk st.p) :
    Moves G c st.s st'.s (if isLocal then flagSum true zs else 0) ∧ st'.x = st.x + flagSum true zs ∧
    (st.x < U64 → st'.x < U64) ∧ (G → PoolOk st'.p) := by
  induction zs generalizing st with
  | nil =>
    simp [depositPass2] at h; subst h
    exact ⟨by simpa [flagSum] using Moves.refl _, by simp [flagSum], id, hp⟩
  | cons e zs ih =>
    obtain ⟨d, acc⟩ := e
    cases acc
    · unfold depositPass2 at h
      obtain ⟨e1, e2, e3, e4⟩ := ih h hp
      exact ⟨by simpa [flagSum] using e1, by simpa [flagSum] using e2, e3, e4⟩
    · obtain ⟨p1, sp, hp1, hsp, hov, h⟩ := depositPass2_cons h
      have hp1ok : G → PoolOk p1 := fun g => by
        obtain ⟨hpts, hamt⟩ := points_addPoints (hp g).pts (safeMulDiv_lt) hp1
        exact ⟨hpts, by rw [hamt]; exact (hp g).amt⟩
      obtain ⟨el, hpl⟩ := moves_depositLocal hc hp1ok hsp
      obtain ⟨e1, e2, e3, e4⟩ := ih h hpl
      refine ⟨?_, ?_, fun _ => e3 (addUint64_lt), e4⟩
      · have := el.trans e1
        cases isLocal <;> simp [flagSum] at this ⊢ <;> exact this
      · rw [e2]; dsimp only; rw [addUint64_exact hov]; simp [flagSum]; omega

theorem moves_mintDeposits {p1 : P1} {p : Pool} {ds : List Deposit} {c x y : Nat} {isLocal persist : Bool} {l : Ledger}
    (hc : c ≤ maxChainId) (hp : G → PoolOk p) (h : mintDeposits p1 p ds c x y isLocal persist = .ok l) :
    Moves G c p1.s l.s (if isLocal then flagSum true (ds.zip p1.accepted) else 0) ∧ (G → PoolOk l.p) ∧
    l.x = x + flagSum true (ds.zip p1.accepted) ∧ (x < U64 → l.x < U64) ∧ l.y = y := by
  obtain ⟨lp, dl, p2, h1, h2, h3, h4, hs, hx, hy⟩ := mintDeposits_ok h
  obtain ⟨e1, e2, e3, e4⟩ := moves_depositPass2 hc h3 fun g =>
    have ⟨hlp, hlpa⟩ := points_initDead (hp g).pts h1
    ⟨hlp, hlpa ▸ (hp g).amt⟩
  have hok : G → PoolOk l.p := fun g =>
    have ha := points_addPoints (e4 g).pts (n := _ - _) (Nat.lt_of_le_of_lt (Nat.sub_le _ _) (mapErr_ldp_lt h2)) h4
    ⟨ha.1, ha.2 ▸ (e4 g).amt⟩
  rw [hs, hx]
  exact ⟨(e1.trans (Moves.persist _ hc _ hok)).cast (by simp), hok, e2, e3, hy⟩

/-- a pass of the deposit logic over a ledger (`l` before, `r` after): on the local side, with both reserves non-zero, it
debits the holding pool by exactly `amt`; on the remote side it debits nothing; non-zero reserves stay non-zero; with a
zero reserve nothing happens at all (the caller then fails in `HandleDexBatchOrders`). What rests on the ledger being well
formed stands under the guard of `Moves`. -/
structure DepEff (G : Prop) (c : Nat) (isLocal : Bool) (l r : Ledger) (amt : Nat) : Prop where
  eff : ∃ D, Moves G c l.s r.s D ∧ (isLocal = false → D = 0) ∧ (G → isLocal = true → l.x ≠ 0 → l.y ≠ 0 → D = amt)
  ok : G → LOk r
  pos : G → l.x ≠ 0 → l.y ≠ 0 → r.x ≠ 0 ∧ r.y ≠ 0
  zero : (l.x = 0 ∨ l.y = 0) → r = l

theorem DepEff.same {c : Nat} {isLocal : Bool} {l : Ledger} {amt : Nat} (hl : G → LOk l) (h : l.x ≠ 0 → l.y ≠ 0 → amt = 0) :
    DepEff G c isLocal l l amt :=
  ⟨⟨0, Moves.refl _, fun _ => rfl, fun _ _ hx hy => (h hx hy).symm⟩, hl, fun _ hx hy => ⟨hx, hy⟩, fun _ => rfl⟩

/-- with both reserves non-zero a pass is its effect on the state: the local side debits `amt`, the remote side nothing -/
theorem DepEff.of_pos {c : Nat} {isLocal : Bool} {l r : Ledger} {amt : Nat} (hx : l.x ≠ 0) (hy : l.y ≠ 0)
    (e : Moves G c l.s r.s (if isLocal then amt else 0)) (hr : G → LOk r) (hrx : r.x ≠ 0) (hry : r.y ≠ 0) :
    DepEff G c isLocal l r amt :=
  ⟨⟨_, e, fun hf => by rw [hf]; rfl, fun _ ht _ _ => by rw [ht]; rfl⟩, hr, fun _ _ _ => ⟨hrx, hry⟩,
    fun hz => (hz.elim hx hy).elim⟩

theorem DepEff.trans {c : Nat} {isLocal : Bool} {l r t : Ledger} {m n : Nat} (h1 : DepEff G c isLocal l r m)
    (h2 : DepEff G c isLocal r t n) : DepEff G c isLocal l t (m + n) := by
  obtain ⟨D1, e1, f1, g1⟩ := h1.eff
  obtain ⟨D2, e2, f2, g2⟩ := h2.eff
  refine ⟨⟨_, e1.trans e2, fun hf => by rw [f1 hf, f2 hf], fun g ht hx hy => ?_⟩, h2.ok, fun g hx hy => ?_, fun hz => ?_⟩
  · rw [g1 g ht hx hy, g2 g ht (h1.pos g hx hy).1 (h1.pos g hx hy).2]
  · exact h2.pos g (h1.pos g hx hy).1 (h1.pos g hx hy).2
  · have := h1.zero hz
    subst this
    exact h2.zero hz

theorem moves_batchDepositCore {s : State} {ds : List Deposit} {c x y : Nat} {isLocal : Bool} {p : Pool} {persist : Bool}
    {l : Ledger} (hc : c ≤ maxChainId) (hl : G → LOk { s, p, x, y })
    (h : batchDepositCore s ds c x y isLocal (some p) persist = .ok l) : DepEff G c isLocal { s, p, x, y } l (depSum ds) := by
  rcases batchDepositCore_ok rfl h with ⟨rfl, hcase⟩ | ⟨raw, p1, hraw, hnz, hp1, hcase⟩
  · refine DepEff.same hl fun (hx : x ≠ 0) (hy : y ≠ 0) => ?_
    rcases hcase with rfl | ⟨raw, hraw, hz⟩
    · rfl
    · have := sumDeposits_exact hraw
      omega
  · have hx : x ≠ 0 := fun h0 => hnz (.inr (.inl h0))
    have hy : y ≠ 0 := fun h0 => hnz (.inr (.inr h0))
    obtain ⟨fl, hacc, hlen, heff, htot⟩ := moves_depositPass1 hc hp1
    simp only [List.nil_append] at hacc
    simp only [Nat.zero_add] at htot
    -- refused and accepted deposits together are the whole batch
    have hsplit := flagSum_split (ds.zip fl)
    rw [List.map_fst_zip (Nat.le_of_eq hlen.symm)] at hsplit
    rcases hcase with ⟨ht0, rfl⟩ | ⟨_, hm⟩
    · refine DepEff.of_pos hx hy (heff.cast ?_) (fun g => (hl g).state _) hx hy
      rw [← hsplit, ← htot, ht0, Nat.zero_add]
    · obtain ⟨e1, e2, e3, e4, e5⟩ := moves_mintDeposits hc (fun g => (hl g).pool) hm
      rw [hacc] at e1 e3
      refine DepEff.of_pos hx hy ((heff.trans e1).cast ?_) (fun g => ⟨e2 g, e4 (hl g).x64, e5 ▸ (hl g).y64⟩)
        (fun h0 => hx (Nat.eq_zero_of_add_eq_zero_right (e3.symm.trans h0))) (e5 ▸ hy)
      cases isLocal
      · rfl
      · exact hsplit.symm ▸ Nat.add_comm _ _

/-- a holder who burns `m` of `P > m` points is paid less than the reserve `r`: something of it stays -/
theorem paid_lt_reserve {r m P : Nat} (hr : r ≠ 0) (hr64 : r < U64) (hm : m < P) :
    subU64 r ((0 + safeMulDiv (safeMulDiv r m P) m m) % U64) ≠ 0 := by
  have := share_lt (Nat.pos_of_ne_zero hr) hm
  rw [Nat.zero_add, Nat.mod_eq_of_lt (safeMulDiv_lt), subU64_eq (Nat.le_of_lt this) hr64]
  omega

/-- the forced eviction (a single 100% withdrawal of one holder) leaves both ledgers positive -/
theorem evict_positive {s : State} {a : Bytes} {c x y : Nat} {isLocal : Bool} {p : Pool} {l : Ledger}
    (hp : PointsOk p) (hx : x ≠ 0) (hx64 : x < U64) (hy : y ≠ 0) (hy64 : y < U64)
    (h : batchWithdraw s [{ percent := 100, addr := a, id := [] }] c x y isLocal (some p) false = .ok l) :
    l.x ≠ 0 ∧ l.y ≠ 0 := by
  rcases batchWithdraw_ok (pIn := p) rfl h with ⟨hws, _⟩ | ⟨T, hT, ⟨_, _, _, hx', hy'⟩ | ⟨hT0, st, hst, htot, _, _, hx', hy'⟩⟩
  · cases hws
  · rw [hx', hy']; exact ⟨hx, hy⟩
  · rw [hx', hy']
    -- the two passes over the single withdrawal
    cases hi : lastIdx (dropZero p.points) a with
    | none =>
      simp only [withdrawTotal, hi, Except.ok.injEq] at hT
      exact absurd (Or.inl hT.symm) hT0
    | some i =>
      simp only [withdrawTotal, hi, ite_error_eq_ok, Except.ok.injEq] at hT
      obtain ⟨hov, hT⟩ := hT
      have hm : T = safeMulDiv (ptsAt (dropZero p.points) i) 100 100 := by
        rw [← hT, addUint64_exact hov]; simp
      simp only [withdrawPay, hi, bind_eq_ok, Except.ok.injEq] at hst
      obtain ⟨s1, _, rfl⟩ := hst
      dsimp only at htot ⊢
      rw [← hm] at htot ⊢
      have hle : T ≤ ptsAt (dropZero p.points) i := by rw [hm]; exact safeMulDiv_percent_le _ _ (Nat.le_refl _)
      have hheld := ptsAt_le_sum (dropZero p.points) i
      have hsum : ptsSum (dropZero p.points) = p.total := by rw [ptsSum_dropZero]; exact hp.sum
      have hfit := hp.fits
      have hTP : T < p.total := by
        rw [subU64_eq (hsum ▸ Nat.le_trans hle hheld) hfit] at htot
        exact Nat.lt_of_sub_ne_zero htot
      exact ⟨paid_lt_reserve hx hx64 hTP, paid_lt_reserve hy hy64 hTP⟩

theorem moves_cappedEvict {c : Nat} {isLocal : Bool} (hc : c ≤ maxChainId) {nc : Newcomer} {l : Ledger} {low : Bytes × Nat}
    {r : Ledger × Option (Bytes × Nat)} (hl : G → LOk l) (hnc : nc.amount = depSum nc.deposits)
    (h : cappedEvict c isLocal nc l low = .ok r) : DepEff G c isLocal l r.1 nc.amount := by
  obtain ⟨⟨ts, hts⟩, hcase⟩ := cappedEvict_ok h
  -- the points the newcomer would get were computed: neither reserve is zero
  have hx0 : l.x ≠ 0 := by
    intro hx
    rw [ldp_zero_reserve (Or.inl (by rw [hx, safeMulDiv_zero_left]; rfl))] at hts
    cases hts
  have hy0 : l.y ≠ 0 := by
    intro hy
    rw [ldp_zero_reserve (Or.inr (by rw [hy, safeMulDiv_zero_left]; rfl))] at hts
    cases hts
  rcases hcase with ⟨s1, hs1, hr⟩ | ⟨l1, h2, h3⟩
  · -- rejected: refunded on the local side
    rw [hr]
    refine DepEff.of_pos hx0 hy0 ?_ (fun g => (hl g).state _) hx0 hy0
    rcases hs1 with ⟨hloc, a, s0, h0, h1⟩ | ⟨hloc, rfl⟩
    · rw [hloc]
      exact (Moves.holdSub hc h0).trans (Moves.accountAdd h1)
    · rw [hloc]
      exact Moves.refl _
  · -- evicted: the 100% withdrawal of the lowest holder leaves both reserves positive, then the newcomer's pass runs
    obtain ⟨e1, hl1⟩ := moves_batchWithdraw (p0 := some l.p) hc h2 (fun _ => pctOk_singleton (Nat.le_refl _)) hl
    have hp1 : G → l1.x ≠ 0 ∧ l1.y ≠ 0 := fun g => evict_positive (hl g).pool.pts hx0 (hl g).x64 hy0 (hl g).y64 h2
    have hd := moves_batchDepositCore hc hl1 h3
    obtain ⟨D, e, hD0, hD1⟩ := hd.eff
    refine ⟨⟨0 + D, e1.trans e, fun hf => by rw [hD0 hf], fun g ht _ _ => ?_⟩, hd.ok,
      fun g _ _ => hd.pos g (hp1 g).1 (hp1 g).2, fun hz => (hz.elim hx0 hy0).elim⟩
    rw [hD1 g ht (hp1 g).1 (hp1 g).2, Nat.zero_add, hnc]

theorem moves_cappedStep {c : Nat} {isLocal : Bool} (hc : c ≤ maxChainId) {nc : Newcomer} {l : Ledger} {low : Option (Bytes × Nat)}
    {r : Ledger × Option (Bytes × Nat)} (hl : G → LOk l) (hnc : nc.amount = depSum nc.deposits)
    (h : cappedStep c isLocal nc l low = .ok r) : DepEff G c isLocal l r.1 nc.amount := by
  rcases cappedStep_ok h with h1 | ⟨low', h⟩
  · rw [hnc]
    exact moves_batchDepositCore hc hl h1
  · exact moves_cappedEvict hc hl hnc h

def ncSum (ncs : List Newcomer) : Nat := (ncs.map (·.amount)).sum

def ncPairsSum (nc : List (Bytes × Newcomer)) : Nat := AM.wsum (fun _ (v : Newcomer) => v.amount) nc

theorem ncSum_map_snd (ncs : List (Bytes × Newcomer)) : ncSum (ncs.map (·.2)) = ncPairsSum ncs := by
  induction ncs with
  | nil => rfl
  | cons e m ih => obtain ⟨k, v⟩ := e; simp [ncSum, ncPairsSum, AM.wsum] at ih ⊢; omega

theorem classify_spec {prov : List Bytes} {ds inc : List Deposit} {nc : List (Bytes × Newcomer)}
    {r : List Deposit × List (Bytes × Newcomer)} (h : classify prov ds inc nc = .ok r)
    (hnc : ∀ e ∈ nc, e.2.amount = depSum e.2.deposits) :
    depSum r.1 + ncPairsSum r.2 = depSum inc + ncPairsSum nc + depSum ds ∧ ∀ e ∈ r.2, e.2.amount = depSum e.2.deposits := by
  induction ds generalizing inc nc with
  | nil => cases h; exact ⟨rfl, hnc⟩
  | cons d ds ih =>
    unfold classify at h
    split at h
    · obtain ⟨e1, e2⟩ := ih h hnc
      refine ⟨?_, e2⟩
      rw [depSum_append_one] at e1
      rw [depSum_cons]; omega
    · simp only [ite_error_eq_ok] at h
      obtain ⟨hov, h⟩ := h
      have hex := addUint64_exact hov
      cases hg : AM.get? nc d.addr with
      | none =>
        simp only [hg, Option.getD_none] at h hex
        obtain ⟨e1, e2⟩ := ih h (by
          intro e he
          rcases List.mem_append.mp he with he | he
          · exact hnc e he
          · cases List.mem_singleton.mp he; exact hex.trans (Nat.add_comm _ _))
        refine ⟨?_, e2⟩
        simp only [ncPairsSum] at e1 ⊢
        rw [AM.wsum_append_one] at e1
        dsimp only at e1 hex
        rw [depSum_cons]; omega
      | some cur =>
        simp only [hg, Option.getD_some] at h hex
        have hcur : cur.amount = depSum cur.deposits := hnc (d.addr, cur) (AM.mem_of_get? nc d.addr cur hg)
        obtain ⟨e1, e2⟩ := ih h (by
          intro e he
          rcases AM.mem_set _ _ _ _ he with he | he
          · subst he; dsimp only; rw [hex, depSum_append_one, hcur]
          · exact hnc e he)
        refine ⟨?_, e2⟩
        have hw := AM.wsum_set_old (fun _ (v : Newcomer) => v.amount) nc d.addr
          { amount := (addUint64 cur.amount d.amount).1, deposits := cur.deposits ++ [d] } cur hg
        simp only [ncPairsSum] at e1 ⊢
        dsimp only at hw
        rw [depSum_cons]; omega

theorem moves_cappedLoop {c : Nat} {isLocal : Bool} (hc : c ≤ maxChainId) {ncs : List Newcomer} {l l' : Ledger}
    {low : Option (Bytes × Nat)} (h : cappedLoop c isLocal ncs l low = .ok l') (hl : G → LOk l)
    (hnc : ∀ nc ∈ ncs, nc.amount = depSum nc.deposits) : DepEff G c isLocal l l' (ncSum ncs) := by
  induction ncs generalizing l low with
  | nil => cases h; exact DepEff.same hl fun _ _ => rfl
  | cons nc rest ih =>
    obtain ⟨r, hr, h⟩ := cappedLoop_cons h
    have h1 := moves_cappedStep hc hl (hnc nc List.mem_cons_self) hr
    exact h1.trans (ih h h1.ok fun n hn => hnc n (List.mem_cons_of_mem _ hn))

/-- `handleBatchDeposit` (cap included). Local role with both ledgers non-zero: the holding pool is debited by exactly
Σ of the batch's deposits (accepted, refused-at-cap and rejected newcomers alike). With a zero ledger nothing moves
(the caller then fails in `HandleDexBatchOrders`). Remote role: no holding pool is touched. -/
theorem moves_batchDeposit {s : State} {b : Batch} {c x y : Nat} {isLocal : Bool} {l : Ledger} (hc : c ≤ maxChainId)
    (hl : G → LOk { s, p := getPool s (liquidityId c), x, y }) (h : batchDeposit s b c x y isLocal = .ok l) :
    ∃ D, Moves G c s l.s D ∧ (G → LOk l) ∧ (isLocal = false → D = 0) ∧
      (G → isLocal = true → x ≠ 0 → y ≠ 0 → D = depSum b.deposits) ∧
      ((x = 0 ∨ y = 0) → l.x = x ∧ l.y = y ∧ liqAmt l.s c = liqAmt s c) := by
  rcases batchDeposit_ok h with ⟨hds, rfl⟩ | ⟨cl, hcl, h | ⟨l1, l2, lt, h1, h2, rfl⟩⟩
  · exact ⟨0, Moves.refl _, hl, fun _ => rfl, fun _ _ _ _ => by simp [hds, depSum], fun _ => ⟨rfl, rfl, rfl⟩⟩
  · have hd := moves_batchDepositCore hc hl h
    obtain ⟨D, e, hD0, hD1⟩ := hd.eff
    refine ⟨D, e, hd.ok, hD0, hD1, fun hh => ?_⟩
    rw [hd.zero hh]
    exact ⟨rfl, rfl, rfl⟩
  · obtain ⟨hsum, hncs⟩ := classify_spec hcl (by intro e he; cases he)
    have hd1 := moves_batchDepositCore hc hl h1
    have hd := hd1.trans (moves_cappedLoop hc h2 hd1.ok
      (by intro nc hnc
          obtain ⟨e, he, rfl⟩ := List.mem_map.mp ((stableSort_perm _ _).mem_iff.mp hnc)
          exact hncs e he))
    obtain ⟨D, e, hD0, hD1⟩ := hd.eff
    refine ⟨D + 0, e.trans (Moves.liq _ _ hc fun g _ => (hd.ok g).pool), fun g => (hd.ok g).state _, ?_, ?_, ?_⟩
    · intro hf; rw [hD0 hf]
    · intro g ht hx0 hy0
      -- sorting keeps the Σ of the newcomers, classifying keeps the Σ of the batch
      rw [hD1 g ht hx0 hy0, Nat.add_zero, ← hsum.trans (Nat.zero_add _), ← ncSum_map_snd]
      exact Nat.add_left_cancel_iff.mpr ((stableSort_perm lt _).map Newcomer.amount).sum_nat
    · intro hh
      rw [hd.zero hh]
      refine ⟨rfl, rfl, ?_⟩
      show (getPool (setPool s (liquidityId c) _) (liquidityId c)).amount = _
      rw [getPool_setPool_self]
      rfl

def orderSum (os : List LimitOrder) : Nat := (os.map (·.amount)).sum

theorem moves_orderReceipts {c : Nat} (hc : c ≤ maxChainId) {os : List LimitOrder} {rs : List Nat} {s : State} {x y : Nat}
    {r : State × Nat × Nat} (h : orderReceipts c os rs s x y = .ok r) :
    Moves G c s r.1 (orderSum os) ∧ (x = liqAmt s c → r.2.1 = liqAmt r.1 c) ∧ (x < U64 → r.2.1 < U64) ∧ r.2.2 ≤ y := by
  induction os generalizing rs s x y with
  | nil => cases h; exact ⟨Moves.refl _, id, id, Nat.le_refl _⟩
  | cons o os ih =>
    obtain ⟨s1, h1, hcase⟩ := orderReceipts_cons h
    have e1 : Moves G c s s1 o.amount := Moves.holdSub hc h1
    have hsum : o.amount + 0 + orderSum os = orderSum (o :: os) := by rw [Nat.add_zero]; rfl
    have hl1 : liqAmt s1 c = liqAmt s c := by
      obtain ⟨_, rfl⟩ := poolSub_ok h1
      unfold liqAmt; rw [getPool_setPool_other (Ne.symm (holdingId_ne_liq hc hc))]
    rcases hcase with h | ⟨s2, h2, h⟩
    · obtain ⟨e2, t2, b2, y2⟩ := ih h
      refine ⟨?_, ?_, fun _ => b2 (Nat.mod_lt _ (by decide)), Nat.le_trans y2 (Nat.sub_le _ _)⟩
      · exact ((e1.trans (Moves.liqAdd _ _ hc)).trans e2).cast hsum
      · intro hx
        apply t2
        unfold liqAmt at hl1 hx ⊢
        rw [poolAdd_self, hl1, hx]
    · obtain ⟨e2, t2, b2, y2⟩ := ih h
      refine ⟨?_, ?_, b2, y2⟩
      · exact ((e1.trans (Moves.accountAdd h2)).trans e2).cast hsum
      · intro hx
        apply t2
        rw [liqAmt_congr (accountsOnly_accountAdd h2).pools, hl1, hx]

theorem moves_payReceipts {c : Nat} (hc : c ≤ maxChainId) {os : List (OrderKey × LimitOrder)} {res : List (OrderKey × Nat)}
    {s : State} {acc : List Nat} {r : State × List Nat} (h : payReceipts c os res s acc = .ok r) : Moves G c s r.1 0 := by
  induction os generalizing s acc with
  | nil => cases h; exact Moves.refl _
  | cons o os ih =>
    obtain ⟨k, o⟩ := o
    rcases payReceipts_cons h with ⟨s1, s2, h1, h2, h⟩ | ⟨_, h⟩
    · exact ((Moves.liqSub hc h1).trans (Moves.accountAdd h2)).trans (ih h)
    · exact ih h

def cap : Nat := Gen.Dex.MaxOrdersSettledPerBlock

/-- the loop settles a prefix of at most `cap − i` orders (in shuffled order), one slot per order, and what it
takes out of the local reserve `y` is exactly the Σ of the slots it wrote; the counter reserve stays a `uint64` -/
theorem ammLoop_spec {l : List (OrderKey × LimitOrder)} {i x y : Nat} {res : List (OrderKey × Nat)}
    {r : Nat × Nat × List (OrderKey × Nat)} (hx : 0 < x) (hy : 0 < y) (h : ammLoop l i x y res = .ok r) :
    (x < U64 → r.1 < U64) ∧
    ∃ add, r.2.2 = res ++ add ∧ add.map (·.1) = (l.take (cap - i)).map (·.1) ∧ r.2.1 + (add.map (·.2)).sum = y := by
  induction l generalizing i x y res with
  | nil => cases h; exact ⟨id, [], (List.append_nil _).symm, by rw [List.take_nil]; rfl, rfl⟩
  | cons e l ih =>
    obtain ⟨k, o⟩ := e
    rcases ammLoop_cons h with ⟨hi, rfl⟩ | ⟨hi, d0, dY, x', hd0, hle, hx', h⟩
    · exact ⟨id, [], (List.append_nil _).symm, by unfold cap; rw [Nat.sub_eq_zero_of_le hi]; rfl, rfl⟩
    · -- the swap pays less than the reserve: both reserves stay positive
      have hlt : dY < y := by
        obtain ⟨d, hd, hlt⟩ := computeDY_lt (dX := o.amount) hx hy
        rw [hd0] at hd; cases hd; exact Nat.lt_of_le_of_lt hle hlt
      obtain ⟨b, add, h1, h2, h3⟩ := ih (by omega) (Nat.sub_pos_of_lt hlt) h
      have hcap : cap - i = (cap - (i + 1)) + 1 := (Nat.sub_add_cancel (Nat.sub_pos_of_lt hi)).symm
      refine ⟨fun h64 => b (hx'.elim (· ▸ h64) (·.2)), (k, dY) :: add, by rw [h1, List.append_assoc]; rfl,
        by rw [hcap, List.take_succ_cons, List.map_cons, List.map_cons, h2], ?_⟩
      rw [List.map_cons, List.sum_cons, Nat.add_left_comm, h3]
      exact Nat.add_sub_of_le (Nat.le_of_lt hlt)

theorem moves_dexBatchOrders {s : State} {os : List LimitOrder} {bh : Bytes} {x y c : Nat} {r : State × Nat × Nat × List Nat}
    (hc : c ≤ maxChainId) (h : dexBatchOrders s os bh x y c = .ok r) :
    Moves G c s r.1 0 ∧ x ≠ 0 ∧ y ≠ 0 ∧ (x < U64 → r.2.1 < U64) ∧ r.2.2.1 ≤ y := by
  obtain ⟨hx, hy, keyed, a, p, _, ha, hp, rfl⟩ := dexBatchOrders_ok h
  obtain ⟨b, add, _, _, hsum⟩ := ammLoop_spec (Nat.pos_of_ne_zero hx) (Nat.pos_of_ne_zero hy) ha
  exact ⟨moves_payReceipts hc hp, hx, hy, b, Nat.le.intro hsum⟩

theorem executeRemote_pos {s s' : State} {remote : Batch} {c : Nat} {bh : Bytes} {mirror : Nat}
    (h : executeRemote s remote c bh mirror = .ok s') : mirror ≠ 0 ∧ liqAmt s c ≠ 0 := by
  obtain ⟨r, _, _, hr, _⟩ := executeRemote_ok h
  obtain ⟨hx, hy, _⟩ := dexBatchOrders_ok hr
  exact ⟨hx, hy⟩

/-- steps 2+3: no holding pool moves; then it rotates -/
theorem moves_executeRemote {s s' : State} {remote : Batch} {c : Nat} {bh : Bytes} {mirror : Nat} (hc : c ≤ maxChainId)
    (h : executeRemote s remote c bh mirror = .ok s') :
    ∃ s1 rh a b rs, Moves (PInv s ∧ PctOk remote.withdrawals ∧ mirror < U64) c s s1 0 ∧ s' = rotate s1 rh a b c rs := by
  obtain ⟨r, l1, l2, hr, hl1, hl2, rfl⟩ := executeRemote_ok h
  obtain ⟨e0, _, _, bx, by'⟩ := moves_dexBatchOrders hc hr
  have hp0 := fun (g : PInv s ∧ PctOk remote.withdrawals ∧ mirror < U64) => (e0.eff g).pinv g.1
  obtain ⟨e1, hk1⟩ := moves_batchWithdraw (p0 := none) hc hl1 (fun g => g.2.1) fun g =>
    ⟨hp0 g _, bx g.2.2, Nat.lt_of_le_of_lt by' (g.1 _).amt⟩
  obtain ⟨D, e2, _, hD0, _, _⟩ := moves_batchDeposit hc
    (fun g => ⟨(e1.eff g).pinv (hp0 g) _, (hk1 g).x64, (hk1 g).y64⟩) hl2
  exact ⟨l2.s, _, _, _, _, ((e0.trans e1).trans e2).cast (by rw [hD0 rfl]), rfl⟩

/-- step 1 (receipt hash matched): the holding pool is debited by the whole pending Σ of our locked batch — unless a
ledger was zero when the deposits were reached, in which case the mirror or our pool is zero and step 2 will fail -/
theorem moves_applyReceipts {s : State} {lb remote : Batch} {c : Nat} {r : State × Nat} (hc : c ≤ maxChainId)
    (h : applyReceipts s lb remote c = .ok r) :
    ∃ s1 D, Moves (PInv s ∧ PctOk lb.withdrawals ∧ remote.poolSize < U64) c s s1 D ∧ r.1 = delLocked s1 c ∧
      (PInv s ∧ PctOk lb.withdrawals ∧ remote.poolSize < U64 →
        r.2 < U64 ∧ (D = lb.pending ∨ r.2 = 0 ∨ liqAmt s1 c = 0)) := by
  obtain ⟨r0, l1, l2, hr0, hl1, hl2, rfl⟩ := applyReceipts_ok h
  obtain ⟨e0, t0, b0, y0⟩ := moves_orderReceipts hc hr0
  have hp0 := fun (g : PInv s ∧ PctOk lb.withdrawals ∧ remote.poolSize < U64) => (e0.eff g).pinv g.1
  obtain ⟨e1, hk1⟩ := moves_batchWithdraw (p0 := none) hc hl1 (fun g => g.2.1) fun g =>
    ⟨hp0 g _, b0 (g.1 _).amt, Nat.lt_of_le_of_lt y0 g.2.2⟩
  have t1 := batchWithdraw_track (t0 rfl) hl1
  obtain ⟨D, e2, hl2ok, _, hD1, hz⟩ := moves_batchDeposit hc
    (fun g => ⟨(e1.eff g).pinv (hp0 g) _, (hk1 g).x64, (hk1 g).y64⟩) hl2
  refine ⟨l2.s, _, (e0.trans e1).trans e2, rfl, fun g => ⟨(hl2ok g).y64, ?_⟩⟩
  by_cases hxy : l1.x = 0 ∨ l1.y = 0
  · obtain ⟨_, hy, hliq⟩ := hz hxy
    rcases hxy with h0 | h0
    · right; right; rw [hliq, ← t1, h0]
    · right; left; exact hy.trans h0
  · left
    have := not_or.mp hxy
    rw [hD1 g rfl this.1 this.2]
    simp [Batch.pending, orderSum, depSum]

theorem moves_refundAll {c : Nat} (hc : c ≤ maxChainId) {l : List (Bytes × Nat)} {s s' : State}
    (h : refundAll c l s = .ok s') : Moves G c s s' (l.map (·.2)).sum := by
  induction l generalizing s with
  | nil => cases h; exact Moves.refl _
  | cons e l ih =>
    obtain ⟨a, n⟩ := e
    obtain ⟨s0, s1, h0, h1, h⟩ := refundAll_cons h
    exact (((Moves.holdSub hc h0).trans (Moves.accountAdd h1)).trans (ih h)).cast (by simp)

/-- the fallback: refund everything pending in our locked batch, install the remote table, drop the batch -/
theorem moves_livenessFallback {s s' : State} {c : Nat} {lb remote : Batch} (hc : c ≤ maxChainId)
    (h : livenessFallback s c lb remote = .ok s') :
    ∃ s1, Moves (ptsSum remote.poolPoints = remote.totalPoolPoints ∧ remote.totalPoolPoints < U64) c s s1 lb.pending ∧
      s' = setLocked s1 c {} := by
  obtain ⟨s1, s2, h1, h2, rfl⟩ := livenessFallback_ok h
  refine ⟨_, Moves.cast (((moves_refundAll hc h1).trans (moves_refundAll hc h2)).trans
    (Moves.liq s2 { getPool s2 (liquidityId c) with points := remote.poolPoints, total := remote.totalPoolPoints } hc
      fun g hp => ⟨⟨g.1, g.2⟩, (hp _).amt⟩)) ?_, rfl⟩
  simp [Batch.pending, List.map_map, Function.comp_def]

theorem frame_remoteDexBatch {s s' : State} {remote : Batch} {c : Nat} {bh : Bytes} (hc : c ≤ maxChainId)
    (h : remoteDexBatch s remote c bh = .ok s') : SellFrame s s' := by
  have hex : ∀ {s s' : State} {m : Nat}, executeRemote s remote c bh m = .ok s' → SellFrame s s' := fun h => by
    obtain ⟨s1, _, _, _, _, e, rfl⟩ := moves_executeRemote hc h
    exact e.frame.trans (frame_rotate)
  rcases remoteDexBatch_ok h with ⟨rh, rfl⟩ | h | rfl | ⟨r, hr, h⟩
  · exact frame_rotate
  · exact hex h
  · exact SellFrame.refl _
  · obtain ⟨s1, D, e, hr1, _⟩ := moves_applyReceipts hc hr
    exact (e.frame.trans (hr1 ▸ frame_delLocked)).trans (hex h)

theorem frame_dexBatchOn {s s' : State} {c : Nat} {nested : Bool} {remote : Batch} {bh : Bytes}
    (hc : c ≤ maxChainId) (h : dexBatchOn s c nested remote bh = .ok s') : SellFrame s s' := by
  rcases (dexBatchOn_ok h).2.2 with ⟨_, rfl⟩ | ⟨_, s1, h1, h⟩ | ⟨_, h⟩
  · exact SellFrame.refl _
  · obtain ⟨s0, e, rfl⟩ := moves_livenessFallback hc h1
    exact (e.frame.trans (frame_setLocked)).trans (frame_remoteDexBatch hc h)
  · exact frame_remoteDexBatch hc h

/-- `HandleDexBatch` on a valid chain id (the certificate's committee, or the root chain id when nested) -/
theorem frame_handleDexBatch {s s' : State} {c : Nat} {nested : Bool} {remote : Option Batch} {bh : Bytes}
    (hc : (if nested then s.root else c) ≤ maxChainId) (h : handleDexBatch s c nested remote bh = .ok s') : SellFrame s s' := by
  unfold handleDexBatch at h
  split at h
  · injection h with h; subst h; exact SellFrame.refl _
  · exact frame_dexBatchOn hc h

/-- what a sell-order operation does to the DEX world: no holding pool of a valid chain moves, stored batches and height
stay, pools stay well formed -/
def SellEff (s s' : State) : Prop := ∀ c, c ≤ maxChainId → Eff c s s' 0

theorem SellEff.refl (s : State) : SellEff s s := fun c _ => Eff.refl c s
theorem SellEff.trans {a b d : State} (h1 : SellEff a b) (h2 : SellEff b d) : SellEff a d :=
  fun c hc => (h1 c hc).trans (h2 c hc)

theorem sellEff_setPool_esc (s : State) (ch : Nat) (p : Pool) (hch : ch ≤ maxChainId) (hok : PoolOk p) :
    SellEff s (setPool s (escrowId ch) p) := fun _ hc =>
  eff_setPool_other s _ p (fun _ h => holdingId_ne_escrow h hch) hc fun _ => hok

theorem sellEff_poolAdd_esc {s : State} {ch n : Nat} (hch : ch ≤ maxChainId) : SellEff s (poolAdd s (escrowId ch) n) := fun _ hc =>
  eff_setPool_other s _ _ (fun _ h => holdingId_ne_escrow h hch) hc fun hp => poolOk_amount (hp _) (Nat.mod_lt _ (by decide))

theorem sellEff_poolSub_esc {s s' : State} {ch n : Nat} (hch : ch ≤ maxChainId) (h : poolSub s (escrowId ch) n = .ok s') :
    SellEff s s' := by
  obtain ⟨_, rfl⟩ := poolSub_ok h
  exact fun _ hc => eff_setPool_other s _ _ (fun _ h => holdingId_ne_escrow h hch) hc
    fun hp => poolOk_sub (hp _) n

theorem sellEff_accountAdd {s s' : State} {a : Bytes} {n : Nat} (h : accountAdd s a n = .ok s') : SellEff s s' :=
  fun _ _ => eff_accountAdd h
theorem sellEff_accountSub {s s' : State} {a : Bytes} {n : Nat} (h : accountSub s a n = .ok s') : SellEff s s' :=
  fun _ _ => eff_accountSub h
theorem sellEff_setOrder {s : State} {c : Nat} {o : SellOrder} : SellEff s (setOrder s c o) :=
  fun _ _ => eff_of_pools_eq rfl rfl rfl rfl rfl
theorem sellEff_deleteOrder {s : State} {c : Nat} {id : Bytes} : SellEff s (deleteOrder s c id) :=
  fun _ _ => eff_of_pools_eq rfl rfl rfl rfl rfl

theorem sellEff_create {s s' : State} {m : CreateOrder} (h : createOrder s m = .ok s') : SellEff s s' := by
  obtain ⟨s1, h1, hch, rfl⟩ := createOrder_ok h
  exact ((sellEff_accountSub h1).trans (sellEff_poolAdd_esc hch)).trans (sellEff_setOrder)

theorem sellEff_edit {s s' : State} {m : EditOrder} (h : editOrder s m = .ok s') : SellEff s s' := by
  obtain ⟨o, s2, hch, _, _, hcase, rfl⟩ := editOrder_ok h
  refine SellEff.trans ?_ (sellEff_setOrder)
  rcases hcase with ⟨_, s1, h1, rfl⟩ | ⟨_, s1, h1, h2⟩ | ⟨_, rfl⟩
  · exact (sellEff_accountSub h1).trans (sellEff_poolAdd_esc hch)
  · exact (sellEff_poolSub_esc hch h1).trans (sellEff_accountAdd h2)
  · exact SellEff.refl _

theorem sellEff_delete {s s' : State} {c : Nat} {id : Bytes} (h : deleteOrderMsg s c id = .ok s') : SellEff s s' := by
  obtain ⟨o, s1, s2, hch, _, _, h1, h2, rfl⟩ := deleteOrderMsg_ok h
  exact ((sellEff_poolSub_esc hch h1).trans (sellEff_accountAdd h2)).trans (sellEff_deleteOrder)

theorem sellEff_close {s s' : State} {c : Nat} {id : Bytes} (hch : c ≤ maxChainId) (h : closeOrder s c id = .ok s') : SellEff s s' := by
  obtain ⟨o, s1, s2, _, _, h1, h2, rfl⟩ := closeOrder_ok h
  exact ((sellEff_poolSub_esc hch h1).trans (sellEff_accountAdd h2)).trans (sellEff_deleteOrder)

theorem sellEff_lock {s s' : State} {c : Nat} {l : LockOrder} (h : lockOrder s c l = .ok s') : SellEff s s' := by
  obtain ⟨o, _, rfl⟩ := lockOrder_ok h
  exact sellEff_setOrder

theorem sellEff_reset {s s' : State} {c : Nat} {id : Bytes} (h : resetOrder s c id = .ok s') : SellEff s s' := by
  obtain ⟨o, _, rfl⟩ := resetOrder_ok h
  exact sellEff_setOrder

theorem sellEff_orSkip {s : State} {r : M State} (h : ∀ s', r = .ok s' → SellEff s s') : SellEff s (orSkip s r) := by
  unfold orSkip
  split
  · exact h _ rfl
  · exact SellEff.refl _

theorem sellEff_foldl {α : Type} {f : State → α → State} {l : List α} {s : State} (h : ∀ s a, SellEff s (f s a)) :
    SellEff s (l.foldl f s) :=
  List.foldlRecOn (motive := SellEff s) l f (SellEff.refl s) fun s' hs a _ => hs.trans (h s' a)

theorem sellEff_swaps (s : State) (c : Nat) (o : Orders) (hch : c ≤ maxChainId) : SellEff s (handleCommitteeSwaps s c o) := by
  unfold handleCommitteeSwaps
  refine SellEff.trans (SellEff.trans (sellEff_foldl (fun s l => ?_)) (sellEff_foldl (fun s id => ?_)))
    (sellEff_foldl (fun s id => sellEff_orSkip (fun s' h => sellEff_close hch h)))
  · split
    · exact SellEff.refl _
    · exact sellEff_orSkip (fun s' h => sellEff_lock h)
  · split
    · exact SellEff.refl _
    · exact sellEff_orSkip (fun s' h => sellEff_reset h)

end Canopy.Dex
