import Canopy.Model.SmtProof
import Canopy.Proof.SmtHash
import Canopy.Proof.Guards
/-! The repaired verifier `verifyFixed` (C16): the key validator against the decoder of the node-key encoding, one step of
the hash fold, and what an `accept` means, piece by piece. Core only. -/
namespace Canopy.Smt

theorem sigBits_length_lt : ∀ i, i < 256 → (sigBits (UInt8.ofNat i)).length = max (V.len8 (UInt8.ofNat i)) 1 := by
  decide +kernel

theorem sigBits_length (v : UInt8) : (sigBits v).length = max (V.len8 v) 1 := by
  have := sigBits_length_lt v.toNat v.toNat_lt
  simpa using this

/-- the bit count of the final data byte as the validator computes it is the number of bits the decoder reads back -/
theorem decodeLast_length (v pad : UInt8) : (decodeLast v pad).length = pad.toNat + max (V.len8 v) 1 := by
  rw [decodeLast, List.length_append, List.length_replicate, sigBits_length]

theorem byteBits_length (x : UInt8) : (byteBits x).length = 8 := rfl

theorem bytesBits_length (bs : Bytes) : (bytesBits bs).length = bs.length * 8 := by
  induction bs with
  | nil => rfl
  | cons b bs ih =>
    rw [bytesBits, List.flatMap_cons, List.length_append, ← bytesBits, ih, byteBits_length, List.length_cons,
      Nat.succ_mul, Nat.add_comm]

theorem decodeKey_cons (x : UInt8) {rest : Bytes} (h : 2 ≤ rest.length) :
    decodeKey (x :: rest) = byteBits x ++ decodeKey rest :=
  match rest, h with
  | _ :: _ :: _, _ => rfl

theorem decodeKey_snoc2 (front : Bytes) (v pad : UInt8) :
    decodeKey (front ++ [v, pad]) = bytesBits front ++ decodeLast v pad := by
  induction front with
  | nil => rfl
  | cons x front ih =>
    rw [List.cons_append, decodeKey_cons x (by simp), ih, ← List.append_assoc]
    rfl

/-- a key passes the validator exactly when it ends in a (value, meta) pair whose chunk has at most eight bits and it
decodes to at most `n` bits -/
theorem validNodeKey_iff (n : Nat) (b : Bytes) : validNodeKey n b = true ↔
    ∃ front v pad, b = front ++ [v, pad] ∧ (decodeLast v pad).length ≤ 8 ∧ (decodeKey b).length ≤ n := by
  have snoc2 : ∀ front v pad, validNodeKey n (front ++ [v, pad]) = true ↔
      (decodeLast v pad).length ≤ 8 ∧ (decodeKey (front ++ [v, pad])).length ≤ n := by
    intro front v pad
    rw [decodeKey_snoc2, List.length_append, bytesBits_length, decodeLast_length]
    simp [validNodeKey]
  constructor
  · intro h
    obtain ⟨front, v, pad, rfl⟩ : ∃ front v pad, b = front ++ [v, pad] := by
      unfold validNodeKey at h
      match hr : b.reverse, h with
      | pad :: v :: more, _ => exact ⟨more.reverse, v, pad, by rw [← List.reverse_reverse b, hr]; simp⟩
    exact ⟨front, v, pad, rfl, (snoc2 front v pad).mp h⟩
  · rintro ⟨front, v, pad, rfl, h⟩
    exact (snoc2 front v pad).mpr h

theorem decodeKey_valid {n : Nat} {b : Bytes} (h : validNodeKey n b = true) :
    (decodeKey b).length ≤ n ∧ decodeKey b ≠ [] := by
  obtain ⟨front, v, pad, rfl, -, hn⟩ := (validNodeKey_iff n b).mp h
  refine ⟨hn, List.ne_nil_of_length_pos ?_⟩
  rw [decodeKey_snoc2, List.length_append, decodeLast_length]
  omega

/-- a valid key has the two final bytes, and the full bytes in front of them hold fewer than `n` bits -/
theorem validNodeKey_length {n : Nat} {b : Bytes} (h : validNodeKey n b = true) :
    2 ≤ b.length ∧ b.length * 8 < n + 16 := by
  obtain ⟨front, v, pad, rfl, -, hn⟩ := (validNodeKey_iff n b).mp h
  rw [decodeKey_snoc2, List.length_append, bytesBits_length, decodeLast_length] at hn
  simp only [List.length_append, List.length_cons, List.length_nil]
  omega

theorem encodeKey_snoc2 : ∀ k : Key, k ≠ [] → ∃ front c, 1 ≤ c.length ∧ c.length ≤ 8 ∧
    encodeKey k = front ++ [UInt8.ofNat (bitsVal c), UInt8.ofNat (padOf c)] :=
  encodeKey_induction
    (fun k h1 h8 => ⟨[], k, h1, h8, encodeKey_short h1 h8⟩)
    (fun k h _ ⟨front, c, h1, h8, e⟩ => ⟨_ :: front, c, h1, h8, by rw [encodeKey_long h, e]; rfl⟩)

theorem validNodeKey_encodeKey {n : Nat} {k : Key} (hne : k ≠ []) (hle : k.length ≤ n) :
    validNodeKey n (encodeKey k) = true := by
  obtain ⟨front, c, h1, h8, e⟩ := encodeKey_snoc2 k hne
  refine (validNodeKey_iff n _).mpr ⟨front, _, _, e, ?_, ?_⟩
  · rw [decodeLast_encode c h1 h8]; exact h8
  · rw [decodeKey_encodeKey k hne]; exact hle

theorem toVerdict_no_crash (f : FVerdict) : (∀ w, f.toVerdict ≠ .crash w) ∧ f.toVerdict ≠ .hang := by
  cases f <;> simp [FVerdict.toVerdict]

theorem toVerdict_eq_accept {f : FVerdict} : f.toVerdict = .accept ↔ f = .accept := by
  cases f <;> simp [FVerdict.toVerdict]

theorem nodeOk_iff {strict : Bool} {n : Nat} {p : PNode} :
    nodeOk strict n p = true ↔ validNodeKey n p.key = true ∧ (strict = true → valueLenOk n p = true) := by
  cases strict <;> simp [nodeOk]

theorem valueLenOk_iff {n : Nat} {p : PNode} : valueLenOk n p = true ↔
    p.value.length = 32 ∨ (p.value.length = 20 ∧ (p.key = encodeKey (minKey n) ∨ p.key = encodeKey (maxKey n))) := by
  simp [valueLenOk]

/-- one step of the hash fold: neither key is a prefix of the other, their common prefix is empty exactly at the top,
and the fold goes on from the parent -/
theorem foldFixed_cons_eq_some {H4 : Bytes → Bytes → Bytes → Bytes → Bytes} {cur : Key} {hash : Bytes} {p : PNode}
    {rest : List PNode} {r : Bytes} :
    foldFixed H4 cur hash (p :: rest) = some r ↔
      (gcp cur (decodeKey p.key)).length ≠ min cur.length (decodeKey p.key).length ∧
      (gcp cur (decodeKey p.key) = [] ↔ rest = []) ∧
      foldFixed H4 (gcp cur (decodeKey p.key))
        (if p.bitmask = 0 then H4 p.key p.value (encodeKey cur) hash else H4 (encodeKey cur) hash p.key p.value)
        rest = some r := by
  simp only [foldFixed, ite_eq_iff_of_ne (show (none : Option Bytes) ≠ some r from nofun)]
  refine and_congr_right fun _ => and_congr_left fun _ => ?_
  cases rest <;> simp

theorem cons_cons_of_accept {strict : Bool} {H : Bytes → Bytes} {H4 : Bytes → Bytes → Bytes → Bytes → Bytes} {n : Nat}
    {uk value : Bytes} {m : Bool} {root : Bytes} {proof : List PNode}
    (h : verifyFixed strict H H4 n uk value m root proof = .accept) : ∃ p0 p1 rest, proof = p0 :: p1 :: rest :=
  match proof, h with
  | [], h => nomatch h
  | [_], h => nomatch h
  | _ :: _ :: _, _ => ⟨_, _, _, rfl⟩

/-- what an `accept` of the repaired verifier means, piece by piece (`k` is the target key) -/
theorem verifyFixed_accept_iff {strict : Bool} {H : Bytes → Bytes} {H4 : Bytes → Bytes → Bytes → Bytes → Bytes} {n : Nat}
    {uk value : Bytes} {m : Bool} {root : Bytes} {p0 p1 : PNode} {rest : List PNode} {k : Key} (hk : keyOfBytes n (H uk) = k) :
    verifyFixed strict H H4 n uk value m root (p0 :: p1 :: rest) = .accept ↔
      (∀ p ∈ p0 :: p1 :: rest, nodeOk strict n p = true) ∧ (k ≠ rootKey n ∧ k ≠ minKey n ∧ k ≠ maxKey n) ∧
        foldFixed H4 (decodeKey p0.key) p0.value (p1 :: rest) = some root ∧
        branchBits (decodeKey p0.key) (p1 :: rest) ≤ (gcp k (decodeKey p0.key)).length ∧
        (if m then encodeKey k = p0.key ∧ p0.value = H value
         else encodeKey k ≠ p0.key ∧ (gcp k (decodeKey p0.key)).length ≠ (decodeKey p0.key).length) := by
  subst hk
  rw [verifyFixed, toVerdict_eq_accept]
  unfold verifyFixedF
  -- every early exit returns something other than `accept`
  simp only [ite_eq_iff_of_ne (show FVerdict.errInvalidProof ≠ .accept by decide),
    ite_eq_iff_of_ne (show FVerdict.errReserved ≠ .accept by decide)]
  refine and_congr (by simp) (and_congr (by simp [and_assoc]) ?_)
  cases foldFixed H4 (decodeKey p0.key) p0.value (p1 :: rest) with
  | none => simp
  | some hash =>
    simp only [ite_eq_iff_of_ne (show FVerdict.reject ≠ .accept by decide)]
    refine and_congr (by simp) (and_congr (by simp) ?_)
    cases m <;> by_cases he : encodeKey (keyOfBytes n (H uk)) = p0.key <;> simp [he]

end Canopy.Smt
