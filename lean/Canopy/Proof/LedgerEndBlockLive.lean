import Canopy.Proof.LedgerEndBlockInv
/-! C12: `EndBlock` SUCCEEDS on every ledger satisfying the invariants, also when reward percents are waiting to be
distributed. The only place where that is not automatic is the guarded addition to a committee's staking tally in
`SetCommittees` / `SetDelegations` during auto-compounding: it needs `CommitteeStaked[c] + reward ≤ 2^64 − 1`, which
follows from the supply identity when no validator lists a committee twice (`CommitteesDistinct`). -/
namespace Canopy.Ledger
open AMap

theorem count_le_one_of_dupC {v : Validator} (h : dupC v = 0) (c : Nat) : v.committees.count c ≤ 1 := by
  rw [(dupC_eq_zero.1 h).count]; split <;> omega

theorem stake_mul_count_le {v : Validator} (h : dupC v = 0) (c : Nat) : v.stake * v.committees.count c ≤ v.stake :=
  Nat.le_trans (Nat.mul_le_mul_left _ (count_le_one_of_dupC h c)) (Nat.le_of_eq (Nat.mul_one _))

theorem comSum_le_stakeSum {L : Ledger} (h : dupCommittees L = 0) (c : Nat) : comSum L c ≤ stakeSum L :=
  sumBy_le_of_zero dupC _ _ L.validators h fun _ hv => stake_mul_count_le hv c

theorem dcomSum_le_dstakeSum {L : Ledger} (h : dupCommittees L = 0) (c : Nat) : dcomSum L c ≤ dstakeSum L :=
  sumBy_le_of_zero dupC _ _ L.validators h fun _ hv => by
    split
    · exact stake_mul_count_le hv c
    · exact Nat.le_refl 0

theorem dstakeSum_le_stakeSum (L : Ledger) : dstakeSum L ≤ stakeSum L := by
  unfold dstakeSum stakeSum
  refine sumBy_le_of_zero (fun _ => 0) _ _ L.validators ?_ ?_
  · induction L.validators with
    | nil => rfl
    | cons e t ih => obtain ⟨k, v⟩ := e; simp [sumBy, ih]
  · intro v _; split <;> omega

theorem updateCommittees_ok_of {L : Ledger} {a : Addr} {val : Validator} {s : Nat} {cs : List Nat} (hp : Pools L)
    (hlo : ∀ c, val.stake * val.committees.count c ≤ comGet L c)
    (hhi : ∀ c, comGet L c + s * cs.count c ≤ MAXU + val.stake * val.committees.count c) :
    ∃ L', updateCommittees L a val s cs = .ok L' := by
  obtain ⟨m1, m2, h1, h2⟩ := NMap.subAll_addAll_ok_of hp.committee hlo hhi
  obtain ⟨k1, ha⟩ := deleteCommittees_ok_of (a := a) val.committees L m1 h1
  obtain ⟨k2, hb⟩ := setCommittees_ok_of (a := a) cs
    { L with supply := { L.supply with committee := m1 }, committeeKeys := k1 } m2 h2
  exact ⟨_, bind_eq_ok.2 ⟨_, ha, hb⟩⟩

theorem updateDelegations_ok_of {L : Ledger} {a : Addr} {val : Validator} {s : Nat} {cs : List Nat} (hp : Pools L)
    (hlo : ∀ c, val.stake * val.committees.count c ≤ comGet L c) (hlod : ∀ c, val.stake * val.committees.count c ≤ delGet L c)
    (hhi : ∀ c, comGet L c + s * cs.count c ≤ MAXU + val.stake * val.committees.count c)
    (hhid : ∀ c, delGet L c + s * cs.count c ≤ MAXU + val.stake * val.committees.count c) :
    ∃ L', updateDelegations L a val s cs = .ok L' := by
  obtain ⟨c1, c2, hc1, hc2⟩ := NMap.subAll_addAll_ok_of hp.committee hlo hhi
  obtain ⟨d1, d2, hd1, hd2⟩ := NMap.subAll_addAll_ok_of hp.delegated hlod hhid
  obtain ⟨k1, ha⟩ := deleteDelegations_ok_of (a := a) val.committees L d1 c1 hd1 hc1
  obtain ⟨k2, hb⟩ := setDelegations_ok_of (a := a) cs
    { L with supply := { L.supply with delegated := d1, committee := c1 }, delegateKeys := k1 } d2 c2 hd2 hc2
  exact ⟨_, bind_eq_ok.2 ⟨_, ha, hb⟩⟩

/-- a tally `g` below the total has room for `amt` more on a stake that is counted at most once in it -/
theorem room_of_count_le_one {g s amt k total m : Nat} (hk : k ≤ 1) (hg : g ≤ total) (hb : total + amt ≤ m) :
    g + (s + amt) * k ≤ m + s * k := by
  have : amt * k ≤ amt * 1 := Nat.mul_le_mul_left _ hk
  rw [Nat.add_mul]
  omega

/-- `UpdateValidatorStake` with an unchanged committee list succeeds when the new total stake fits into a `uint64`
and no validator lists a committee twice -/
theorem updateValidatorStake_ok_of {L : Ledger} {a : Addr} {val : Validator} {amt : Nat} (ht : Tallies L) (hp : Pools L)
    (hg : valGet? L a = some val) (hd : dupCommittees L = 0) (hb : stakeSum L + amt ≤ MAXU) :
    ∃ L', updateValidatorStake L a val val.committees amt = .ok L' := by
  obtain ⟨hst, _, w3', w4'⟩ := ht.record_le hg
  rw [ht.staked] at hst
  have hdv := dupC_of_zero hd hg
  have hns : (val.stake + amt) % U64 = val.stake + amt := Nat.mod_eq_of_lt (by unfold MAXU at hb; unfold U64 at *; omega)
  have room : ∀ g : Nat → Nat, (∀ c, g c ≤ stakeSum L) →
      ∀ c, g c + (val.stake + amt) * val.committees.count c ≤ MAXU + val.stake * val.committees.count c :=
    fun g hg c => room_of_count_le_one (count_le_one_of_dupC hdv c) (hg c) hb
  have hcs : ∀ c, comGet L c ≤ stakeSum L := fun c => by rw [ht.committee c]; exact comSum_le_stakeSum hd c
  unfold updateValidatorStake
  have e1 := (addToStaked_ok (L := L)).2 ⟨Nat.le_sub_of_add_le (by rw [ht.staked]; exact hb), rfl⟩
  rw [e1]
  simp only [bind, Except.bind, hns]
  cases hdl : val.delegate with
  | false =>
    simp only [Bool.false_eq_true, if_false]
    obtain ⟨L2, h2⟩ := updateCommittees_ok_of (a := a) (val := val) (s := val.stake + amt) (cs := val.committees)
      (L := { L with supply := { L.supply with staked := L.supply.staked + amt } }) ⟨hp.committee, hp.delegated⟩ w3' (room _ hcs)
    rw [h2]; exact ⟨_, rfl⟩
  | true =>
    simp only [if_true]
    have hds : L.supply.delegatedOnly ≤ stakeSum L := by rw [ht.delegated]; exact dstakeSum_le_stakeSum L
    have e2 := (addToDelegated_ok (L := { L with supply := { L.supply with staked := L.supply.staked + amt } })).2
      ⟨Nat.le_sub_of_add_le (Nat.le_trans (Nat.add_le_add_right hds amt) hb), rfl⟩
    rw [e2]
    have hdc : ∀ c, delGet L c ≤ stakeSum L := fun c => by
      rw [ht.committeeDelegated c]
      exact Nat.le_trans (dcomSum_le_dstakeSum hd c) (dstakeSum_le_stakeSum L)
    obtain ⟨L2, h2⟩ := updateDelegations_ok_of (a := a) (val := val) (s := val.stake + amt) (cs := val.committees)
      (L := { L with supply := { L.supply with staked := L.supply.staked + amt, delegatedOnly := L.supply.delegatedOnly + amt } })
      ⟨hp.committee, hp.delegated⟩ w3' (w4' hdl) (room _ hcs) (room _ hdc)
    simp only []
    rw [h2]; exact ⟨_, rfl⟩

/-- … and keeps the committee lists duplicate-free -/
theorem updateValidatorStake_dup {L L' : Ledger} {a : Addr} {val : Validator} {amt : Nat} (hg : valGet? L a = some val)
    (h : updateValidatorStake L a val val.committees amt = .ok L') : dupCommittees L' = dupCommittees L := by
  unfold dupCommittees
  rw [(updateValidatorStake_frame h).1]
  exact sumBy_set_same hg rfl

theorem distributeReward_ok_of {L : Ledger} {a : Addr} {p pool samples : Nat} (hs : InvStaking L) (hd : dupCommittees L = 0)
    (hb : accSum L + stakeSum L + fullOf p pool samples ≤ MAXU) : ∃ r, distributeReward L a p pool samples = .ok r := by
  have hr := rewardAmounts_le L p pool samples
  have he : accSum L + (rewardAmounts L p pool samples).2 ≤ MAXU := by omega
  unfold distributeReward
  dsimp only
  split
  · obtain ⟨L1, h1⟩ := accountAdd_ok_of L a (rewardAmounts L p pool samples).2 he
    rw [h1]; exact ⟨_, rfl⟩
  · next val hv =>
    split
    · obtain ⟨L1, h1⟩ := updateValidatorStake_ok_of (amt := (rewardAmounts L p pool samples).1) hs.tallies
        hs.pools hv hd (by omega)
      rw [h1]; exact ⟨_, rfl⟩
    · obtain ⟨L1, h1⟩ := accountAdd_ok_of L val.output (rewardAmounts L p pool samples).2 he
      rw [h1]; exact ⟨_, rfl⟩

theorem distributeReward_dup {L L1 : Ledger} {a : Addr} {p pool samples d : Nat}
    (h : distributeReward L a p pool samples = .ok (d, L1)) : dupCommittees L1 = dupCommittees L := by
  rcases distributeReward_cases h with ⟨b, _, h1⟩ | ⟨val, hv, _, h1⟩
  · exact dup_same (sameStaking_accountAdd h1).validators
  · exact updateValidatorStake_dup hv h1

/-- the stubs of one committee are all paid: no guarded addition fails -/
theorem distributeStubs_ok_of {chain pool samples : Nat} : ∀ (ps : List (Addr × Nat)) (L : Ledger) (tot : Nat),
    InvStaking L → dupCommittees L = 0 → poolGet L chain = pool → bal L + fullSum ps pool samples < U64 + pool →
    tot + fullSum ps pool samples ≤ MAXU →
    ∃ r, distributeStubs L pool samples ps tot = .ok r ∧ dupCommittees r.2 = 0
  | [], L, tot, _, hd, _, _, _ => ⟨(tot, L), rfl, hd⟩
  | (a, p) :: rest, L, tot, hs, hd, hp, hb, ht => by
    simp only [fullSum, List.map_cons, List.sum_cons] at hb ht
    have hpl := poolGet_le L chain
    obtain ⟨⟨d, L2⟩, h1⟩ := distributeReward_ok_of (a := a) (p := p) (pool := pool) (samples := samples) hs hd (by
      unfold bal at hb; unfold MAXU; unfold U64 at hb; omega)
    obtain ⟨hw, hdle, _, hp2, _, hb2⟩ := distributeReward_step hp hb h1
    obtain ⟨i2, _⟩ := distributeReward_inv hs hw h1
    have ht2 : tot + d + fullSum rest pool samples ≤ MAXU := by unfold fullSum; omega
    rw [distributeStubs_cons h1 (Nat.le_trans (Nat.le_add_right _ _) ht2)]
    exact distributeStubs_ok_of rest L2 (tot + d) i2 (by rw [distributeReward_dup h1]; exact hd) hp2 hb2 ht2

/-- one committee of `DistributeCommitteeRewards` succeeds, and the committee lists stay duplicate-free -/
theorem distributeFor_ok_of {L : Ledger} {d : CommitteeData} (hi : InvSupply L) (hs : InvStaking L) (hd : dupCommittees L = 0)
    (hpc : percentSum d.percents ≤ 100 * d.samples) :
    ∃ L', distributeFor L d = .ok L' ∧ dupCommittees L' = 0 := by
  unfold distributeFor
  split
  · exact ⟨L, rfl, hd⟩
  · obtain ⟨hfs, hplt, hbb⟩ := distributeFor_bound hi hpc
    have hpl := poolGet_le L d.chainId
    obtain ⟨i1, i2⟩ := hi
    have hpt : poolGet L d.chainId ≤ L.supply.total := by unfold bal at i1; omega
    obtain ⟨⟨tot, L1⟩, hr, hdr⟩ := distributeStubs_ok_of (chain := d.chainId) d.percents L 0 hs hd rfl hbb (by
      unfold MAXU; unfold U64 at hplt; omega)
    rw [hr]
    dsimp only
    obtain ⟨_, htot, ht, _, _⟩ := distributeStubs_ok (chain := d.chainId) d.percents L L1 0 tot rfl hbb hr
    unfold distributeFinish
    rw [sub_mod_U64 (Nat.le_trans htot (Nat.zero_add _ ▸ hfs)) hplt]
    have h2 := subFromTotal_ok.2 ⟨Nat.le_trans (Nat.sub_le (poolGet L d.chainId) tot) (by rw [ht]; exact hpt), rfl⟩
    rw [h2]
    refine ⟨_, rfl, (dup_same ?_).trans hdr⟩
    exact (putCommitteeData_staking _ _).1.symm.trans (sameStaking_subFromTotal h2).validators

/-- **`DistributeCommitteeRewards` succeeds** on a ledger satisfying the invariants -/
theorem distributeCommitteeRewards_ok_of {L : Ledger} (hi : InvSupply L) (hp : PercentsOK L) (hs : InvStaking L)
    (hd : dupCommittees L = 0) : ∃ L', distributeCommitteeRewards L = .ok L' ∧ dupCommittees L' = 0 := by
  unfold distributeCommitteeRewards
  have key : ∀ (ds : List CommitteeData) (A : Ledger), (∀ d ∈ ds, percentSum d.percents ≤ 100 * d.samples) → InvSupply A →
      InvStaking A → dupCommittees A = 0 → ∃ B, ds.foldlM distributeFor A = .ok B ∧ dupCommittees B = 0 := by
    intro ds
    induction ds with
    | nil => intro A _ _ _ dA; exact ⟨A, rfl, dA⟩
    | cons d ds ih =>
      intro A hds iA sA dA
      simp only [List.foldlM_cons]
      have hdd := hds d (List.mem_cons_self ..)
      obtain ⟨A1, h1, d1⟩ := distributeFor_ok_of iA sA dA hdd
      obtain ⟨s1, _, _⟩ := distributeFor_inv iA sA hdd h1
      have i1 := (distributeFor_burns iA hdd h1).inv iA
      obtain ⟨B, h2, dB⟩ := ih A1 (fun d' hd' => hds d' (List.mem_cons_of_mem _ hd')) i1 s1 d1
      exact ⟨B, by rw [h1]; exact h2, dB⟩
  exact key L.committeesData L hp hi hs hd

theorem forceUnstakeValidator_dup (L : Ledger) (a : Addr) : dupCommittees (forceUnstakeValidator L a) = dupCommittees L := by
  rcases forceUnstakeValidator_cases L a with ⟨e, _⟩ | ⟨val, hv, _, e⟩
  · rw [e]
  · rw [e]
    unfold dupCommittees
    rw [setValidatorUnstaking_validators]
    exact sumBy_set_same hv rfl

theorem foldl_forceUnstake_dup (as : List Addr) (L : Ledger) : dupCommittees (as.foldl forceUnstakeValidator L) = dupCommittees L :=
  foldl_keeps (fun s => dupCommittees s = dupCommittees L) (fun s a hs => (forceUnstakeValidator_dup s a).trans hs) as L rfl

theorem forceUnstakeMaxPaused_dup (L : Ledger) : dupCommittees (forceUnstakeMaxPaused L) = dupCommittees L := by
  unfold forceUnstakeMaxPaused
  dsimp only
  rw [foldl_pausedDel]
  exact foldl_forceUnstake_dup _ L

theorem finishUnstakingStep_dup {L L' : Ledger} {a : Addr} (h : finishUnstakingStep L a = .ok L') : dupCommittees L' ≤ dupCommittees L := by
  obtain ⟨val, L1, _, h1, h2⟩ := finishUnstakingStep_ok h
  have := sumBy_erase dupC L.validators a
  unfold dupCommittees
  rw [(deleteValidator_frame h2).1, (sameStaking_accountAdd h1).validators]
  omega

theorem foldlM_finishUnstaking_dup (as : List Addr) (L L' : Ledger) (h : as.foldlM finishUnstakingStep L = .ok L') :
    dupCommittees L' ≤ dupCommittees L :=
  foldlM_keeps (fun s => dupCommittees s ≤ dupCommittees L) as
    (fun _ _ _ _ hs hstep => Nat.le_trans (finishUnstakingStep_dup hstep) hs) L L' (Nat.le_refl _) h

theorem deleteFinishedUnstaking_dup {L L' : Ledger} (h : deleteFinishedUnstaking L = .ok L') : dupCommittees L' ≤ dupCommittees L := by
  obtain ⟨L1, h1, rfl⟩ := deleteFinishedUnstaking_run h
  rw [foldl_unstakingDel]
  exact foldlM_finishUnstaking_dup _ L L1 h1

/-- **`EndBlock` succeeds** on every ledger satisfying the invariants whose committee lists are duplicate-free, with or
without reward percents waiting to be distributed -/
theorem endBlock_ok_of {L : Ledger} (hi : InvSupply L) (hp : PercentsOK L) (hs : InvStaking L) (hh : (L.height + L.params.unstakingBlocks) % U64 ≠ 0)
    (hd : dupCommittees L = 0) :
    ∃ L', endBlock L = .ok L' ∧ InvSupply L' ∧ PercentsOK L' ∧ InvStaking L' ∧ dupCommittees L' = 0 ∧
      L'.height = L.height + 1 ∧ L'.params = L.params ∧ L'.cfg = L.cfg ∧ L'.supply.total ≤ L.supply.total := by
  obtain ⟨L1, h1, d1⟩ := distributeCommitteeRewards_ok_of hi hp hs hd
  obtain ⟨b1, _⟩ := distributeCommitteeRewards_burns hi hp h1
  obtain ⟨s1, e⟩ := distributeCommitteeRewards_inv hi hp hs h1
  have hh1 : (L1.height + L1.params.unstakingBlocks) % U64 ≠ 0 := by rw [e.height, e.params]; exact hh
  obtain ⟨s2, c2⟩ := forceUnstakeMaxPaused_inv s1 hh1
  have i2 := (forceUnstakeMaxPaused_moves L1).inv (b1.inv hi)
  obtain ⟨L3, h3, s3, c3⟩ := deleteFinishedUnstaking_inv i2 s2
  have d3 : dupCommittees L3 = 0 := by
    have := deleteFinishedUnstaking_dup h3
    rw [forceUnstakeMaxPaused_dup, d1] at this
    exact Nat.le_zero.1 this
  have hE : endBlock L = .ok { L3 with height := L3.height + 1, slashTracker := [] } := by
    unfold endBlock; rw [h1]; dsimp only; rw [h3]
  have bE := endBlock_burns hi hp hE
  have b : SameBlock L L3 := e.trans (c2.block.trans c3.block)
  exact ⟨_, hE, bE.inv hi, endBlock_percents hi hp hE, s3.of_same rfl rfl rfl rfl rfl rfl rfl, d3, congrArg (· + 1) b.height,
    b.params, b.cfg, bE.total_le⟩

/-- **an empty block (begin-block mint + `EndBlock`) applies** on every ledger satisfying the invariants, and the
invariants hold again at the next height -/
theorem emptyBlock_ok {L : Ledger} (hi : InvSupply L) (hp : PercentsOK L) (hs : InvStaking L) (hd : dupCommittees L = 0)
    (hb : L.cfg.blocksPerHalvening ≠ 0) (hx : L.supply.total + scheduledMint L < U64)
    (hh : (L.height + L.params.unstakingBlocks) % U64 ≠ 0) :
    ∃ L', emptyBlock L = .ok L' ∧ InvSupply L' ∧ PercentsOK L' ∧ InvStaking L' ∧ dupCommittees L' = 0 ∧
      L'.height = L.height + 1 ∧ L'.params = L.params ∧ L'.cfg = L.cfg ∧ L'.supply.total ≤ L.supply.total + scheduledMint L := by
  obtain ⟨L1, h1⟩ := beginBlockMint_ok_of L hb
  obtain ⟨m, hm, s1⟩ := beginBlockMint_mints hi hx h1
  have ss := beginBlockMint_sameStaking h1
  have i1 : InvSupply L1 := s1.inv hi (by have := s1.1; omega)
  have p1 : PercentsOK L1 := (show KeepCD L L1 from ss.ctx.committeesData).percents hp
  have d1 : dupCommittees L1 = 0 := (dup_same ss.validators).trans hd
  obtain ⟨L', h2, i2, p2, s2, d2, e1, e2, e3, e4⟩ := endBlock_ok_of i1 p1 (hs.of_sameStaking ss) (by
    rw [ss.ctx.height, ss.ctx.params]; exact hh) d1
  refine ⟨L', ?_, i2, p2, s2, d2, by rw [e1, ss.ctx.height], by rw [e2, ss.ctx.params], by rw [e3, ss.ctx.cfg], ?_⟩
  · exact bind_eq_ok.2 ⟨L1, h1, h2⟩
  · have := s1.1; omega

end Canopy.Ledger
