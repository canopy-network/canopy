import Canopy.Proof.LedgerEndBlockInv
/-! C12: an accepted genesis satisfies `InvStaking`. -/
namespace Canopy.Ledger
open AMap

/-- writing the record of a fresh address `a`, directly or on top of a first write `x` at `a` (the marker step of
`SetValidators` writes the record once already): lookups, key uniqueness and every sum whose weight does not tell
`x` from the final record -/
theorem fresh_record {m m' : List (Addr × Validator)} {a : Addr} {x v1 : Validator} (hg : find? m a = none) (hn : NodupKeys m)
    (hm : m' = m ∨ m' = AMap.set m a x) :
    (∀ b, find? (AMap.set m' a v1) b = if a = b then some v1 else find? m b) ∧ NodupKeys (AMap.set m' a v1) ∧
    ∀ f : Validator → Nat, f x = f v1 → sumBy f (AMap.set m' a v1) = sumBy f m + f v1 := by
  rcases hm with rfl | rfl
  · exact ⟨fun b => find?_set _ _ _ _, nodup_set _ _ _ hn, fun f _ => sumBy_set_fresh hg⟩
  · refine ⟨fun b => ?_, nodup_set _ _ _ (nodup_set _ _ _ hn), fun f hf => sumBy_set_set_fresh hg hf⟩
    rw [find?_set]
    by_cases hab : a = b
    · simp [hab]
    · simp only [hab, if_false]; rw [find?_set_ne _ _ hab]

/-- what the marker step and the record write of `SetValidators` leave behind for a fresh address -/
theorem genesisValidator_core {L : Ledger} {a : Addr} {v : Validator} (hm : Markers L) (hw : WFm L) (hg : valGet? L a = none) :
    let L1 := if v.unstakingHeight ≠ 0 then setValidatorUnstaking L a v v.unstakingHeight
      else if v.maxPausedHeight ≠ 0 then setValidatorPaused L a v v.maxPausedHeight else L
    let v1 : Validator := if v.unstakingHeight ≠ 0 then { v with maxPausedHeight := 0 } else v
    ∀ X : Ledger, X.validators = L1.validators → X.unstaking = L1.unstaking → X.paused = L1.paused →
      Markers (valPut X a v1) ∧ WFm (valPut X a v1) ∧
      (∀ f : Validator → Nat, sumBy f (valPut X a v1).validators = sumBy f L.validators + f v1) := by
  intro L1 v1 X hxv hxu hxp
  have hgf : find? L.validators a = none := hg
  have nopaused : ∀ h, KSet.has L.paused (h, a) = false :=
    not_paused_of_unstaking hm fun v hv => by rw [hg] at hv; cases hv
  -- in each of the three cases: the shape of the three fields of `X`, then `fresh_record` for the records and one
  -- `Marks` lemma for each marker set
  by_cases hu : v.unstakingHeight ≠ 0
  · have e1 : L1 = setValidatorUnstaking L a v v.unstakingHeight := if_pos hu
    have ev : v1 = { v with maxPausedHeight := 0 } := if_pos hu
    have hvv : X.validators = AMap.set L.validators a { v with maxPausedHeight := 0, unstakingHeight := v.unstakingHeight } := by
      rw [hxv, e1, setValidatorUnstaking_validators]
    have hun : X.unstaking = KSet.add L.unstaking (v.unstakingHeight, a) := by
      rw [hxu, e1, setValidatorUnstaking_eq]
    have hpa : X.paused = if v.maxPausedHeight ≠ 0 then KSet.del L.paused (v.maxPausedHeight, a) else L.paused := by
      rw [hxp, e1, setValidatorUnstaking_eq]
    obtain ⟨hget, hnd, hsum⟩ := fresh_record (v1 := v1) hgf hw.validators (Or.inr hvv)
    have mu : Marks (·.unstakingHeight) X.unstaking (valPut X a v1).validators := by
      rw [hun]; exact Marks.add hm.unstaking hget (by rw [hgf]; rfl) (by rw [ev]; rfl) hu
    -- the paused marker the step may delete is not there: the address is fresh
    have mp : Marks (·.maxPausedHeight) X.paused (valPut X a v1).validators := by
      have k : Marks (·.maxPausedHeight) L.paused (valPut X a v1).validators :=
        Marks.keep hm.paused hget (by rw [hgf, ev]; rfl)
      intro h b
      rw [hpa]
      split
      · rw [has_del_absent _ _ _ (nopaused _)]; exact k h b
      · exact k h b
    refine ⟨⟨mu, mp, forall_find?_update hm.exclusive hget (fun w e _ => by cases e; rw [ev])⟩, ⟨hnd, ?_, ?_⟩,
      fun f => hsum f (by rw [ev])⟩
    · show NodupKeys X.unstaking; rw [hun]; exact nodup_set _ _ _ hw.unstaking
    · show NodupKeys X.paused; rw [hpa]; split
      · exact nodup_erase _ _ hw.paused
      · exact hw.paused
  · have hu0 : v.unstakingHeight = 0 := by simpa using hu
    have ev : v1 = v := if_neg hu
    rw [ev]
    by_cases hp : v.maxPausedHeight ≠ 0
    · have e1 : L1 = setValidatorPaused L a v v.maxPausedHeight := (if_neg hu).trans (if_pos hp)
      have hvv : X.validators = AMap.set L.validators a { v with maxPausedHeight := v.maxPausedHeight } := by rw [hxv, e1]; rfl
      have hun : X.unstaking = L.unstaking := by rw [hxu, e1]; rfl
      have hpa : X.paused = KSet.add L.paused (v.maxPausedHeight, a) := by rw [hxp, e1]; rfl
      obtain ⟨hget, hnd, hsum⟩ := fresh_record (v1 := v) hgf hw.validators (Or.inr hvv)
      have mu : Marks (·.unstakingHeight) X.unstaking (valPut X a v).validators := by
        rw [hun]; exact Marks.keep hm.unstaking hget (by rw [hgf]; exact hu0)
      have mp : Marks (·.maxPausedHeight) X.paused (valPut X a v).validators := by
        rw [hpa]; exact Marks.add hm.paused hget (by rw [hgf]; rfl) rfl hp
      refine ⟨⟨mu, mp, forall_find?_update hm.exclusive hget (fun w e h => by cases e; exact absurd hu0 h)⟩, ⟨hnd, ?_, ?_⟩,
        fun f => hsum f rfl⟩
      · show NodupKeys X.unstaking; rw [hun]; exact hw.unstaking
      · show NodupKeys X.paused; rw [hpa]; exact nodup_set _ _ _ hw.paused
    · have hp0 : v.maxPausedHeight = 0 := by simpa using hp
      have e1 : L1 = L := (if_neg hu).trans (if_neg hp)
      rw [e1] at hxv hxu hxp
      obtain ⟨_, _, hsum⟩ := fresh_record (x := v) (v1 := v) hgf hw.validators (Or.inl hxv)
      obtain ⟨m, w⟩ := markers_keep (L' := valPut X a v) hm hw (congrArg (AMap.set · a v) hxv) hxu hxp
        (by rw [hg]; exact hu0) (by rw [hg]; exact hp0)
      exact ⟨m, w, fun f => hsum f rfl⟩

/-- `SetValidators` for one fresh validator keeps `InvStaking` -/
theorem genesisValidator_inv {L L' : Ledger} {g : GenesisValidator} (hs : InvStaking L) (hf : g.addr ∉ L.validators.map (·.1))
    (h : genesisValidator L g = .ok L') : InvStaking L' := by
  have hnone : valGet? L g.addr = none := find?_eq_none_of_not_mem _ _ hf
  have t := hs.tallies
  obtain ⟨_, L1, v1, e1, ev, r⟩ := genesisValidator_run h
  have hsup : L1.supply = L.supply := by rw [e1]; exact (genesisMarker_step L g.addr g.val).1.supply
  have core := genesisValidator_core (v := g.val) hs.markers hs.wfm hnone
  dsimp only at core
  rw [← e1, ← ev] at core
  obtain ⟨m3, w3, sums⟩ := core
    { L1 with supply := { L1.supply with total := L1.supply.total + g.val.stake } } rfl rfl rfl
  -- a record is added: the tallies are right since the four tallies of the supply record grew by its weights
  obtain ⟨pl, s3, s4⟩ := r.pools ⟨by rw [hsup]; exact hs.wf.committee, by rw [hsup]; exact hs.wf.delegated⟩
  have hc : ∀ c, comGet L1 c = comGet L c := fun c => by unfold comGet; rw [hsup]
  have hdl : ∀ c, delGet L1 c = delGet L c := fun c => by unfold delGet; rw [hsup]
  refine InvStaking.mk' (t.replace (old := none) (nv := some v1) (fun f => by rw [r.validators]; exact sums f) ?_ ?_
      (fun c => ?_) (fun c => ?_))
    (m3.of_same r.validators r.env.unstaking r.env.paused) (w3.of_same r.validators r.env.unstaking r.env.paused) pl
  · have q : L'.supply.staked + 0 = L1.supply.staked + v1.stake := r.staked
    rw [hsup] at q; exact q
  · have q : L'.supply.delegatedOnly + 0 = L1.supply.delegatedOnly + (if v1.delegate then v1.stake else 0) := r.delegatedOnly
    rw [hsup] at q; exact q
  · rw [← hc c]; exact s3 c
  · rw [← hdl c]; exact s4 c

theorem foldlM_genesisValidator_inv (gs : List GenesisValidator) (L L' : Ledger) (hs : InvStaking L)
    (hn : (gs.map (·.addr)).Nodup) (hk : ∀ g ∈ gs, g.addr ∉ L.validators.map (·.1)) (hu : ∀ g ∈ gs, g.val.stake ≤ MAXU)
    (h : gs.foldlM genesisValidator L = .ok L') : InvStaking L' :=
  (foldlM_load (·.addr) (·.val.stake) (fun L => L.validators.map (·.1)) (fun L L' => InvStaking L → InvStaking L')
    (fun _ i => i) (fun h1 h2 i => h2 (h1 i))
    (fun hf hu h => have ⟨t, m, b, k⟩ := genesisValidator_ok hf hu h; ⟨t, m, b, fun i => genesisValidator_inv i hf h, k⟩)
    gs L L' hn hk hu h).2.2 hs

theorem invStaking_empty (cfg : Config) (params : Params) : InvStaking ({ cfg := cfg, params := params, height := 0 } : Ledger) := by
  refine ⟨⟨rfl, rfl, fun c => rfl, fun c => rfl⟩, ⟨?_, ?_, ?_⟩, ⟨List.nodup_nil, List.nodup_nil, List.nodup_nil, List.nodup_nil, List.nodup_nil⟩⟩
  · intro h b
    constructor
    · intro e; cases e
    · rintro ⟨v, hv, _⟩; cases hv
  · intro h b
    constructor
    · intro e; cases e
    · rintro ⟨v, hv, _⟩; cases hv
  · intro b v hv; cases hv

/-- **an accepted genesis satisfies `InvStaking`** -/
theorem genesis_invStaking {cfg : Config} {params : Params} {accounts : List (Addr × Nat)} {pools : List (Nat × Nat)}
    {vals : List GenesisValidator} {retired : List Nat} {books : List GenesisBook} {L : Ledger}
    (ha : ∀ e ∈ accounts, e.2 ≤ MAXU) (hp : ∀ e ∈ pools, e.2 ≤ MAXU) (hv : ∀ g ∈ vals, g.val.stake ≤ MAXU)
    (h : genesis cfg params accounts pools vals retired books = .ok L) : InvStaking L := by
  obtain ⟨hval, L1, L2, L3, L4, h1, h2, h3, h4, rfl⟩ := genesis_ok h
  obtain ⟨nv, na, np, _⟩ := validateGenesis_distinct hval
  obtain ⟨_, _, a3, a4⟩ := foldlM_genesisAccount accounts _ L1 na (by intro e _ hm; simp at hm) ha h1
  obtain ⟨_, _, _, p4⟩ := foldlM_genesisPool pools L1 L2 np (by intro e _ hm; rw [a3] at hm; simp at hm) hp h2
  have r := a4.trans p4
  have s2 : InvStaking L2 := (invStaking_empty cfg params).of_same r.validators r.staked r.delegatedOnly r.committee r.delegated r.unstaking r.paused
  have s3 := foldlM_genesisValidator_inv vals L2 L3 s2 nv (by intro g _ hm; rw [r.validators] at hm; simp at hm) hv h3
  have r4 := (foldlM_genesisBook_rest books L3 L4 h4).1
  exact s3.of_same r4.validators r4.staked r4.delegatedOnly r4.committee r4.delegated r4.unstaking r4.paused

end Canopy.Ledger
