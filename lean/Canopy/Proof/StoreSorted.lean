import Canopy.Proof.StoreGroups
/-! Sorted association lists (`smSet/smDel/smGet`: the pebble key space and the txn overlays), folds of
`smSet` (the last write to a key wins, `smGet_foldl_last`), and the decomposition of a well-formed key
space `WFL` into per-user-key groups (`exists_groups`; conversely `sorted_flat`, `smGet_flat`) (C10). -/
namespace Canopy.Store

/-- strictly sorted by key -/
def SSorted {α : Type} (l : List (Bytes × α)) : Prop := l.Pairwise fun a b => blt a.1 b.1 = true

theorem SSorted.tail {α : Type} {a : Bytes × α} {l : List (Bytes × α)} (h : SSorted (a :: l)) : SSorted l :=
  (List.pairwise_cons.mp h).2

theorem SSorted.head_lt {α : Type} {a : Bytes × α} {l : List (Bytes × α)} (h : SSorted (a :: l)) :
    ∀ b ∈ l, blt a.1 b.1 = true := (List.pairwise_cons.mp h).1

theorem smGet_eq_none_of_lt {α : Type} {l : List (Bytes × α)} {k : Bytes}
    (h : ∀ b ∈ l, blt k b.1 = true) : smGet l k = none := by
  fun_induction smGet l k with
  | case1 k => rfl
  | case2 va r k =>
    have := h _ List.mem_cons_self
    rw [blt_irrefl] at this
    cases this
  | case3 ka va r k h2 ih => exact ih fun b hb => h b (List.mem_cons_of_mem _ hb)

theorem smGet_none_of_head_lt {α : Type} {a : Bytes × α} {l : List (Bytes × α)} (hs : SSorted (a :: l)) :
    smGet l a.1 = none := smGet_eq_none_of_lt hs.head_lt

theorem smGet_eq_some_iff {α : Type} {l : List (Bytes × α)} (hs : SSorted l) (k : Bytes) (v : α) :
    smGet l k = some v ↔ (k, v) ∈ l := by
  fun_induction smGet l k with
  | case1 k => simp
  | case2 va r k =>
    constructor
    · intro h
      cases h
      exact List.mem_cons_self
    · intro h
      rcases List.mem_cons.mp h with h | h
      · cases h; rfl
      · have := hs.head_lt _ h
        rw [blt_irrefl] at this
        cases this
  | case3 ka va r k h2 ih =>
    rw [ih hs.tail, List.mem_cons]
    exact (or_iff_right fun h => h2 (congrArg Prod.fst h)).symm

theorem smGet_isSome_iff {α : Type} {l : List (Bytes × α)} (hs : SSorted l) (k : Bytes) :
    (smGet l k).isSome ↔ ∃ v, (k, v) ∈ l := by
  constructor
  · intro h
    obtain ⟨v, hv⟩ := Option.isSome_iff_exists.mp h
    exact ⟨v, (smGet_eq_some_iff hs k v).mp hv⟩
  · rintro ⟨v, hv⟩
    rw [(smGet_eq_some_iff hs k v).mpr hv]; rfl

theorem smGet_filter {α : Type} {l : List (Bytes × α)} (hs : SSorted l) (p : Bytes × α → Bool) (k : Bytes) :
    smGet (l.filter p) k = (smGet l k).filter fun x => p (k, x) := by
  induction l with
  | nil => rfl
  | cons a l ih =>
    obtain ⟨ka, va⟩ := a
    by_cases hk : k = ka
    · subst hk
      have hn : smGet l k = none := smGet_eq_none_of_lt hs.head_lt
      cases hp : p (k, va) with
      | true => simp [hp, smGet, Option.filter]
      | false => simp [hp, smGet, ih hs.tail, hn, Option.filter]
    · cases hp : p (ka, va) <;> simp [hp, smGet, hk, ih hs.tail]

theorem smGet_smSet {α : Type} (l : List (Bytes × α)) (k : Bytes) (v : α) (k' : Bytes) :
    smGet (smSet l k v) k' = if k' = k then some v else smGet l k' := by
  fun_induction smSet l k v with
  | case1 k v => rfl
  | case2 ka va r k v h1 => rfl
  | case3 va r k v h1 =>
    by_cases h3 : k' = k
    · simp only [smGet, h3, if_true]
    · simp only [smGet, h3, if_false]
  | case4 ka va r k v h1 h2 ih =>
    by_cases h3 : k' = ka
    · simp only [smGet, h3, if_true, if_neg (Ne.symm h2)]
    · simp only [smGet, h3, if_false, ih]

theorem mem_of_mem_smSet {α : Type} {l : List (Bytes × α)} {k : Bytes} {v : α} {e : Bytes × α}
    (h : e ∈ smSet l k v) : e = (k, v) ∨ e ∈ l := by
  fun_induction smSet l k v with
  | case1 k v => exact Or.inl (List.mem_singleton.mp h)
  | case2 ka va r k v h1 => exact List.mem_cons.mp h
  | case3 va r k v h1 => exact (List.mem_cons.mp h).imp_right (List.mem_cons_of_mem _)
  | case4 ka va r k v h1 h2 ih =>
    rcases List.mem_cons.mp h with h | h
    · exact Or.inr (h ▸ List.mem_cons_self)
    · exact (ih h).imp_right (List.mem_cons_of_mem _)

theorem sorted_smSet {α : Type} {l : List (Bytes × α)} (hs : SSorted l) (k : Bytes) (v : α) :
    SSorted (smSet l k v) := by
  fun_induction smSet l k v with
  | case1 k v => exact List.pairwise_singleton _ _
  | case2 ka va r k v h1 =>
    refine List.pairwise_cons.mpr ⟨fun b hb => ?_, hs⟩
    rcases List.mem_cons.mp hb with rfl | hb
    · exact h1
    · exact blt_trans h1 (hs.head_lt b hb)
  | case3 va r k v h1 => exact List.pairwise_cons.mpr ⟨hs.head_lt, hs.tail⟩
  | case4 ka va r k v h1 h2 ih =>
    refine List.pairwise_cons.mpr ⟨fun b hb => ?_, ih hs.tail⟩
    rcases mem_of_mem_smSet hb with rfl | hb
    · exact ((blt_trichotomy k ka).resolve_left h1).resolve_left h2
    · exact hs.head_lt b hb

theorem smGet_smDel {α : Type} {l : List (Bytes × α)} (hs : SSorted l) (k k' : Bytes) :
    smGet (smDel l k) k' = if k' = k then none else smGet l k' := by
  fun_induction smDel l k with
  | case1 k => simp only [smGet, ite_self]
  | case2 va r k =>
    by_cases h3 : k' = k
    · rw [if_pos h3, h3]
      exact smGet_eq_none_of_lt hs.head_lt
    · simp only [smGet, h3, if_false]
  | case3 ka va r k h2 ih =>
    by_cases h3 : k' = ka
    · simp only [smGet, h3, if_true, if_neg (Ne.symm h2)]
    · simp only [smGet, h3, if_false, ih hs.tail]

theorem mem_of_mem_smDel {α : Type} {l : List (Bytes × α)} {k : Bytes} {e : Bytes × α}
    (h : e ∈ smDel l k) : e ∈ l := by
  fun_induction smDel l k with
  | case1 k => exact h
  | case2 va r k => exact List.mem_cons_of_mem _ h
  | case3 ka va r k h2 ih =>
    rcases List.mem_cons.mp h with h | h
    · exact h ▸ List.mem_cons_self
    · exact List.mem_cons_of_mem _ (ih h)

theorem sorted_smDel {α : Type} {l : List (Bytes × α)} (hs : SSorted l) (k : Bytes) : SSorted (smDel l k) := by
  fun_induction smDel l k with
  | case1 k => exact hs
  | case2 va r k => exact hs.tail
  | case3 ka va r k h2 ih =>
    exact List.pairwise_cons.mpr ⟨fun b hb => hs.head_lt b (mem_of_mem_smDel hb), ih hs.tail⟩

theorem mem_of_mem_foldl_smSet {α β : Type} (k : β → Bytes) (v : β → α) {l : List β} {base : List (Bytes × α)}
    {e : Bytes × α} (h : e ∈ l.foldl (fun acc x => smSet acc (k x) (v x)) base) :
    (∃ x ∈ l, e = (k x, v x)) ∨ e ∈ base := by
  induction l generalizing base with
  | nil => exact Or.inr h
  | cons a l ih =>
    rcases ih h with ⟨x, hx, he⟩ | h
    · exact Or.inl ⟨x, List.mem_cons_of_mem _ hx, he⟩
    · exact (mem_of_mem_smSet h).imp_left fun he => ⟨a, List.mem_cons_self, he⟩

theorem SSorted.foldl_smSet {α β : Type} (k : β → Bytes) (v : β → α) (l : List β) {base : List (Bytes × α)}
    (h : SSorted base) : SSorted (l.foldl (fun acc x => smSet acc (k x) (v x)) base) :=
  List.foldlRecOn l _ h fun _ hb x _ => sorted_smSet hb (k x) (v x)

theorem smGet_foldl_smSet (ops : Overlay) (hs : SSorted ops) (acc : Overlay) (k : Bytes) :
    smGet (ops.foldl (fun o e => smSet o e.1 e.2) acc) k =
      match smGet ops k with
      | some op => some op
      | none => smGet acc k := by
  induction ops generalizing acc with
  | nil => rfl
  | cons a ops ih =>
    obtain ⟨ka, oa⟩ := a
    rw [List.foldl_cons, ih hs.tail, smGet_smSet]
    simp only [smGet]
    by_cases h : k = ka
    · subst h
      rw [smGet_none_of_head_lt hs]
      simp
    · simp only [h, if_false]

def lookupLast (es : List (Bytes × TOp)) (k : Bytes) : Option TOp := (es.reverse.find? fun e => e.1 == k).map (·.2)

theorem lookupLast_mem {es : List (Bytes × TOp)} {k : Bytes} {v : TOp} (h : lookupLast es k = some v) : (k, v) ∈ es := by
  obtain ⟨x, hf, rfl⟩ := Option.map_eq_some_iff.mp h
  have hk : x.1 = k := by simpa using List.find?_some hf
  exact hk ▸ List.mem_reverse.mp (List.mem_of_find?_eq_some hf)

theorem lookupLast_none {es : List (Bytes × TOp)} {k : Bytes} (h : ∀ v, (k, v) ∉ es) : lookupLast es k = none := by
  cases hl : lookupLast es k with
  | none => rfl
  | some v => exact absurd (lookupLast_mem hl) (h v)

theorem lookupLast_of_functional {es : List (Bytes × TOp)} {k : Bytes} {v : TOp} (hm : (k, v) ∈ es)
    (hf : ∀ v', (k, v') ∈ es → v' = v) : lookupLast es k = some v := by
  cases hl : lookupLast es k with
  | none =>
    have := List.find?_eq_none.mp (Option.map_eq_none_iff.mp hl) (k, v) (List.mem_reverse.mpr hm)
    simp at this
  | some v' => rw [hf v' (lookupLast_mem hl)]

theorem nodup_keys_inj {α : Type} {es : List (Bytes × α)} (hn : (es.map (·.1)).Nodup) {x y : Bytes × α}
    (hx : x ∈ es) (hy : y ∈ es) (hk : x.1 = y.1) : x = y := by
  have hp : es.Pairwise fun a b => a.1 = b.1 → a = b := (List.pairwise_map.mp hn).imp fun h e => absurd e h
  exact List.Pairwise.forall_of_forall_of_flip (fun _ _ _ => rfl) hp (hp.imp fun h e => (h e.symm).symm) hx hy hk

theorem lookupLast_of_nodup {es : List (Bytes × TOp)} (hn : (es.map (·.1)).Nodup) (k : Bytes) (v : TOp) :
    lookupLast es k = some v ↔ (k, v) ∈ es :=
  ⟨lookupLast_mem, fun hm => lookupLast_of_functional hm fun _ hm' => congrArg Prod.snd (nodup_keys_inj hn hm' hm rfl)⟩

theorem smGet_foldl_last (es : List (Bytes × TOp)) (acc : Overlay) (k : Bytes) :
    smGet (es.foldl (fun o e => smSet o e.1 e.2) acc) k =
      match lookupLast es k with
      | some v => some v
      | none => smGet acc k := by
  induction es generalizing acc with
  | nil => rfl
  | cons e es ih =>
    rw [List.foldl_cons, ih, smGet_smSet]
    unfold lookupLast
    simp only [List.reverse_cons, List.find?_append, List.find?_cons, List.find?_nil]
    -- a later write to `k` wins; otherwise the head decides
    cases es.reverse.find? (fun x => x.1 == k) with
    | some x => rfl
    | none =>
      by_cases hk : k = e.1
      · simp [hk]
      · simp [hk, beq_eq_false_iff_ne.mpr (Ne.symm hk)]

/-- `WFKeys` at the level of the pebble key space: sorted, every key is `userKey ++ ^version` with a
non-empty user key of at most 248 bytes, and no user key is a proper byte-prefix of another -/
structure WFL (l : List Entry) : Prop where
  sorted : SSorted l
  shaped : ∀ e ∈ l, ∃ uk w, e.1 = mkKey uk w ∧ uk ≠ [] ∧ uk.length ≤ 248 ∧ w ≤ maxVer
  pf : ∀ e1 ∈ l, ∀ e2 ∈ l, ∀ u1 w1 u2 w2, e1.1 = mkKey u1 w1 → e2.1 = mkKey u2 w2 → u1 <+: u2 → u1 = u2

theorem WFL.tail {e : Entry} {l : List Entry} (h : WFL (e :: l)) : WFL l :=
  ⟨h.sorted.tail, fun x hx => h.shaped x (List.mem_cons_of_mem _ hx),
   fun a ha b hb => h.pf a (List.mem_cons_of_mem _ ha) b (List.mem_cons_of_mem _ hb)⟩

/-- in a well-formed key space the versions of one user key are contiguous and newest first, and
the user keys ascend -/
theorem exists_groups (l : List Entry) (h : WFL l) : ∃ gs, WFG gs ∧ flat gs = l := by
  induction l with
  | nil => exact ⟨[], WFG.nil, rfl⟩
  | cons e l ih =>
    obtain ⟨gs, hW, hfl⟩ := ih h.tail
    obtain ⟨uk, w, hek, hne, hlen, hw⟩ := h.shaped e List.mem_cons_self
    obtain ⟨ek, raw⟩ := e
    simp only at hek
    subst hek
    have hord : ∀ g ∈ gs, g.uk ≠ uk → blt uk g.uk = true ∧ ¬ uk <+: g.uk := by
      intro g hg hne'
      obtain ⟨q, _, hm⟩ := mem_flat_of_group hW hg
      rw [hfl] at hm
      have h12 : ¬ uk <+: g.uk := fun hp =>
        hne' (h.pf _ List.mem_cons_self _ (List.mem_cons_of_mem _ hm) uk w g.uk q.1 rfl rfl hp).symm
      have h21 : ¬ g.uk <+: uk := fun hp =>
        hne' (h.pf _ (List.mem_cons_of_mem _ hm) _ List.mem_cons_self g.uk q.1 uk w rfl rfl hp)
      exact ⟨blt_uk_of_blt_key (Ne.symm hne') h21 (h.sorted.head_lt _ hm), h12⟩
    -- a user key not met among the later groups opens a group of its own
    have hnew : (∀ x ∈ gs, x.uk ≠ uk) → ∃ gs', WFG gs' ∧ flat gs' = (mkKey uk w, raw) :: l := by
      intro hall
      refine ⟨⟨uk, [(w, raw)]⟩ :: gs,
        WFG.cons ⟨hne, hlen, by simp, by simp, by simpa using hw⟩ (fun x hx => hord x hx (hall x hx)) hW, ?_⟩
      rw [← hfl]; simp [G.entries]
    cases gs with
    | nil => exact hnew (by simp)
    | cons g gs' =>
      by_cases hgu : g.uk = uk
      · -- same user key: a newer version of the first group
        have hgw := hW.wf g List.mem_cons_self
        refine ⟨⟨uk, (w, raw) :: g.es⟩ :: gs', WFG.cons ⟨hne, hlen, by simp, ?_, ?_⟩
          (fun x hx => hgu ▸ (List.pairwise_cons.mp hW.order).1 x hx) hW.tail, ?_⟩
        · refine List.pairwise_cons.mpr ⟨?_, hgw.desc⟩
          intro q hq
          have hm : (mkKey g.uk q.1, q.2) ∈ l :=
            hfl ▸ mem_flat.mpr ⟨g, List.mem_cons_self, mem_entries.mpr ⟨q, hq, rfl⟩⟩
          have := h.sorted.head_lt _ hm
          rw [hgu, blt_mkKey_same uk hw (hgw.le_max q hq)] at this
          simpa using this
        · exact List.forall_mem_cons.mpr ⟨hw, hgw.le_max⟩
        · rw [← hfl]; simp [G.entries, hgu]
      · refine hnew fun x hx hxu => ?_
        rcases List.mem_cons.mp hx with rfl | hx'
        · exact hgu hxu
        · -- contiguity: g's entries lie between two entries of uk
          have h1 := hord g List.mem_cons_self hgu
          have h2 := (List.pairwise_cons.mp hW.order).1 x hx'
          rw [hxu] at h2
          have := blt_trans h1.1 h2.1
          rw [blt_irrefl] at this; cases this

theorem sorted_flat {gs : List G} (hW : WFG gs) : SSorted (flat gs) := by
  unfold SSorted flat
  rw [List.pairwise_flatten]
  constructor
  · intro l hl
    obtain ⟨g, hg, rfl⟩ := List.mem_map.mp hl
    have hgw := hW.wf g hg
    unfold G.entries
    rw [List.pairwise_map]
    exact hgw.desc.imp_of_mem fun {p q} hp hq hlt => by
      show blt (mkKey g.uk p.1) (mkKey g.uk q.1) = true
      rw [blt_mkKey_same g.uk (hgw.le_max p hp) (hgw.le_max q hq)]; simpa using hlt
  · rw [List.pairwise_map]
    exact hW.order.imp fun {g h} hgh x hx y hy => by
      obtain ⟨q, _, rfl⟩ := mem_entries.mp hy
      exact blt_of_earlier hgh.1 hgh.2 hx _

/-- the key space as a finite map: which versions of which user key are present -/
theorem smGet_flat {gs : List G} (hW : WFG gs) (uk : Bytes) (w : Nat) (hw : w ≤ maxVer) (raw : Bytes) :
    smGet (flat gs) (mkKey uk w) = some raw ↔ ∃ g ∈ gs, g.uk = uk ∧ (w, raw) ∈ g.es := by
  rw [smGet_eq_some_iff (sorted_flat hW)]
  constructor
  · intro h
    obtain ⟨g, hg, he⟩ := mem_flat.mp h
    obtain ⟨q, hq, heq⟩ := mem_entries.mp he
    simp only [Prod.mk.injEq] at heq
    obtain ⟨h1, h2⟩ := mkKey_inj hw ((hW.wf g hg).le_max q hq) heq.1
    refine ⟨g, hg, h1.symm, ?_⟩
    rw [h2, heq.2]; exact hq
  · rintro ⟨g, hg, rfl, hq⟩
    exact mem_flat.mpr ⟨g, hg, mem_entries.mpr ⟨(w, raw), hq, rfl⟩⟩

end Canopy.Store
