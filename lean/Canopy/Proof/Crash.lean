import Canopy.Proof.StoreRollback
import Canopy.Model.Crash
/-! C09: the atomicity logic of the block commit over the batch-list model of the database.
The store reopens from the `a/` record at the reserved version; a block commit is one batch that writes
that record and the commit id of its height, and nothing at an older version (`block_above`, `run_agree`).
With one batch per block commit and per rollback, every batch prefix of a history's disk is the disk of a
prefix of the history (`take_run_single`, `take_runEv_single`), and the disk of a history holds the chain
the history built (`ChainInv.run`). Last: over nested transactions, a flushed transaction's last state and
index writes are the block's pending ones (`flushed_tx_reaches_block`), a discarded one leaves nothing
(`discarded_tx_vanishes`). -/
namespace Canopy.Crash
open Canopy.Store

theorem dbOf_append (d e : Disk) : dbOf (d ++ e) = e.foldl applyBatch (dbOf d) := List.foldl_append

theorem dbOf_snoc (d : Disk) (b : List BatchOp) : dbOf (d ++ [b]) = applyBatch (dbOf d) b := dbOf_append d [b]

theorem sorted_dbOf (d : Disk) : SSorted (dbOf d) :=
  List.foldlRecOn d applyBatch List.Pairwise.nil fun _ h b _ => sorted_applyBatch h b

theorem smGet_dbOf_snoc_put (d : Disk) (ops : List BatchOp) (key v : Bytes) :
    smGet (dbOf (d ++ [ops ++ [.put key v]])) key = some v := by
  rw [dbOf_snoc, smGet_applyBatch (sorted_dbOf d), batchLookup_append]
  simp [batchLookup, opKey, opRes]

theorem heightOf_cidVal (h : Nat) (root : Bytes) (hh : h ≤ maxVer) : heightOf (cidVal h root) = h := by
  unfold heightOf cidVal rawAlive parseVal
  simp only
  rw [List.take_left' (by rfl)]
  exact beNat_be8 h (Nat.lt_succ_of_le hh)

theorem rootOf_cidVal (h : Nat) (root : Bytes) : rootOf (cidVal h root) = root := by
  unfold rootOf cidVal rawAlive parseVal
  simp only
  rw [List.drop_left' (by rfl)]

theorem head_dropWhile_present {l : List Entry} (hs : SSorted l) {k v : Bytes} (hm : (k, v) ∈ l) :
    (l.dropWhile fun e => blt e.1 k).head? = some (k, v) := by
  induction l with
  | nil => cases hm
  | cons a l ih =>
    rw [List.dropWhile_cons]
    rcases List.mem_cons.mp hm with rfl | hm'
    · simp [blt_irrefl]
    · have hlt : blt a.1 k = true := hs.head_lt (k, v) hm'
      simp only [hlt, if_true]
      exact ih hs.tail hm'

/-- the versioned read of user key `u` at version `v` returns the record stored at exactly `(u, v)` when
there is one — whatever else the key space holds (no well-formedness of other keys is needed) -/
theorem getRaw_present {db : DB} (hs : SSorted db) {u : Bytes} (hu : u ≠ []) {v : Nat} (hv : v ≤ maxVer) {raw : Bytes}
    (h : smGet db (mkKey u v) = some raw) : (VS.mk db v).getRaw u = some (parseVal raw) := by
  have hm : (mkKey u v, raw) ∈ db := (smGet_eq_some_iff hs _ _).mp h
  have hb : (mkKey u v, raw) ∈ bound db u (prefixEnd u) := by
    unfold bound
    rw [List.mem_filter]
    refine ⟨hm, ?_⟩
    have h1 : ble u (mkKey u v) = true := ble_of_prefix ⟨invVer v, rfl⟩
    have h2 : blt (mkKey u v) (prefixEnd u) = true := blt_prefixEnd (by rw [invVer_length]; omega)
    simp [h1, h2]
  have hsb : SSorted (bound db u (prefixEnd u)) := List.Pairwise.filter _ hs
  have hd := head_dropWhile_present hsb hb
  unfold VS.getRaw PCur.seekGE PCur.cur?
  simp only [Bool.false_eq_true, if_false, hd, userKeyOf_mkKey v hu, versionOf_mkKey u hv]
  simp

/-- **the pointer `getLatestCommitID` reads is the record at the reserved version** whenever there is one:
records of the same key written at block heights sort after it and are never reached -/
theorem latestPointer_of_last {d : Disk} {raw : Bytes} (h : smGet (dbOf d) (mkKey lastPrefix maxVer) = some raw) :
    latestPointer d = some (rawAlive (parseVal raw).2) := by
  unfold latestPointer
  rw [getRaw_present (sorted_dbOf d) (by decide) (Nat.le_refl _) h]
  rfl

theorem version_of_last {d : Disk} {h : Nat} {root : Bytes} (hh : h ≤ maxVer)
    (hl : smGet (dbOf d) (mkKey lastPrefix maxVer) = some (cidVal h root)) : version d = h := by
  unfold version; rw [latestPointer_of_last hl]; exact heightOf_cidVal h root hh

theorem latestRoot_of_last {d : Disk} {h : Nat} {root : Bytes}
    (hl : smGet (dbOf d) (mkKey lastPrefix maxVer) = some (cidVal h root)) : latestRoot d = root := by
  unfold latestRoot; rw [latestPointer_of_last hl]; exact rootOf_cidVal h root

theorem version_empty : version [] = 0 := by decide

theorem lastPrefix_eq : lastPrefix = [2, 97, 47] := rfl
theorem cidPrefix_eq : cidPrefix = [2, 120, 47] := rfl
theorem idxPrefix_eq : idxPrefix = [2, 105, 47] := rfl

theorem lastPrefix_ne (k : Bytes) : lastPrefix ≠ cidPrefix ++ k ∧ lastPrefix ≠ idxPrefix ++ k ∧
    lastPrefix ≠ lssPrefix ++ k ∧ lastPrefix ≠ hssPrefix ++ k := by
  rw [lastPrefix_eq, cidPrefix_eq, idxPrefix_eq, lssPrefix_eq, hssPrefix_eq]
  simp

theorem commitIDKey_ne (k : Bytes) (h : Nat) : commitIDKey h ≠ idxPrefix ++ k ∧
    commitIDKey h ≠ lssPrefix ++ k ∧ commitIDKey h ≠ hssPrefix ++ k := by
  unfold commitIDKey
  rw [cidPrefix_eq, idxPrefix_eq, lssPrefix_eq, hssPrefix_eq]
  simp

theorem commitIDKey_ne_nil (h : Nat) : commitIDKey h ≠ [] := by
  unfold commitIDKey; rw [cidPrefix_eq]; simp

/-- the SMT node keys of a block do not collide with a commit-id key (both live under `x/`, as `Root()` is
written; node keys are not of the form `lenPrefix(decimal height)`) -/
def SmtOK (b : BlockIn) : Prop := ∀ e ∈ b.smt, ∀ h : Nat, e.1 ≠ joinLenPrefix [decimal h]

/-- the keys a block's batch touches besides its two commit-id records: SMT nodes, historical state and
indexer entries at the block's height, latest state at the reserved version — none of them the
latest-commit pointer, nor (node keys not colliding) the block's commit-id key -/
theorem opKey_rest {next : Nat} {b : BlockIn} {op : BatchOp}
    (h : op ∈ smtPart next b ++ (statePart next b ++ idxPart next b)) :
    ∃ u w, opKey op = mkKey u w ∧ (w = next ∨ w = maxVer) ∧ lastPrefix ≠ u ∧ (SmtOK b → commitIDKey next ≠ u) := by
  simp only [List.mem_append, smtPart, idxPart, statePart, List.mem_map] at h
  rcases h with ⟨e, he, rfl⟩ | hst | ⟨e, _, rfl⟩ | ⟨e, _, rfl⟩
  · exact ⟨_, _, rfl, Or.inl rfl, (lastPrefix_ne _).1, fun hb e' => hb e he next (List.append_cancel_left e').symm⟩
  · obtain ⟨a, _, h | h⟩ := opKey_commitBatch hst
    · exact ⟨_, _, h, Or.inr rfl, (lastPrefix_ne _).2.2.1, fun _ => (commitIDKey_ne _ next).2.1⟩
    · exact ⟨_, _, h, Or.inl rfl, (lastPrefix_ne _).2.2.2, fun _ => (commitIDKey_ne _ next).2.2⟩
  · exact ⟨_, _, rfl, Or.inl rfl, (lastPrefix_ne _).2.1, fun _ => (commitIDKey_ne _ next).1⟩
  · exact ⟨_, _, rfl, Or.inl rfl, (lastPrefix_ne _).2.1, fun _ => (commitIDKey_ne _ next).1⟩

theorem rest_not_last (next : Nat) (b : BlockIn) :
    ∀ op ∈ smtPart next b ++ (statePart next b ++ idxPart next b), opKey op ≠ mkKey lastPrefix maxVer := by
  intro op hop e
  obtain ⟨u, w, hk, _, hne, _⟩ := opKey_rest hop
  rw [hk] at e
  exact hne (mkKey_uk_inj e).symm

theorem rest_not_cid (next : Nat) (b : BlockIn) (hb : SmtOK b) :
    ∀ op ∈ smtPart next b ++ (statePart next b ++ idxPart next b), opKey op ≠ mkKey (commitIDKey next) next := by
  intro op hop e
  obtain ⟨u, w, hk, _, _, hne⟩ := opKey_rest hop
  rw [hk] at e
  exact hne hb (mkKey_uk_inj e).symm

/-- a block's batch writes at its height and at 2^64-1 only -/
theorem block_above (next : Nat) (b : BlockIn) {v : Nat} (hv : v < next) (hn : next < maxVer) :
    Above v (cidPart .lss next b ++ (smtPart next b ++ (statePart next b ++ idxPart next b))) := by
  have hmax := fun u => lt_versionOf_mkKey u (Nat.lt_trans hv hn) (Nat.le_refl _)
  have hnext := fun u => lt_versionOf_mkKey u hv (Nat.le_of_lt hn)
  intro op hop
  rcases List.mem_append.mp hop with hop | hop
  · simp only [cidPart, List.mem_cons, List.not_mem_nil, or_false] at hop
    rcases hop with rfl | rfl
    · exact hmax _
    · exact hnext _
  · obtain ⟨u, w, hk, hw, _⟩ := opKey_rest hop
    rw [hk]
    rcases hw with rfl | rfl
    · exact hnext u
    · exact hmax u

theorem last_after_single (d : Disk) (next : Nat) (b : BlockIn) :
    smGet (dbOf (d ++ blockBatches .single .lss next b)) (mkKey lastPrefix maxVer) = some (cidVal next b.root) := by
  have hne : mkKey lastPrefix maxVer ≠ mkKey (commitIDKey next) next :=
    fun e => (lastPrefix_ne _).1 (mkKey_uk_inj e)
  simp only [blockBatches]
  rw [dbOf_snoc, smGet_applyBatch (sorted_dbOf d), List.append_assoc, List.append_assoc, batchLookup_append,
    batchLookup_of_not_key (rest_not_last next b)]
  simp [batchLookup, cidPart, PtrAt.version, opKey, opRes, hne]

theorem cid_after_single (d : Disk) (next : Nat) (b : BlockIn) (hb : SmtOK b) :
    smGet (dbOf (d ++ blockBatches .single .lss next b)) (mkKey (commitIDKey next) next) = some (cidVal next b.root) := by
  simp only [blockBatches]
  rw [dbOf_snoc, smGet_applyBatch (sorted_dbOf d), List.append_assoc, List.append_assoc, batchLookup_append,
    batchLookup_of_not_key (rest_not_cid next b hb)]
  simp [batchLookup, cidPart, opKey, opRes]

theorem version_commit_single (d : Disk) (b : BlockIn) (hv : version d + 1 ≤ maxVer) :
    version (commitBlock .single .lss d b) = version d + 1 :=
  version_of_last hv (last_after_single d (version d + 1) b)

theorem latestRoot_commit_single (d : Disk) (b : BlockIn) : latestRoot (commitBlock .single .lss d b) = b.root :=
  latestRoot_of_last (last_after_single d (version d + 1) b)

theorem runEv_append (sh : Shape) (p : PtrAt) (d : Disk) (a b : List Ev) :
    runEv sh p d (a ++ b) = runEv sh p (runEv sh p d a) b := List.foldl_append

theorem run_eq_runEv (sh : Shape) (p : PtrAt) (d : Disk) (bs : List BlockIn) :
    run sh p d bs = runEv sh p d (bs.map Ev.block) := by
  simp only [run, runEv, List.foldl_map]
  rfl

theorem run_append (sh : Shape) (p : PtrAt) (d : Disk) (a b : List BlockIn) : run sh p d (a ++ b) = run sh p (run sh p d a) b := by
  simp only [run_eq_runEv, List.map_append, runEv_append]

theorem applyEv_single (p : PtrAt) (d : Disk) (ev : Ev) :
    ∃ X, X.length ≤ 1 ∧ applyEv .single p d ev = d ++ X := by
  cases ev with
  | block b => exact ⟨blockBatches .single p (version d + 1) b, Nat.le_refl 1, rfl⟩
  | rollback t =>
    simp only [applyEv]
    split
    · next batch _ => exact ⟨[batch], Nat.le_refl 1, rfl⟩
    · exact ⟨[], Nat.zero_le 1, (List.append_nil d).symm⟩

theorem runEv_prefix (p : PtrAt) (evs : List Ev) : ∀ d : Disk, ∃ X, runEv .single p d evs = d ++ X := by
  induction evs with
  | nil => intro d; exact ⟨[], (List.append_nil d).symm⟩
  | cons ev evs ih =>
    intro d
    obtain ⟨X1, _, h1⟩ := applyEv_single p d ev
    obtain ⟨X, hX⟩ := ih (applyEv .single p d ev)
    exact ⟨X1 ++ X, by show runEv .single p (applyEv .single p d ev) evs = _; rw [hX, h1, List.append_assoc]⟩

/-- with one batch per block commit and per rollback, every batch prefix of a history's disk (no shorter
than where it started) is the disk of a prefix of the history -/
theorem take_runEv_single (p : PtrAt) (evs : List Ev) : ∀ (d : Disk) (j : Nat), d.length ≤ j →
    j ≤ (runEv .single p d evs).length →
    ∃ i, i ≤ evs.length ∧ (runEv .single p d evs).take j = runEv .single p d (evs.take i) := by
  induction evs with
  | nil =>
    intro d j h1 h2
    exact ⟨0, Nat.le_refl _, by simp only [runEv, List.foldl_nil, List.take_nil] at h2 ⊢; exact List.take_of_length_le h1⟩
  | cons ev evs ih =>
    intro d j h1 h2
    by_cases hj : (applyEv .single p d ev).length ≤ j
    · obtain ⟨i, hi, he⟩ := ih (applyEv .single p d ev) j hj h2
      exact ⟨i + 1, Nat.succ_le_succ hi, he⟩
    · refine ⟨0, Nat.zero_le _, ?_⟩
      obtain ⟨X1, hl, hd⟩ := applyEv_single p d ev
      obtain ⟨X, hX⟩ := runEv_prefix p evs (applyEv .single p d ev)
      rw [hd, List.length_append] at hj
      have hjd : j = d.length :=
        Nat.le_antisymm (Nat.le_of_lt_succ (Nat.lt_of_lt_of_le (Nat.lt_of_not_le hj) (Nat.add_le_add_left hl _))) h1
      show (runEv .single p (applyEv .single p d ev) evs).take j = _
      rw [hX, hd, List.append_assoc, hjd, List.take_left' rfl]
      rfl

theorem length_run_single (bs : List BlockIn) : ∀ d : Disk, (run .single .lss d bs).length = d.length + bs.length := by
  induction bs with
  | nil => intro d; rfl
  | cons b bs ih =>
    intro d
    show (run .single .lss (commitBlock .single .lss d b) bs).length = _
    rw [ih, List.length_cons, Nat.add_comm bs.length 1, ← Nat.add_assoc]
    congr 1
    exact List.length_append

theorem take_run_single (bs : List BlockIn) (j : Nat) :
    (run .single .lss [] bs).take j = run .single .lss [] (bs.take j) := by
  by_cases hj : j ≤ bs.length
  · -- the run of all blocks extends the run of the first `j`, which has `j` batches
    obtain ⟨X, hX⟩ := runEv_prefix .lss ((bs.drop j).map Ev.block) (run .single .lss [] (bs.take j))
    rw [← run_eq_runEv, ← run_append, List.take_append_drop] at hX
    rw [hX, List.take_left' (by rw [length_run_single, List.length_take, Nat.min_eq_left hj]; exact Nat.zero_add j)]
  · have hle : bs.length ≤ j := Nat.le_of_lt (Nat.lt_of_not_le hj)
    rw [List.take_of_length_le hle, List.take_of_length_le]
    rw [length_run_single, List.length_nil, Nat.zero_add]
    exact hle

theorem version_run_single (bs : List BlockIn) : ∀ d : Disk, version d + bs.length ≤ maxVer →
    version (run .single .lss d bs) = version d + bs.length := by
  induction bs with
  | nil => intro d _; rfl
  | cons b bs ih =>
    intro d h
    rw [List.length_cons, Nat.add_comm bs.length 1, ← Nat.add_assoc] at h ⊢
    have hv := version_commit_single d b (Nat.le_trans (Nat.le_add_right _ _) h)
    rw [← hv] at h ⊢
    exact ih _ h

theorem version_run_take (bs : List BlockIn) (hb : bs.length ≤ maxVer) {j : Nat} (hj : j ≤ bs.length) :
    version (run .single .lss [] (bs.take j)) = j := by
  have hl : (bs.take j).length = j := by rw [List.length_take]; exact Nat.min_eq_left hj
  rw [version_run_single _ [] (by rw [version_empty, hl, Nat.zero_add]; exact Nat.le_trans hj hb), version_empty, hl,
    Nat.zero_add]

/-- **later block commits never change an entry of a version up to the height they start from**: each writes at
its own height and at 2^64-1 only (`block_above`) -/
theorem run_agree (bs : List BlockIn) : ∀ (d : Disk) {v : Nat}, v ≤ version d → version d + bs.length < maxVer →
    AgreeUpTo v (dbOf (run .single .lss d bs)) (dbOf d) := by
  induction bs with
  | nil => intro d v _ _; exact AgreeUpTo.refl _ _
  | cons b bs ih =>
    intro d v hv h
    rw [List.length_cons, Nat.add_comm bs.length 1, ← Nat.add_assoc] at h
    have h1 := Nat.lt_of_le_of_lt (Nat.le_add_right _ _) h
    have hver := version_commit_single d b (Nat.le_of_lt h1)
    refine (ih (commitBlock .single .lss d b) (hver ▸ Nat.le_succ_of_le hv) (hver ▸ h)).trans ?_
    unfold commitBlock
    simp only [blockBatches]
    rw [dbOf_snoc, List.append_assoc, List.append_assoc]
    exact (block_above _ b (Nat.lt_succ_of_le hv) h1).agree (sorted_dbOf d)
      (Nat.le_of_lt (Nat.lt_of_le_of_lt hv (Nat.lt_of_succ_lt h1)))

/-- what the history has built: the chain of blocks that are the heights `1 … |c|` -/
def specStep (c : List BlockIn) : Ev → List BlockIn
  | .block b => c ++ [b]
  | .rollback t => if 1 ≤ t ∧ t ≤ c.length then c.take t else c

def specRun (c : List BlockIn) (evs : List Ev) : List BlockIn := evs.foldl specStep c

theorem specStep_length (c : List BlockIn) (ev : Ev) : (specStep c ev).length ≤ c.length + 1 := by
  cases ev with
  | block b => simp [specStep]
  | rollback t =>
    simp only [specStep]
    split
    · rw [List.length_take]; exact Nat.le_trans (Nat.min_le_right _ _) (Nat.le_succ _)
    · exact Nat.le_succ _

/-- the disk holds the chain `c`: it opens at height `|c|` with the root of the last block, and the commit id
of every height of the chain is on record -/
structure ChainInv (d : Disk) (c : List BlockIn) : Prop where
  ver : version d = c.length
  root : ∀ b, c.getLast? = some b → latestRoot d = b.root
  cid : ∀ h (hh : h < c.length), smGet (dbOf d) (mkKey (commitIDKey (h + 1)) (h + 1)) = some (cidVal (h + 1) c[h].root)

theorem chainInv_empty : ChainInv [] [] :=
  ⟨version_empty, nofun, nofun⟩

theorem ChainInv.block {d : Disk} {c : List BlockIn} (hi : ChainInv d c) (b : BlockIn) (hb : SmtOK b)
    (hlen : c.length + 1 < maxVer) : ChainInv (commitBlock .single .lss d b) (c ++ [b]) := by
  have hv := hi.ver
  refine ⟨?_, ?_, ?_⟩
  · rw [version_commit_single d b (hv ▸ Nat.le_of_lt hlen), hv, List.length_append, List.length_singleton]
  · intro b' hb'
    rw [List.getLast?_concat] at hb'
    cases hb'
    exact latestRoot_commit_single d b
  · intro h hh
    rw [List.length_append, List.length_singleton] at hh
    rcases Nat.lt_succ_iff_lt_or_eq.mp hh with hlt | rfl
    · rw [List.getElem_append_left hlt]
      exact (run_agree [b] d (Nat.le_of_eq hv.symm) (hv ▸ hlen) _ _ hlt).trans (hi.cid h hlt)
    · have := cid_after_single d (version d + 1) b hb
      rw [hv] at this
      unfold commitBlock
      rw [hv, this, List.getElem_concat_length rfl]

theorem rollback_above (db : DB) (t ver : Nat) (cid : Bytes) (ht : t < maxVer) :
    Above t ((pruneWindow db (t + 1) ver).1 ++ pruneDels db idxPrefix (t + 1) ver ++ pruneDels db cidPrefix (t + 1) ver ++
        rollbackPatch db t (pruneWindow db (t + 1) ver).2 ++ [.put (mkKey lastPrefix maxVer) cid]) := by
  have hmax := fun u => lt_versionOf_mkKey u ht (Nat.le_refl _)
  intro op hop
  simp only [List.mem_append, List.mem_singleton, pruneWindow, pruneDels, rollbackPatch_eq, List.mem_map, List.mem_filter,
    Bool.and_eq_true, decide_eq_true_eq] at hop
  -- a pruned entry is of a version in the window above `t`; the patch and the pointer are written at 2^64-1
  rcases hop with (((⟨e, he, rfl⟩ | ⟨e, he, rfl⟩) | ⟨e, he, rfl⟩) | ⟨sk, _, rfl⟩) | rfl
  · exact he.2.1
  · exact he.2.1
  · exact he.2.1
  · rw [patchOp_key]; exact hmax _
  · exact hmax _

/-- an accepted rollback to a height whose commit id is on record: its batch ends by re-pointing the latest
commit id to that record, and none of its operations is on a key of a version up to the target -/
theorem rollbackBatch_of_cid {d : Disk} {t h : Nat} {root : Bytes} (h0 : ¬(t = 0 ∨ t > version d)) (h1 : ¬t = version d)
    (ht : t < maxVer) (hcid : smGet (dbOf d) (mkKey (commitIDKey t) t) = some (cidVal h root)) :
    ∃ ops, rollbackBatch d t = some (some (ops ++ [.put (mkKey lastPrefix maxVer) (cidVal h root)])) ∧
      Above t (ops ++ [BatchOp.put (mkKey lastPrefix maxVer) (cidVal h root)]) := by
  have hget : (VS.mk (dbOf d) t).get (commitIDKey t) = some (be8 h ++ root) := by
    unfold VS.get
    rw [getRaw_present (sorted_dbOf d) (commitIDKey_ne_nil t) (Nat.le_of_lt ht) hcid]
    simp [cidVal, rawAlive, parseVal, aliveTomb, deadTomb]
  refine ⟨_, ?_, rollback_above (dbOf d) t (version d) _ ht⟩
  unfold rollbackBatch
  simp only [if_neg h0, if_neg h1, hget]
  rfl

theorem ChainInv.rollback {d : Disk} {c : List BlockIn} (hi : ChainInv d c) (t : Nat)
    (hlen : c.length < maxVer) : ChainInv (applyEv .single .lss d (.rollback t)) (specStep c (.rollback t)) := by
  have hv := hi.ver
  simp only [applyEv, specStep]
  by_cases h0 : t = 0 ∨ t > version d
  · have : rollbackBatch d t = none := by unfold rollbackBatch; simp only [h0, if_true]
    rw [this, if_neg fun hp => h0.elim (Nat.ne_of_gt hp.1) fun e =>
      Nat.not_le_of_gt e (Nat.le_trans hp.2 (Nat.le_of_eq hv.symm))]
    exact hi
  have hpos : 1 ≤ t ∧ t ≤ c.length :=
    ⟨Nat.pos_of_ne_zero fun e => h0 (Or.inl e), Nat.le_trans (Nat.le_of_not_gt fun e => h0 (Or.inr e)) (Nat.le_of_eq hv)⟩
  rw [if_pos hpos]
  by_cases h1 : t = version d
  · have : rollbackBatch d t = some none := by unfold rollbackBatch; simp only [if_neg h0, if_pos h1]
    rw [this, List.take_of_length_le (Nat.le_of_eq (hv.symm.trans h1.symm))]
    exact hi
  -- the target is a height `i + 1` of the chain, whose commit id is on record
  obtain ⟨i, rfl⟩ := Nat.exists_eq_add_one_of_ne_zero fun e => h0 (Or.inl e)
  have htl : i < c.length := hpos.2
  have htv : i + 1 < maxVer := Nat.lt_of_le_of_lt hpos.2 hlen
  obtain ⟨ops, hb, habove⟩ := rollbackBatch_of_cid h0 h1 htv (hi.cid i htl)
  rw [hb]
  simp only
  have hlast := smGet_dbOf_snoc_put d ops (mkKey lastPrefix maxVer) (cidVal (i + 1) c[i].root)
  refine ⟨?_, ?_, ?_⟩
  · rw [version_of_last (Nat.le_of_lt htv) hlast, List.length_take, Nat.min_eq_left hpos.2]
  · intro b hbl
    rw [latestRoot_of_last hlast]
    rw [List.getLast?_take, if_neg (Nat.succ_ne_zero i), Nat.add_sub_cancel, List.getElem?_eq_getElem htl,
      Option.some_or] at hbl
    cases hbl; rfl
  · intro h hh
    rw [List.length_take] at hh
    have hht : h < i + 1 := Nat.lt_of_lt_of_le hh (Nat.min_le_left _ _)
    have hhc : h < c.length := Nat.lt_of_lt_of_le hh (Nat.min_le_right _ _)
    rw [dbOf_snoc, habove.agree (sorted_dbOf d) (Nat.le_of_lt htv) _ _ hht, hi.cid h hhc, List.getElem_take]

/-- **`reopen_height`, the invariant form** — after any history of block commits and rollbacks, with the
latest-commit pointer written at the reserved version, the disk holds exactly the chain the history built -/
theorem ChainInv.run (evs : List Ev) : ∀ (d : Disk) (c : List BlockIn), ChainInv d c →
    (∀ b, Ev.block b ∈ evs → SmtOK b) → c.length + evs.length < maxVer →
    ChainInv (runEv .single .lss d evs) (specRun c evs) := by
  induction evs with
  | nil => intro d c hi _ _; exact hi
  | cons ev evs ih =>
    intro d c hi hok hlen
    rw [List.length_cons, Nat.add_comm evs.length 1, ← Nat.add_assoc] at hlen
    have hc1 : c.length + 1 < maxVer := Nat.lt_of_le_of_lt (Nat.le_add_right _ _) hlen
    apply ih (applyEv .single .lss d ev) (specStep c ev)
    · cases ev with
      | block b => exact hi.block b (hok b (List.mem_cons_self ..)) hc1
      | rollback t => exact hi.rollback t (Nat.lt_of_succ_lt hc1)
    · intro b hb; exact hok b (List.mem_cons_of_mem _ hb)
    · exact Nat.lt_of_le_of_lt (Nat.add_le_add_right (specStep_length c ev) _) hlen

/-- the last operation a list of writes makes on `k` -/
def lastWrite : List (Bytes × TOp) → Bytes → Option TOp
  | [], _ => none
  | e :: l, k =>
    match lastWrite l k with
    | some x => some x
    | none => if k = e.1 then some e.2 else none

theorem lastWrite_eq_lookupLast (ws : List (Bytes × TOp)) (k : Bytes) : lastWrite ws k = lookupLast ws k := by
  induction ws with
  | nil => rfl
  | cons e ws ih =>
    simp only [lastWrite, ih, lookupLast, List.reverse_cons, List.find?_append, List.find?_cons, List.find?_nil]
    cases ws.reverse.find? (fun x => x.1 == k) with
    | some x => rfl
    | none =>
      by_cases hk : e.1 = k
      · simp [hk]
      · simp [Ne.symm hk, beq_false_of_ne hk]

theorem smGet_writeAll (ws : List (Bytes × TOp)) (acc : Overlay) (k : Bytes) :
    smGet (writeAll acc ws) k = match lastWrite ws k with
      | some x => some x
      | none => smGet acc k := by
  rw [lastWrite_eq_lookupLast]; exact smGet_foldl_last ws acc k

theorem sorted_writeAll (ws : List (Bytes × TOp)) (acc : Overlay) (h : SSorted acc) : SSorted (writeAll acc ws) :=
  h.foldl_smSet Prod.fst Prod.snd ws

theorem mem_writeAll {acc : Overlay} (hs : SSorted acc) {ws : List (Bytes × TOp)} {k : Bytes} {op : TOp}
    (h : lastWrite ws k = some op) : (k, op) ∈ writeAll acc ws :=
  (smGet_eq_some_iff (sorted_writeAll _ _ hs) _ _).mp (by rw [smGet_writeAll, h])

theorem writeAll_append (acc : Overlay) (a b : List (Bytes × TOp)) : writeAll acc (a ++ b) = writeAll (writeAll acc a) b :=
  List.foldl_append

/-- **the block's pending operations are the writes of its flushed transactions, in program order, over its own**
(the index writes only when `Flush` hands both nested transactions on) -/
theorem foldl_applyTx (nf : NestedFlush) (txs : List TxIn) : ∀ acc : Overlay × Overlay,
    txs.foldl (applyTx nf) acc = (writeAll acc.1 ((txs.filter (·.flush)).flatMap (·.ops)),
      match nf with
      | .both => writeAll acc.2 ((txs.filter (·.flush)).flatMap (·.idx))
      | .stateOnly => acc.2) := by
  induction txs with
  | nil => intro acc; cases nf <;> rfl
  | cons tx txs ih =>
    intro acc
    rw [List.foldl_cons, ih]
    unfold applyTx
    by_cases hf : tx.flush = true
    · rw [if_pos hf, List.filter_cons_of_pos hf, List.flatMap_cons, List.flatMap_cons, writeAll_append]
      cases nf
      · rw [writeAll_append]
      · rfl
    · rw [if_neg hf, List.filter_cons_of_neg hf]

/-- **a flushed transaction's writes reach the block — state and index alike** (with `Flush` handing both
nested transactions to the parent): whatever the block's own writes and the earlier transactions were, the
last operation the transaction made on a state key is the block's pending operation on that key, an index
entry it wrote last is among the block's index entries, an index key it deleted last among the block's index
deletions. `crash_prefix` then says the block is on disk entirely or not at all. -/
theorem flushed_tx_reaches_block (own : BlockIn) (txs : List TxIn) (tx : TxIn) (hf : tx.flush = true) :
    let b := blockOfTxs .both own (txs ++ [tx])
    (∀ k op, lastWrite tx.ops k = some op → smGet b.ops k = some op) ∧
    (∀ k v, lastWrite tx.idx k = some (.set v) → (k, v) ∈ b.idx) ∧
    (∀ k, lastWrite tx.idx k = some .del → k ∈ b.idxDel) := by
  simp only [blockOfTxs, pendingOfTxs, foldl_applyTx, List.filter_append, List.filter_cons_of_pos hf,
    List.filter_nil, List.flatMap_append, List.flatMap_cons, List.flatMap_nil, List.append_nil]
  rw [writeAll_append own.ops, writeAll_append (writeAll [] _)]
  -- the index overlay is built by sorted inserts from the empty one
  have hs := fun a b => sorted_writeAll b _ (sorted_writeAll a [] List.Pairwise.nil)
  exact ⟨fun k op h => by rw [smGet_writeAll, h],
    fun k v h => List.mem_filterMap.mpr ⟨(k, .set v), mem_writeAll (hs _ _) h, rfl⟩,
    fun k h => List.mem_filterMap.mpr ⟨(k, .del), mem_writeAll (hs _ _) h, rfl⟩⟩

theorem discarded_tx_vanishes (nf : NestedFlush) (own : BlockIn) (txs : List TxIn) (tx : TxIn) (hf : tx.flush = false)
    (rest : List TxIn) : blockOfTxs nf own (txs ++ tx :: rest) = blockOfTxs nf own (txs ++ rest) := by
  simp only [blockOfTxs, pendingOfTxs, foldl_applyTx, List.filter_append, List.filter_cons_of_neg (Bool.not_eq_true _ ▸ hf)]

end Canopy.Crash
