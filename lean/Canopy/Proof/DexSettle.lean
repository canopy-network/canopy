import Canopy.Proof.DexEff
import Canopy.Proof.Digits
/-! Settlement of the limit orders of a remote batch (`HandleDexBatchOrders`): every order has its own payout slot,
Σ receipts = ledger debit, at most `MaxOrdersSettledPerBlock` orders are paid, the real pool follows the ledger (C20).
Core Lean only. -/
namespace Canopy.Dex

/-- byte `7 - k` of `be64 i` is digit `k` of `i` in base 256, and `U64 = 256 ^ 8` -/
theorem be64_injective {i j : Nat} (hi : i < U64) (hj : j < U64) (h : be64 i = be64 j) : i = j := by
  have hd : ∀ k < 8, i / 256 ^ k % 256 = j / 256 ^ k % 256 := fun k hk => by
    have := congrArg UInt8.toNat (List.map_inj_left.mp h (7 - k) (List.mem_range.mpr (Nat.lt_succ_of_le (Nat.sub_le 7 k))))
    simpa only [UInt8.toNat_ofNat', Nat.reducePow, Nat.mod_mod, Nat.sub_sub_self (Nat.le_of_lt_succ hk)] using this
  exact eq_of_digits (n := 8) hi hj hd

theorem be64_length (i : Nat) : (be64 i).length = 8 := by
  rw [be64, List.length_map, List.length_range]

/-- the bytes that are hashed for order `i` determine `i`: two orders of one batch never hash the same input -/
theorem orderKeyInput_index_injective {bh : Bytes} {i j : Nat} {o o' : LimitOrder} (hi : i < U64) (hj : j < U64)
    (h : orderKeyInput bh i o = orderKeyInput bh j o') : i = j := by
  unfold orderKeyInput at h
  rw [List.append_assoc, List.append_assoc] at h
  have h2 := List.append_cancel_left h
  have h3 := congrArg (List.take 8) h2
  rw [List.take_left' (be64_length i), List.take_left' (be64_length j)] at h3
  exact be64_injective hi hj h3

section
variable {κ : Type} [DecidableEq κ]

/-- `result[key]` as `payReceipts` reads it: a slot that was never written reads 0 -/
def lookupD (res : List (κ × Nat)) (k : κ) : Nat := (AM.get? res k).getD 0

theorem sum_ite_nodup (K : List κ) (k0 : κ) (a : Nat) (g : κ → Nat) (hK : K.Nodup) (hm : k0 ∈ K) :
    (K.map fun k => if k0 = k then a else g k).sum + g k0 = a + (K.map g).sum := by
  have hp := List.perm_cons_erase hm
  have hrest : (K.erase k0).map (fun k => if k0 = k then a else g k) = (K.erase k0).map g :=
    List.map_congr_left fun k hk => if_neg fun e => (hK.mem_erase_iff.mp (e ▸ hk)).1 rfl
  rw [(hp.map _).sum_nat, (hp.map g).sum_nat, List.map_cons, List.map_cons, List.sum_cons, List.sum_cons, hrest, if_pos rfl]
  omega

theorem sum_lookup (K : List κ) (hK : K.Nodup) : ∀ (res : List (κ × Nat)), (AM.keys res).Nodup → (∀ k ∈ AM.keys res, k ∈ K) →
    (K.map (lookupD res)).sum = (res.map (·.2)).sum := by
  intro res
  induction res with
  | nil =>
    intro _ _
    show (K.map fun _ => 0).sum = 0
    rw [List.map_const', List.sum_replicate_nat, Nat.mul_zero]
  | cons e r ih =>
    intro hres hsub
    obtain ⟨k0, v0⟩ := e
    have hnd := List.nodup_cons.mp hres
    have hfun : K.map (lookupD ((k0, v0) :: r)) = K.map fun k => if k0 = k then v0 else lookupD r k :=
      List.map_congr_left fun k _ => by by_cases h : k0 = k <;> simp [lookupD, AM.get?, h]
    have hz : lookupD r k0 = 0 := by
      unfold lookupD; rw [AM.get?_none_of_not_mem r k0 hnd.1]; rfl
    have := sum_ite_nodup K k0 v0 (lookupD r) hK (hsub k0 List.mem_cons_self)
    rw [hfun, List.map_cons, List.sum_cons, ← ih hnd.2 fun k hk => hsub k (List.mem_cons_of_mem _ hk)]
    omega

/-- a slot that reads non-zero was written: the keys that read non-zero are distinct keys of `res` -/
theorem count_lookup (K : List κ) (hK : K.Nodup) (res : List (κ × Nat)) :
    ((K.map (lookupD res)).filter (· ≠ 0)).length ≤ res.length := by
  rw [List.filter_map, List.length_map, ← List.length_map (as := res) (·.1)]
  refine (hK.sublist List.filter_sublist).length_le_of_subset fun k hk => ?_
  have hne : lookupD res k ≠ 0 := by simpa using (List.mem_filter.mp hk).2
  cases hg : AM.get? res k with
  | none => simp [lookupD, hg] at hne
  | some v => exact AM.mem_keys_of_get? res k v hg
end

/-- every order is paid the content of ITS slot (0 when it has none), and the real pool goes down by exactly the Σ paid -/
theorem payReceipts_spec {c : Nat} {os : List (OrderKey × LimitOrder)} {res : List (OrderKey × Nat)} {s : State}
    {acc : List Nat} {r : State × List Nat} (h : payReceipts c os res s acc = .ok r) :
    r.2 = acc ++ os.map (fun e => lookupD res e.1) ∧ liqAmt r.1 c + (os.map fun e => lookupD res e.1).sum = liqAmt s c := by
  induction os generalizing s acc with
  | nil => simp [payReceipts] at h; subst h; simp
  | cons e os ih =>
    obtain ⟨k, o⟩ := e
    rcases payReceipts_cons h with ⟨s1, s2, h1, h2, h⟩ | ⟨hz, h⟩
    · obtain ⟨e1, e2⟩ := ih h
      have hp := liqAmt_poolSub h1
      have ha := liqAmt_congr (accountsOnly_accountAdd h2).pools c
      refine ⟨by rw [e1]; simp [lookupD], ?_⟩
      simp only [List.map_cons, List.sum_cons, lookupD] at e2 ⊢
      omega
    · obtain ⟨e1, e2⟩ := ih h
      refine ⟨by rw [e1]; simp [lookupD], ?_⟩
      simp only [List.map_cons, List.sum_cons, lookupD, hz] at e2 ⊢
      omega

/-- **settlement of a remote batch's orders.** `HandleDexBatchOrders` succeeds only on non-zero reserves; then
* there is one receipt per order;
* Σ receipts = what the AMM ledger of the local reserve was debited (`y − y'`);
* at most `MaxOrdersSettledPerBlock` receipts are non-zero;
* the real liquidity pool went down by exactly Σ receipts — so if the ledger started at the pool's balance it ends there.
The proof needs every order to have its own payout slot: keys carry the order's index (`orderKeyInput_index_injective`). -/
theorem dexBatchOrders_settlement {s : State} {os : List LimitOrder} {bh : Bytes} {x y c : Nat} {r : State × Nat × Nat × List Nat}
    (h : dexBatchOrders s os bh x y c = .ok r) :
    r.2.2.2.length = os.length ∧ r.2.2.2.sum + r.2.2.1 = y ∧ (r.2.2.2.filter (· ≠ 0)).length ≤ cap ∧
    liqAmt r.1 c + r.2.2.2.sum = liqAmt s c ∧ (y = liqAmt s c → r.2.2.1 = liqAmt r.1 c) := by
  obtain ⟨hx, hy, keyed, a, p, hkd, ha, hp, rfl⟩ := dexBatchOrders_ok h
  obtain ⟨_, add, h1, h2, h3⟩ := ammLoop_spec (Nat.pos_of_ne_zero hx) (Nat.pos_of_ne_zero hy) ha
  simp only [List.nil_append] at h1
  obtain ⟨p1, p2⟩ := payReceipts_spec hp
  simp only [List.nil_append] at p1
  subst h1
  -- the keys of the batch are pairwise distinct: they carry the index
  have hidx : (keyed.map (·.1)).map (·.1) = List.range os.length := by
    rw [hkd, List.map_map, List.map_map]
    exact (List.map_fst_zip (by simp)).trans rfl
  have hK : (keyed.map (·.1)).Nodup :=
    List.Pairwise.of_map (·.1) (fun _ _ hne e => hne (congrArg _ e)) (hidx ▸ List.nodup_range)
  have hperm := stableSort_perm (fun (a b : OrderKey × LimitOrder) => bytesLt a.1.2 b.1.2) keyed
  have hresK : (AM.keys a.2.2).Nodup := by
    unfold AM.keys; rw [h2, List.map_take]
    exact ((hperm.map (·.1)).nodup_iff.mpr hK).sublist (List.take_sublist _ _)
  have hsub : ∀ k ∈ AM.keys a.2.2, k ∈ keyed.map (·.1) := by
    intro k hk
    unfold AM.keys at hk; rw [h2] at hk
    obtain ⟨e, he, rfl⟩ := List.mem_map.mp hk
    exact List.mem_map.mpr ⟨e, hperm.mem_iff.mp (List.mem_of_mem_take he), rfl⟩
  have hsum := sum_lookup (keyed.map (·.1)) hK a.2.2 hresK hsub
  have hcount := count_lookup (keyed.map (·.1)) hK a.2.2
  have hmap : keyed.map (fun e => lookupD a.2.2 e.1) = (keyed.map (·.1)).map (lookupD a.2.2) := by
    rw [List.map_map]; rfl
  have hlen : a.2.2.length ≤ cap := by
    rw [← List.length_map (f := (·.1)), h2, List.length_map]
    exact List.length_take_le _ _
  rw [hmap] at p1 p2
  refine ⟨?_, ?_, ?_, ?_, fun hyl => ?_⟩
  · show p.2.length = _
    rw [p1, List.length_map, List.length_map, hkd]; simp
  · show p.2.sum + a.2.1 = y
    rw [p1, hsum, Nat.add_comm]; exact h3
  · show (p.2.filter (· ≠ 0)).length ≤ cap
    rw [p1]; exact Nat.le_trans hcount hlen
  · show liqAmt p.1 c + p.2.sum = _
    rw [p1]; exact p2
  · show a.2.1 = liqAmt p.1 c
    rw [hsum] at p2
    exact Nat.add_right_cancel (h3.trans (hyl.trans p2.symm))

end Canopy.Dex
