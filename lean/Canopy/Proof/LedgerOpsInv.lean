import Canopy.Proof.LedgerConformInv
import Canopy.Proof.LedgerPercents
/-! C12: `InvStaking` through transactions and certificate results. -/
namespace Canopy.Ledger
open AMap

/-- every message handler keeps `InvStaking` -/
theorem handleMessage_inv {L L' : Ledger} {sender : Addr} {msg : Msg} (hi : InvSupply L) (hs : InvStaking L) (hh : HeightsOK L)
    (hp : ∀ sg sp k v s e p, msg = .changeParameter sg sp k v s e → L.params.setUint sp k v = .ok p → HeightsOK { L with params := p })
    (h : handleMessage L sender msg = .ok L') : InvStaking L' := by
  cases msg with
  | send s d x => exact hs.of_sameStaking (sameStaking_handleSend h)
  | sendVesting s d x st cl en => exact hs.of_sameStaking (sameStaking_handleSendVesting h)
  | stake a x cs dl c o => exact handleStake_inv hs h
  | editStake a x cs c o => exact handleEditStake_inv hi hs h
  | unstake a => exact handleUnstake_inv hs ⟨hh.unstaking, hh.delegateUnstaking⟩ h
  | pause a => exact handlePause_inv hs hh.maxPause h
  | unpause a => exact handleUnpause_inv hs h
  | daoTransfer a x m s e => exact hs.of_sameStaking (sameStaking_handleDaoTransfer h)
  | subsidy a c x => exact hs.of_sameStaking (sameStaking_handleSubsidy h)
  | changeParameter sg sp k v s e =>
    exact handleChangeParameter_inv hs (fun p hpp => hp sg sp k v s e p rfl hpp) h

/-- `ApplyTransaction` keeps `InvStaking` -/
theorem applyTx_inv {L L' : Ledger} {sender : Addr} {fee : Nat} {msg : Msg} (hi : InvSupply L) (hs : InvStaking L) (hh : HeightsOK L)
    (hx : L.supply.total + txMint L sender fee msg < U64)
    (hp : ∀ sg sp k v s e p, msg = .changeParameter sg sp k v s e → L.params.setUint sp k v = .ok p → HeightsOK { L with params := p })
    (h : applyTx L sender fee msg = .ok L') : InvStaking L' := by
  obtain ⟨_, L1, L2, h1, h2, h⟩ := applyTx_run h
  have ss2 := (sameStaking_txFaucet h1).trans (sameStaking_deductFees h2)
  obtain ⟨_, _, _, i2⟩ := txFaucet_deductFees_step hi hx h1 h2
  refine handleMessage_inv i2 (hs.of_sameStaking ss2) (hh.of_block ss2.ctx.block) ?_ h
  intro sg sp k v s e p hm hpp
  exact (hp sg sp k v s e p hm (by rw [← ss2.ctx.params]; exact hpp)).of_block ⟨ss2.ctx.height, rfl, ss2.ctx.cfg⟩

theorem handlePause_block {L L' : Ledger} {a : Addr} (h : handlePause L a = .ok L') : SameBlock L L' := by
  obtain ⟨val, _, _, _, _, rfl⟩ := handlePause_ok h; exact ⟨rfl, rfl, rfl⟩

/-- `HandleByzantine` keeps `InvStaking`: its pauses and slashes do (at the deferred-action heights of this block), and
the non-signer and double-signer indices are no part of the staking state -/
theorem handleByzantine_inv {L : Ledger} {chain : Nat} {members : List (Addr × Nat × Bool)} {ds : List (Addr × List Nat)}
    {r : Ledger × Nat} (hs : InvStaking L) (hh : HeightsOK L) (h : handleByzantine L chain members ds = .ok r) :
    InvStaking r.1 :=
  (handleByzantine_keeps (fun s => InvStaking s ∧ SameBlock L s)
    (fun _ _ _ ⟨i, b⟩ h => ⟨handlePause_inv i (hh.of_block b).maxPause h, b.trans (handlePause_block h)⟩)
    (fun _ _ _ _ _ _ ⟨i, b⟩ hv h => have ⟨i', b'⟩ := slashValidator_inv i (hh.of_block b) hv h; ⟨i', b.trans b'⟩)
    (fun _ _ _ ⟨i, b⟩ => ⟨i.of_sameStaking ⟨rfl, rfl, rfl, rfl, rfl, rfl, rfl, ⟨rfl, rfl, rfl, rfl⟩⟩, b.trans ⟨rfl, rfl, rfl⟩⟩)
    h ⟨hs, SameBlock.refl L⟩).1

/-- `HandleCertificateResults` keeps `InvStaking` -/
theorem handleCertificateResults_inv {L L' : Ledger} {qh qrh : Nat} {members : List (Addr × Nat × Bool)}
    {ds : List (Addr × List Nat)} {pay : List (Addr × Nat × Nat)} (hs : InvStaking L) (hh : HeightsOK L)
    (h : handleCertificateResults L qh qrh members ds pay = .ok L') : InvStaking L' := by
  obtain ⟨r, hr, h⟩ := handleCertificateResults_run h
  obtain ⟨_, _, rfl⟩ := upsertCommitteeData_run h
  exact (putCommitteeData_staking r.1 _).2 (handleByzantine_inv hs hh hr)

end Canopy.Ledger
