import Canopy.Proof.StoreHist
/-! `Store.Rollback` preserves the representation relation (C10): the entries above the target are
deleted and the latest-state partition is patched, per affected key, from the historical view. -/
namespace Canopy.Store

theorem lkey_not_in_hss_range (k : Bytes) (w : Nat) : blt (mkKey (lssPrefix ++ k) w) (prefixEnd hssPrefix) = false := by
  rw [lssPrefix_eq, hssPrefix_eq]
  simp [mkKey, prefixEnd, blt]

theorem hkey_in_hss_range {k : Bytes} (hk : k.length ≤ 245) (w : Nat) :
    ble hssPrefix (mkKey (hssPrefix ++ k) w) = true ∧ blt (mkKey (hssPrefix ++ k) w) (prefixEnd hssPrefix) = true := by
  constructor
  · exact ble_of_prefix ⟨k ++ invVer w, by simp [mkKey]⟩
  · have : mkKey (hssPrefix ++ k) w = hssPrefix ++ (k ++ invVer w) := by simp [mkKey]
    rw [this]
    exact blt_prefixEnd (by simp [invVer_length]; omega)

/-- the entries `pruneVersionWindow` deletes -/
def hitOf (db : DB) (lo hi : Nat) : List Entry :=
  (bound db hssPrefix (prefixEnd hssPrefix)).filter fun e => decide (lo ≤ versionOf e.1) && decide (versionOf e.1 ≤ hi)

/-- the state key of a historical entry's key -/
def stateKeyOf (key : Bytes) : Option Bytes :=
  match userKeyOf? key with
  | some uk => if hasPrefix hssPrefix uk then some (uk.drop hssPrefix.length) else none
  | none => none

theorem stateKeyOf_hkey (k : Bytes) (w : Nat) : stateKeyOf (mkKey (hssPrefix ++ k) w) = some k := by
  unfold stateKeyOf
  rw [userKeyOf_mkKey _ (by rw [hssPrefix_eq]; simp)]
  simp only [hasPrefix_iff.mpr (List.prefix_append _ _), if_true, List.drop_left]

theorem pruneWindow_eq (db : DB) (lo hi : Nat) :
    pruneWindow db lo hi = (((hitOf db lo hi).map (·.1)).map BatchOp.del,
      ((hitOf db lo hi).filterMap fun e => stateKeyOf e.1).eraseDups) := by
  unfold pruneWindow hitOf
  simp only [List.map_map]
  rfl

theorem mem_hitOf {K : Bytes → Prop} (hK : WFKeys K) {db : DB} {m : VMap} {ver : Nat} (h : Rep K db m ver)
    (lo : Nat) (e : Entry) :
    e ∈ hitOf db lo ver ↔ ∃ k w y, (k, w, y) ∈ m ∧ lo ≤ w ∧ e = (mkKey (hssPrefix ++ k) w, enc y) := by
  unfold hitOf bound
  simp only [List.mem_filter, Bool.and_eq_true, decide_eq_true_eq]
  constructor
  · rintro ⟨⟨he, _, hlt⟩, hlo, _⟩
    obtain ⟨k, w, hk, hw, hor⟩ := h.keys e he
    rcases hor with hor | hor
    · rw [hor, versionOf_mkKey _ hw] at hlo
      obtain ⟨y, hy, hraw⟩ := (h.hss k w e.2 hw).mp ((smGet_eq_some_iff h.sorted _ _).mpr (hor ▸ he))
      exact ⟨k, w, y, hy, hlo, Prod.ext hor hraw⟩
    · rw [hor, lkey_not_in_hss_range] at hlt; cases hlt
  · rintro ⟨k, w, y, hy, hlo, rfl⟩
    have hw := h.le_maxVer hy
    have := hkey_in_hss_range (hK.ok k (h.mkeys _ hy)).2.1 w
    rw [versionOf_mkKey _ hw]
    exact ⟨⟨(smGet_eq_some_iff h.sorted _ _).mp ((h.hss k w _ hw).mpr ⟨y, hy, rfl⟩), this.1, this.2⟩, hlo,
      (h.vb _ hy).2⟩

/-- the operation `Rollback` issues for an affected state key -/
def patchOp (db : DB) (target : Nat) (sk : Bytes) : BatchOp :=
  match (VS.mk db target).getRaw (hssPrefix ++ sk) with
  | some (t, v) =>
    if t = deadTomb then BatchOp.del (mkKey (lssPrefix ++ sk) maxVer)
    else BatchOp.put (mkKey (lssPrefix ++ sk) maxVer) (rawAlive v)
  | none => BatchOp.del (mkKey (lssPrefix ++ sk) maxVer)

theorem rollbackPatch_eq (db : DB) (target : Nat) (keys : List Bytes) :
    rollbackPatch db target keys = keys.map (patchOp db target) := rfl

theorem patchOp_key (db : DB) (t : Nat) (sk : Bytes) : opKey (patchOp db t sk) = mkKey (lssPrefix ++ sk) maxVer := by
  unfold patchOp
  cases (VS.mk db t).getRaw (hssPrefix ++ sk) with
  | none => rfl
  | some tv =>
    obtain ⟨tb, v⟩ := tv
    by_cases h : tb = deadTomb <;> simp [h, opKey]

theorem patchOp_res (db : DB) (t : Nat) (sk : Bytes) :
    opRes (patchOp db t sk) = ((VS.mk db t).get (hssPrefix ++ sk)).map rawAlive := by
  rw [VS.get_eq_bind]
  unfold patchOp
  cases (VS.mk db t).getRaw (hssPrefix ++ sk) with
  | none => rfl
  | some tv =>
    obtain ⟨tb, v⟩ := tv
    by_cases h : tb = deadTomb <;> simp [h, opRes]

/-- **`Rollback(t)`** preserves the representation, with the versioned map cut back to `t` -/
theorem Rep.rollback {K : Bytes → Prop} (hK : WFKeys K) {db : DB} {m : VMap} {ver : Nat} (h : Rep K db m ver)
    {t : Nat} (ht : t < ver) :
    Rep K (applyBatch db ((pruneWindow db (t + 1) ver).1 ++ rollbackPatch db t (pruneWindow db (t + 1) ver).2))
      (m.rollback t) t := by
  rw [pruneWindow_eq]
  simp only
  rw [rollbackPatch_eq]
  have htm : t < maxVer := Nat.lt_trans ht h.ver_lt
  -- the deleted historical keys are those of the writes above the target, the affected state keys their keys
  have hdel : ∀ key, key ∈ (hitOf db (t + 1) ver).map (·.1) ↔
      ∃ k w y, (k, w, y) ∈ m ∧ t < w ∧ key = mkKey (hssPrefix ++ k) w := by
    intro key
    rw [List.mem_map]
    constructor
    · rintro ⟨e, he, rfl⟩
      obtain ⟨k, w, y, hy, hlo, rfl⟩ := (mem_hitOf hK h _ e).mp he
      exact ⟨k, w, y, hy, hlo, rfl⟩
    · rintro ⟨k, w, y, hy, hw, rfl⟩
      exact ⟨_, (mem_hitOf hK h _ _).mpr ⟨k, w, y, hy, hw, rfl⟩, rfl⟩
  have hkeys : ∀ sk, sk ∈ ((hitOf db (t + 1) ver).filterMap fun e => stateKeyOf e.1).eraseDups ↔
      ∃ w y, (sk, w, y) ∈ m ∧ t < w := by
    intro sk
    rw [List.mem_eraseDups, List.mem_filterMap]
    constructor
    · rintro ⟨e, he, heq⟩
      obtain ⟨k, w, y, hy, hlo, rfl⟩ := (mem_hitOf hK h _ e).mp he
      rw [stateKeyOf_hkey] at heq
      cases heq
      exact ⟨w, y, hy, hlo⟩
    · rintro ⟨w, y, hy, hw⟩
      exact ⟨_, (mem_hitOf hK h _ _).mpr ⟨sk, w, y, hy, hw, rfl⟩, stateKeyOf_hkey sk w⟩
  generalize ((hitOf db (t + 1) ver).filterMap fun e => stateKeyOf e.1).eraseDups = keys at hkeys ⊢
  have hget_h : ∀ k x, K k → ((VS.mk db t).get (hssPrefix ++ k) = some x ↔ readAt m t k = some x) := by
    intro k x hk
    rw [VS.get_sees db (h.wfl hK) t (Nat.le_of_lt htm) _ (h.compatK hK (Or.inl rfl) hk), h.sees_hss]
  refine ⟨sorted_applyBatch h.sorted _, ?_, ?_, ?_, uniq_rollback h.uniq t, ?_, ?_, htm⟩
  · -- key shapes
    intro e he
    rcases mem_applyBatch _ he with he | he
    · exact h.keys e he
    · rcases List.mem_append.mp he with he | he
      · obtain ⟨_, _, heq⟩ := List.mem_map.mp he; cases heq
      · obtain ⟨sk, hsk, heq⟩ := List.mem_map.mp he
        obtain ⟨w, y, hy, _⟩ := (hkeys sk).mp hsk
        have hkk := congrArg opKey heq
        rw [patchOp_key] at hkk
        exact ⟨sk, maxVer, h.mkeys _ hy, Nat.le_refl _, Or.inr hkk.symm⟩
  · -- historical state
    intro k w raw hw
    rw [smGet_applyBatch h.sorted, batchLookup_append]
    rw [batchLookup_map_none keys (patchOp db t) (mkKey (hssPrefix ++ k) w)
      (fun a _ => by rw [patchOp_key]; exact fun e => hkey_ne_lkey _ _ _ _ e.symm)]
    simp only
    have := batchLookup_map_inj ((hitOf db (t + 1) ver).map (·.1)) BatchOp.del id (fun _ _ e => e) (fun _ => rfl)
      (mkKey (hssPrefix ++ k) w)
    simp only [id] at this
    rw [this]
    by_cases hin : mkKey (hssPrefix ++ k) w ∈ (hitOf db (t + 1) ver).map (·.1)
    · rw [if_pos hin]
      simp only [opRes]
      obtain ⟨k', w', y', hy', hlo, hek⟩ := (hdel _).mp hin
      obtain ⟨rfl, rfl⟩ := pkey_inj hw (h.le_maxVer hy') hek
      exact ⟨nofun, fun ⟨y, hy, _⟩ => absurd (mem_rollback.mp hy).2 (Nat.not_le_of_lt hlo)⟩
    · rw [if_neg hin]
      simp only
      rw [h.hss k w raw hw]
      constructor
      · rintro ⟨y, hy, e⟩
        exact ⟨y, mem_rollback.mpr ⟨hy, Nat.le_of_not_lt fun hwt => hin ((hdel _).mpr ⟨k, w, y, hy, hwt, rfl⟩)⟩, e⟩
      · rintro ⟨y, hy, e⟩; exact ⟨y, (mem_rollback.mp hy).1, e⟩
  · -- latest state
    intro k w raw hw
    rw [smGet_applyBatch h.sorted, batchLookup_append]
    rw [readAt_rollback h.uniq (Nat.le_refl _) k]
    -- the deletions are all under `h/`
    have hdelL : batchLookup (((hitOf db (t + 1) ver).map (·.1)).map BatchOp.del) (mkKey (lssPrefix ++ k) w) = none :=
      batchLookup_map_none _ BatchOp.del _ fun a ha => by
        obtain ⟨k', w', _, _, _, rfl⟩ := (hdel a).mp ha
        exact hkey_ne_lkey _ _ _ _
    by_cases hwm : w = maxVer
    · subst hwm
      rw [batchLookup_map_inj keys (patchOp db t) (fun a => mkKey (lssPrefix ++ a) maxVer)
        (fun a b e => (pkey_inj hw hw e).1) (patchOp_key db t) k]
      by_cases hin : k ∈ keys
      · rw [if_pos hin]
        have hkK : K k := by
          obtain ⟨w', y', hy', _⟩ := (hkeys k).mp hin
          exact h.mkeys _ hy'
        simp only [patchOp_res, true_and]
        rw [Option.ext fun x => hget_h k x hkK]
        exact map_rawAlive_eq_some
      · -- no write to `k` above the target: its latest state is that of the target already
        rw [if_neg hin]
        simp only [hdelL, h.lss k maxVer raw hw, readAt_of_no_later h.uniq (Nat.le_of_lt ht) k fun w' y hy _ =>
          Nat.le_of_not_lt fun hwt => hin ((hkeys k).mpr ⟨w', y, hy, hwt⟩)]
    · rw [batchLookup_map_none keys (patchOp db t) (mkKey (lssPrefix ++ k) w)
        (fun a _ => by rw [patchOp_key]; exact fun e => hwm (pkey_inj (Nat.le_refl _) hw e).2.symm)]
      simp only [hdelL, h.lss k w raw hw, hwm, false_and]
  · intro e he
    have := mem_rollback.mp he
    exact ⟨(h.vb _ this.1).1, this.2⟩
  · intro e he
    exact h.mkeys _ (mem_rollback.mp he).1

end Canopy.Store
