import Canopy.Proof.Cache
import Canopy.Proof.IndexerDisc
/-! The block cache keyed by hash key is transparent (C10): on every state reached by a disciplined history
(`DiscRun`) — a block is indexed once per commit, for the next height, under a hash not used before —
`GetBlockByHeight` of a read-only view answers exactly what the database part says (`CInv.transparent`). Every view
that resolves a height assembles the same block (`Proof/IndexerDisc.lean`), and a cached block is that one
(`CacheOK`, kept along the history inside `CInv`). -/
namespace Canopy.Store
open Canopy

/-- a cached block whose header is committed is the block the database part assembles -/
def CacheOK (idb : DB) (cache : Cache) : Prop :=
  ∀ H b c, H.length = 32 → cache.lookup (blockHashKey H) = some b → c < B64 → c ≤ maxVer →
    smGet idb (IKey (blockHashKey H) c) = some (rawAlive (encHdr c H)) → b = blockOf idb c H

theorem CacheOK.nil (idb : DB) : CacheOK idb [] := by
  intro H b c _ h; cases h

theorem CacheOK.add {idb : DB} {c : Cache} (hc : CacheOK idb c) {H : Bytes} {b : BlockRes}
    (hb : ∀ v, v ≤ maxVer → smGet idb (IKey (blockHashKey H) v) = some (rawAlive (encHdr v H)) → b = blockOf idb v H) :
    CacheOK idb (c.add (blockHashKey H) b) := by
  intro H' b' v hl hlook hvb hvm hhdr
  rcases Cache.lookup_add hlook with ⟨ek, eb⟩ | ⟨_, hl'⟩
  · obtain rfl : H' = H := hashKey_inj ek
    rw [eb]
    exact hb v hvm hhdr
  · exact hc H' b' v hl hl' hvb hvm hhdr

/-- **the cache is transparent for read-only views** -/
theorem transparent {idb : DB} {ver : Nat} (hr : IRep IdxKey idb ver) (hver : ver ≤ maxVer) (hd : DBDisc idb)
    {cache : Cache} (hc : CacheOK idb cache) {v h : Nat} (hv : v ≤ maxVer) (hh : h < B64) :
    (getBlockByHeight .byHashKey cache (roV idb v) h).1 = (roV idb v).dbBlockByHeight h := by
  unfold getBlockByHeight IView.dbBlockByHeight
  simp only
  by_cases he : ((roV idb v).getB (blockHeightKey h)).isEmpty = true
  · rw [if_pos he]
  · rw [if_neg he]
    obtain ⟨H, hl, hk, hhm, hhdr, hblk⟩ := resolve_height hr hver hd hv hh he
    cases hl' : cache.lookup ((roV idb v).getB (blockHeightKey h)) with
    | none => rfl
    | some b =>
      simp only
      rw [hk] at hl' ⊢
      rw [hc H b h hl hl' hh hhm hhdr, hblk]

/-- **the commit keeps the cache coherent**: old entries still name the blocks the database part
assembles, and the entry `IndexBlock` made for the committed block is that block -/
theorem CacheOK.commit {s : IState} {pb : Option (Bytes × List Bytes)} (hr : IRep IdxKey s.idb s.st.version)
    (hd : DBDisc s.idb) (hp : PendOK s pb) (hc : CacheOK s.idb s.cache) (hver : s.st.version + 1 ≤ maxVer) :
    CacheOK (applyBatch s.idb (idxBatch s.idxOv (s.st.version + 1))) s.cache := by
  have hc64 : s.st.version + 1 < B64 := Nat.lt_succ_of_le hver
  have hr' := (hr.commit s.idxOv hp.keys hver).1
  have hd' := DBDisc.commit hr hd hp hver
  have hget := smGet_commit_idx hr s.idxOv hp.sorted hver
  intro H b c hl hlook hcb hcm hhdr
  by_cases hcv : c = s.st.version + 1
  · -- the block this commit adds: its header and its height.index entries are records of the pending block
    subst hcv
    rw [hget _ _ hver, if_pos rfl] at hhdr
    obtain ⟨op, hop, _⟩ := Option.map_eq_some_iff.mp hhdr
    obtain ⟨Hp, txs, hpb, hm⟩ := hp.block_of_get hop (notQC_tag (by decide))
    obtain rfl := (blockRecs_blockHash hm).1
    obtain ⟨_, _, _, hlen, _, _, _, hrecs, _, hcached⟩ := hp.block H txs hpb
    rw [hcached b hlook]
    unfold blockOf
    congr 1
    symm
    apply txs_of_committed hr' hver hd' hc64 hver txs hlen
    · intro j th hj
      rw [hget _ _ hver, if_pos rfl, hrecs _ _ (mem_blockRecs.mpr (Or.inr (Or.inr ⟨j, th, hj, Or.inr ⟨rfl, rfl⟩⟩)))]
      rfl
    · intro i raw hi hgi
      rw [hget _ _ hver, if_pos rfl] at hgi
      obtain ⟨op', hgo, _⟩ := Option.map_eq_some_iff.mp hgi
      obtain ⟨H', txs', hpb', hm'⟩ := hp.block_of_get hgo (notQC_tag (by decide))
      cases hpb.symm.trans hpb'
      obtain ⟨_, th, hj, _⟩ := blockRecs_txHeightIndex hc64 hc64 hi hlen hm'
      exact ⟨th, hj⟩
  · -- a block committed earlier: the commit leaves the views up to the old version alone
    rw [hget _ _ hcm, if_neg hcv] at hhdr
    have hag := (hr.commit s.idxOv hp.keys hver).2.mono (hr.version_le (Nat.le_of_succ_le hver) hcm hhdr)
    rw [hc H b c hl hlook hcb hcm hhdr]
    unfold blockOf
    rw [(iview_agree idxKey_wf hr' hr hver (Nat.le_of_succ_le hver) hcm hag idxKey_pfx).2.1 c]

/-- a cache that is coherent and holds the pending block, if at all, as indexed -/
def CacheFits (s : IState) (pb : Option (Bytes × List Bytes)) (c : Cache) : Prop :=
  CacheOK s.idb c ∧ ∀ H txs, pb = some (H, txs) → ∀ b, c.lookup (blockHashKey H) = some b →
    b = { hHeight := s.st.version + 1, hash := H, txs := txs }

/-- both parts speak of a cache only through its lookups -/
theorem CacheFits.of_lookup {s : IState} {pb : Option (Bytes × List Bytes)} {c c' : Cache} (hf : CacheFits s pb c)
    (h : ∀ k b, c'.lookup k = some b → c.lookup k = some b) : CacheFits s pb c' :=
  ⟨fun H b v hl hlook => hf.1 H b v hl (h _ _ hlook), fun H txs hpb b hb => hf.2 H txs hpb b (h _ _ hb)⟩

/-- what the node's commit path guarantees about an operation, given the current state: a block is
indexed for the next height, once per commit, under a hash not used by any stored or cached block, with
32-byte pairwise distinct transaction hashes not indexed before; heights are `uint64` -/
def Disc (s : IState) : IOp → Prop
  | .indexBlock h H txs =>
    h = s.st.version + 1 ∧ H.length = 32 ∧ (∀ th ∈ txs, th.length = 32) ∧ txs.Nodup ∧ txs.length < B64 ∧
    (∀ k op, smGet s.idxOv k = some op → IsQC k op) ∧ FreshH s.idb H ∧ FreshTxs s.idb txs ∧
    s.cache.lookup (blockHashKey H) = none
  | .indexQC h _ => h < B64
  | .getBlock vw h _ => h < B64 ∧ ∀ v, vw = some v → v ≤ maxVer
  | .getQC vw h => h < B64 ∧ ∀ v, vw = some v → v ≤ maxVer
  | _ => True

theorem Disc.opOK {K : Bytes → Prop} {s : IState} {op : IOp} (hd : Disc s op) (hs : ∀ o, op = .store o → OpOK K o)
    (hv : s.st.version + 1 < B64) : IOpOK K IdxKey op := by
  cases op with
  | store o => exact hs o rfl
  | indexBlock h H txs =>
    obtain ⟨rfl, hl, hlt, _, hlen, _⟩ := hd
    refine ⟨IdxKey.blockHash H hl, IdxKey.blockHeight _ hv, ?_⟩
    intro p hp
    have := List.mem_zipIdx_iff_getElem?.mp hp
    exact ⟨IdxKey.txHash p.1 (hlt p.1 (List.mem_of_getElem? this)),
      IdxKey.txHeightIndex _ p.2 hv (Nat.lt_trans (getElem?_lt this) hlen)⟩
  | indexQC h bh => exact IdxKey.qcHeight h hd
  | _ => trivial

structure CInv (K : Bytes → Prop) (s : IState) (m : VMap) (pb : Option (Bytes × List Bytes)) : Prop where
  inv : IInv K IdxKey s m
  disc : DBDisc s.idb
  cache : CacheOK s.idb s.cache
  pend : PendOK s pb

theorem CInv.init (K : Bytes → Prop) : CInv K {} [] none :=
  ⟨IInv.init K IdxKey, DBDisc.init, CacheOK.nil _, PendOK.nil rfl⟩

theorem CInv.fits {K : Bytes → Prop} {s : IState} {m : VMap} {pb : Option (Bytes × List Bytes)} (hi : CInv K s m pb) :
    CacheFits s pb s.cache :=
  ⟨hi.cache, fun H txs hpb => by
    obtain ⟨_, _, _, _, _, _, _, _, _, hcached⟩ := hi.pend.block H txs hpb
    exact hcached⟩

theorem CInv.with_cache {K : Bytes → Prop} {s : IState} {m : VMap} {pb : Option (Bytes × List Bytes)} (hi : CInv K s m pb)
    {c : Cache} (hf : CacheFits s pb c) : CInv K { s with cache := c } m pb :=
  ⟨⟨hi.inv.st, hi.inv.idx, hi.inv.pend⟩, hi.disc, hf.1,
    hi.pend.mono hi.pend.sorted (fun _ _ => Or.inr) (fun _ _ h _ => h) rfl rfl hf.2⟩

theorem CInv.read {K : Bytes → Prop} {s : IState} {m : VMap} {pb : Option (Bytes × List Bytes)} (hi : CInv K s m pb)
    (hver : s.st.version ≤ maxVer) (vw : Option Nat) (h : Nat) (hh : h < B64) (hv : ∀ v, vw = some v → v ≤ maxVer) :
    CacheFits s pb (getBlockByHeight .byHashKey s.cache (s.view vw) h).2 := by
  have hr := hi.inv.idx
  unfold getBlockByHeight
  simp only
  by_cases he : ((s.view vw).getB (blockHeightKey h)).isEmpty = true
  · rw [if_pos he]; exact hi.fits
  · rw [if_neg he]
    cases hl : s.cache.lookup ((s.view vw).getB (blockHeightKey h)) with
    | some b =>
      exact hi.fits.of_lookup fun k b h => by rwa [Cache.lookup_touch] at h
    | none =>
      simp only
      by_cases hpe : (s.view vw).pend.isEmpty = true
      · rw [if_pos hpe]
        -- the reading view is a read-only view of the committed data
        obtain ⟨v0, hv0, hview⟩ : ∃ v0, v0 ≤ maxVer ∧ s.view vw = roV s.idb v0 := by
          cases vw with
          | none =>
            refine ⟨s.st.version, hver, ?_⟩
            have hov : s.idxOv = [] := List.isEmpty_iff.mp hpe
            simp [IState.view, IState.live, roV, hov]
          | some v => exact ⟨v, hv v rfl, rfl⟩
        rw [hview] at he ⊢
        obtain ⟨H0, hl0, hk, hhm, hhdr, hblk⟩ := resolve_height hr hver hi.disc hv0 hh he
        rw [hk]
        refine ⟨?_, ?_⟩
        · refine hi.cache.add fun c hcm hhdr' => ?_
          obtain rfl : c = h := hi.disc.hdr_uniq H0 c h _ _ hcm hhm hhdr' hhdr
          exact hblk
        · intro H txs hpb b' hlook
          rcases Cache.lookup_add hlook with ⟨ek, _⟩ | ⟨_, hl'⟩
          · -- the pending block's hash is fresh: no committed height resolves to it
            obtain rfl : H = H0 := hashKey_inj ek
            obtain ⟨_, _, _, _, _, hfresh, _⟩ := hi.pend.block H txs hpb
            rw [hfresh h hhm] at hhdr
            cases hhdr
          · exact hi.fits.2 H txs hpb b' hl'
      · rw [if_neg hpe]; exact hi.fits

theorem CInv.apply {K : Bytes → Prop} (hK : WFKeys K) {s : IState} {m : VMap} {pb : Option (Bytes × List Bytes)}
    (hi : CInv K s m pb) (op : IOp) (hd : Disc s op) (hs : ∀ o, op = .store o → OpOK K o)
    (hver : s.st.version + 1 < maxVer) :
    ∃ m' pb', CInv K (s.apply .byHashKey op) m' pb' := by
  have hv64 : s.st.version + 1 < B64 := Nat.lt_succ_of_lt hver
  obtain ⟨m', hinv', _, _⟩ := hi.inv.apply hK .byHashKey op (hd.opOK hs hv64) hver
  cases op with
  | purgeCache => exact ⟨m, pb, hi.with_cache (hi.fits.of_lookup fun k b h => by cases h)⟩
  | getBlocks vw pn pp => exact ⟨m, pb, hi.with_cache (hi.fits.of_lookup fun k b h => by rwa [getBlocks_lookup] at h)⟩
  | getBlock vw h hdr =>
    cases hdr with
    | true =>
      exact ⟨m, pb, hi.with_cache (c := (getBlockHeaderByHeight .byHashKey s.cache (s.view vw) h).2)
        (hi.fits.of_lookup fun k b h => by rwa [getBlockHeaderByHeight_lookup] at h)⟩
    | false => exact ⟨m, pb, hi.with_cache (hi.read (by omega) vw h hd.1 hd.2)⟩
  | getQC vw h => exact ⟨m, pb, hi.with_cache (hi.read (by omega) vw h hd.1 hd.2)⟩
  | indexQC h bh =>
    refine ⟨m', pb, hinv', hi.disc, hi.cache,
      hi.pend.mono (sorted_smSet hi.pend.sorted _ _) (fun k op hg => IsQC.of_smSet hd hg) ?_ rfl rfl hi.fits.2⟩
    intro k op hg hq
    show smGet (smSet s.idxOv (qcHeightKey h) (.set (encQC h bh))) k = some op
    rw [smGet_smSet, if_neg fun hk => hq _ ⟨h, bh, hd, hk, rfl⟩]
    exact hg
  | indexBlock h H txs =>
    obtain ⟨rfl, hl, hlt, hnd, hlen, honly, hfH, hfT, _⟩ := hd
    have hov := indexBlock_ov .byHashKey s (s.st.version + 1) H txs
    have hgetov : ∀ k, smGet (s.indexBlock .byHashKey (s.st.version + 1) H txs).idxOv k =
        match lookupLast (blockRecs (s.st.version + 1) H txs) k with
        | some v => some v
        | none => smGet s.idxOv k := by
      intro k; rw [hov]; exact smGet_foldl_last _ _ k
    have happ : s.apply .byHashKey (.indexBlock (s.st.version + 1) H txs) = s.indexBlock .byHashKey (s.st.version + 1) H txs := rfl
    rw [happ] at hinv' ⊢
    refine ⟨m', some (H, txs), hinv', hi.disc, ?_, ⟨?_, ?_, ?_⟩⟩
    · -- the cache: the new entry names a block whose header is not committed
      refine hi.cache.add fun c hcm hhdr => ?_
      rw [hfH c hcm] at hhdr; cases hhdr
    · rw [hov]; exact hi.pend.sorted.foldl_smSet Prod.fst Prod.snd _
    · intro h; cases h
    · intro H' txs' hpb
      cases hpb
      refine ⟨hl, hlt, hnd, hlen, hv64, hfH, hfT, ?_, ?_, ?_⟩
      · intro k op hm
        have hm0 : (k, op) ∈ blockRecs (s.st.version + 1) H txs := hm
        rw [hgetov k, lookupLast_of_functional hm0 fun v' hm' => blockRecs_functional hv64 hnd hlen hm' hm0]
      · intro k op hg
        show (k, op) ∈ blockRecs (s.st.version + 1) H txs ∨ IsQC k op
        rw [hgetov k] at hg
        cases hll : lookupLast (blockRecs (s.st.version + 1) H txs) k with
        | some v => rw [hll] at hg; injection hg with hg; exact Or.inl (hg ▸ lookupLast_mem hll)
        | none => rw [hll] at hg; exact Or.inr (honly k op hg)
      · intro b hlook
        exact (Option.some.inj ((Cache.lookup_add_self _ _ _).symm.trans hlook)).symm
  | reset =>
    rcases s.apply_reset .byHashKey with e | e <;> rw [e] at hinv' ⊢
    · exact ⟨m, pb, hi⟩
    · exact ⟨m', none, hinv', hi.disc, hi.cache, PendOK.nil rfl⟩
  | store sop =>
    rcases sop.commit_rollback_or with rfl | ⟨t, rfl⟩ | ⟨hc, hr⟩
    · rcases s.apply_commit .byHashKey with e | ⟨_, e⟩ <;> rw [e] at hinv' ⊢
      · exact ⟨m, pb, hi⟩
      · exact ⟨m', none, hinv', DBDisc.commit hi.inv.idx hi.disc hi.pend (Nat.le_of_lt hver),
          CacheOK.commit hi.inv.idx hi.disc hi.pend hi.cache (Nat.le_of_lt hver), PendOK.nil rfl⟩
    · rcases s.apply_rollback .byHashKey t with e | ⟨_, _, _, _, _, e⟩ <;> rw [e] at hinv' ⊢
      · exact ⟨m, pb, hi⟩
      · exact ⟨m', none, hinv', DBDisc.prune hi.inv.idx.sorted hi.disc _ _, CacheOK.nil _, PendOK.nil rfl⟩
    · -- the other store operations leave the version, hence what `PendOK` reads, alone
      rw [s.apply_store .byHashKey hc hr] at hinv' ⊢
      exact ⟨m', pb, hinv', hi.disc, hi.cache, hi.pend.mono hi.pend.sorted (fun _ _ => Or.inr) (fun _ _ h _ => h) rfl
        (apply_same_db s.st sop hc hr).1 hi.fits.2⟩

/-- a disciplined history: every operation satisfies `Disc` in the state it is applied to -/
def DiscRun (K : Bytes → Prop) : IState → List IOp → Prop
  | _, [] => True
  | s, op :: ops => Disc s op ∧ (∀ o, op = .store o → OpOK K o) ∧ DiscRun K (s.apply .byHashKey op) ops

theorem CInv.run {K : Bytes → Prop} (hK : WFKeys K) : ∀ (ops : List IOp) {s : IState} {m : VMap}
    {pb : Option (Bytes × List Bytes)}, CInv K s m pb → DiscRun K s ops → s.st.version + ops.length + 1 < maxVer →
    (∃ m' pb', CInv K (runIOps .byHashKey s ops) m' pb') ∧ ∀ op ∈ ops, IOpOK K IdxKey op := by
  intro ops
  induction ops with
  | nil => intro s m pb hi _ _; exact ⟨⟨m, pb, hi⟩, by simp⟩
  | cons op ops ih =>
    intro s m pb hi hd hver
    simp only [List.length_cons] at hver
    obtain ⟨hd1, hs1, hd2⟩ := hd
    have hmv : maxVer + 1 = B64 := rfl
    have hok : IOpOK K IdxKey op := hd1.opOK hs1 (by omega)
    obtain ⟨m1, pb1, hi1⟩ := hi.apply hK op hd1 hs1 (by omega)
    obtain ⟨_, _, hle, _⟩ := hi.inv.apply hK .byHashKey op hok (by omega)
    obtain ⟨hres, hoks⟩ := ih hi1 hd2 (by omega)
    exact ⟨hres, List.forall_mem_cons.mpr ⟨hok, hoks⟩⟩

/-- **`GetBlockByHeight` and `GetQCByHeight` of a read-only view answer what the database part says** -/
theorem CInv.transparent {K : Bytes → Prop} {s : IState} {m : VMap} {pb : Option (Bytes × List Bytes)}
    (hi : CInv K s m pb) {v h : Nat} (hv : v ≤ maxVer) (hh : h < B64) :
    (getBlockByHeight .byHashKey s.cache (s.ro v) h).1 = (s.ro v).dbBlockByHeight h ∧
    (getQCByHeight .byHashKey s.cache (s.ro v) h).1 =
      (((s.ro v).dbQCByHeight h).1, ((s.ro v).dbQCByHeight h).2, (s.ro v).dbBlockByHeight h) := by
  have hver : s.st.version ≤ maxVer := by have := hi.inv.st.rep.ver_lt; omega
  have h1 : (getBlockByHeight .byHashKey s.cache (s.ro v) h).1 = (s.ro v).dbBlockByHeight h :=
    Canopy.Store.transparent hi.inv.idx hver hi.disc hi.cache hv hh
  exact ⟨h1, by unfold getQCByHeight; simp only; rw [h1]⟩

end Canopy.Store
