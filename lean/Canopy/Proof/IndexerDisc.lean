import Canopy.Proof.Indexer
/-! The discipline of the index partition (C10): the records of a block all sit at the version that equals its
height and each is stored once (`DBDisc`), so every view that resolves a height assembles the same block
(`resolve_height`, `blockOf`), and the transactions it lists for a freshly committed block are the indexed ones
in index order (`txs_of_committed`). The pending index operations are quorum certificates and at most one
block for the next height (`PendOK`); committing them (`DBDisc.commit`) and pruning whole versions
(`DBDisc.prune`) keep the discipline. -/
namespace Canopy.Store
open Canopy

theorem joinLenPrefix_tag_ne {t t' : UInt8} {r r' : List Bytes} (h : t ≠ t') : joinLenPrefix ([t] :: r) ≠ joinLenPrefix ([t'] :: r') := by
  intro e
  simp only [joinLenPrefix, List.cons_append, List.nil_append, List.cons.injEq] at e
  exact h e.2.1

/-- the block and transaction hash keys: a tag and the hash -/
theorem hashKey_inj {t : UInt8} {a b : Bytes} (h : joinLenPrefix [[t], a] = joinLenPrefix [[t], b]) : a = b := by
  simp [joinLenPrefix] at h; exact h.2

theorem blockHeightKey_inj {a b : Nat} (ha : a < B64) (hb : b < B64) (h : blockHeightKey a = blockHeightKey b) : a = b := by
  have := join_injective _ _ (segsOK_be8 6 [a]) (segsOK_be8 6 [b]) h
  simp only [List.map_cons, List.map_nil, List.cons.injEq, and_true, true_and] at this
  exact be8_inj ha hb this

theorem txHeightIndexKey_inj {a b i j : Nat} (ha : a < B64) (hb : b < B64) (hi : i < B64) (hj : j < B64)
    (h : txHeightIndexKey a i = txHeightIndexKey b j) : a = b ∧ i = j := by
  have := join_injective _ _ (segsOK_be8 2 [a, i]) (segsOK_be8 2 [b, j]) h
  simp only [List.map_cons, List.map_nil, List.cons.injEq, and_true, true_and] at this
  exact ⟨be8_inj ha hb this.1, be8_inj hi hj this.2⟩

theorem txHeightKey_prefix (c i : Nat) : txHeightKey c <+: txHeightIndexKey c i := by
  refine ⟨8 :: be8 i, ?_⟩
  simp [txHeightKey, txHeightIndexKey, joinLenPrefix, be8_length]

theorem blt_txHeightIndexKey (c : Nat) {i j : Nat} (hi : i < B64) (hj : j < B64) (hij : i < j) :
    blt (txHeightIndexKey c i) (txHeightIndexKey c j) = true := by
  have split : ∀ i, txHeightIndexKey c i = ([1, 2, 8] ++ be8 c ++ [8]) ++ be8 i := fun i => by
    simp [txHeightIndexKey, joinLenPrefix, be8_length]
  rw [split, split, blt_append_left, blt_be8 i j hi hj]
  simp [hij]

theorem decHdr_encHdr (h : Nat) (H : Bytes) (hh : h < B64) : decHdr (encHdr h H) = (h, H) := by
  unfold decHdr encHdr
  have hne : (be8 h ++ H).isEmpty = false := by simp [be8]
  rw [hne]
  simp only [Bool.false_eq_true, if_false]
  rw [List.take_left' (by rfl), List.drop_left' (by rfl), beNat_be8 h hh]

theorem decTxHash_encTx (h i : Nat) (th : Bytes) : decTxHash (encTx h i th) = th := by
  unfold decTxHash encTx
  have : (be8 h ++ be8 i).length = 16 := by simp [be8_length]
  rw [List.drop_left' this]

/-- the physical key of index key `k` at version `w` -/
def IKey (k : Bytes) (w : Nat) : Bytes := mkKey (idxPrefix ++ k) w

theorem IKey_inj {k k' : Bytes} {w w' : Nat} (hw : w ≤ maxVer) (hw' : w' ≤ maxVer) (h : IKey k w = IKey k' w') :
    k = k' ∧ w = w' := pkey_inj hw hw' h

theorem IKey_ne_version {k k' : Bytes} {w w' : Nat} (hw : w ≤ maxVer) (hw' : w' ≤ maxVer) (h : w ≠ w') : IKey k w ≠ IKey k' w' :=
  fun e => h (IKey_inj hw hw' e).2

theorem getElem?_lt {txs : List Bytes} {i : Nat} {th : Bytes} (h : txs[i]? = some th) : i < txs.length :=
  let ⟨hi, _⟩ := List.getElem?_eq_some_iff.mp h
  hi

/-- every block record sits at the version that equals its height, points to a header stored once, and
its transactions are stored once, at that same version -/
structure DBDisc (idb : DB) : Prop where
  hgt : ∀ h w raw, h < B64 → w ≤ maxVer → smGet idb (IKey (blockHeightKey h) w) = some raw →
    h = w ∧ ∃ H, H.length = 32 ∧ raw = rawAlive (blockHashKey H) ∧
      smGet idb (IKey (blockHashKey H) w) = some (rawAlive (encHdr w H))
  hdr_uniq : ∀ H w w' raw raw', w ≤ maxVer → w' ≤ maxVer → smGet idb (IKey (blockHashKey H) w) = some raw →
    smGet idb (IKey (blockHashKey H) w') = some raw' → w = w'
  txi : ∀ h i w raw, h < B64 → i < B64 → w ≤ maxVer → smGet idb (IKey (txHeightIndexKey h i) w) = some raw →
    h = w ∧ ∃ th, th.length = 32 ∧ raw = rawAlive (txHashKey th) ∧ ∃ raw2, smGet idb (IKey (txHashKey th) w) = some raw2
  txh : ∀ th w raw, w ≤ maxVer → smGet idb (IKey (txHashKey th) w) = some raw → ∃ a, a.length = 16 ∧ raw = rawAlive (a ++ th)
  txh_uniq : ∀ th w w' raw raw', w ≤ maxVer → w' ≤ maxVer → smGet idb (IKey (txHashKey th) w) = some raw →
    smGet idb (IKey (txHashKey th) w') = some raw' → w = w'

theorem DBDisc.init : DBDisc [] := by
  constructor <;> intros <;> simp_all [smGet]

/-- the indexer of `NewReadOnly(v)` over the key space `idb`: `IState.ro` without the rest of the state -/
abbrev roV (idb : DB) (v : Nat) : IView := { idb := idb, version := v }

/-- the transactions a read-only view lists for a height, read off the versioned iterator: the keys play no part -/
theorem roV_txsByHeight (idb : DB) (v c : Nat) :
    (roV idb v).txsByHeight c =
      ((VS.mk idb v).iter (idxPrefix ++ txHeightKey c) false false).map fun kv => decTxHash ((roV idb v).getB kv.2) :=
  List.map_map

theorem roV_getB (idb : DB) (v : Nat) (k : Bytes) :
    (roV idb v).getB k = ((VS.mk idb v).get (idxPrefix ++ k)).getD [] := rfl

theorem getB_of_unique {idb : DB} (hw : WFL idb) {v c : Nat} (hv : v ≤ maxVer) (hc : c ≤ v) {k x : Bytes}
    (hget : smGet idb (IKey k c) = some (rawAlive x))
    (huniq : ∀ w w' raw raw', w ≤ maxVer → w' ≤ maxVer → smGet idb (IKey k w) = some raw →
      smGet idb (IKey k w') = some raw' → w = w') :
    (roV idb v).getB k = x := by
  rw [roV_getB]
  have : (VS.mk idb v).get (idxPrefix ++ k) = some x := by
    rw [VS.get_sees' idb hw v hv]
    exact ⟨c, rawAlive x, hc, Nat.le_trans hc hv, hget,
      fun w' raw' _ hm hg => Nat.le_of_eq (huniq w' c raw' _ hm (Nat.le_trans hc hv) hg hget), alive_ne_dead, rfl⟩
  rw [this]; rfl

theorem decTxHash_read {idb : DB} (hw : WFL idb) (hd : DBDisc idb) {v c : Nat} (hv : v ≤ maxVer) (hc : c ≤ v) {th raw2 : Bytes}
    (hrec : smGet idb (IKey (txHashKey th) c) = some raw2) :
    decTxHash ((roV idb v).getB (txHashKey th)) = th := by
  obtain ⟨a, hal, rfl⟩ := hd.txh th c raw2 (Nat.le_trans hc hv) hrec
  rw [getB_of_unique hw hv hc hrec (hd.txh_uniq th)]
  unfold decTxHash
  rw [List.drop_left' hal]

theorem entry_under_txHeight {idb : DB} {ver : Nat} (hr : IRep IdxKey idb ver) {c : Nat} (hc : c < B64)
    {uk : Bytes} (hp : hasPrefix (idxPrefix ++ txHeightKey c) uk = true) {w : Nat} {raw : Bytes}
    (hget : smGet idb (mkKey uk w) = some raw) :
    ∃ i, i < B64 ∧ uk = idxPrefix ++ txHeightIndexKey c i := by
  obtain ⟨k, hk, rfl⟩ := hr.key_of_mem ((smGet_eq_some_iff hr.sorted _ _).mp hget) rfl
  obtain ⟨sa, oka, rfl, shA, _⟩ := hk.segs
  have hs := join_prefix [[2], be8 c] sa (segsOK_be8 2 [c]) oka
    ((List.prefix_append_right_inj _).mp (hasPrefix_iff.mp hp))
  -- only a height.index key has the tag of the prefix
  rcases shA with ⟨_, _, rfl⟩ | ⟨_, _, rfl⟩ | ⟨_, _, rfl⟩ | ⟨_, _, rfl⟩ | ⟨n, i, hn, hi, rfl⟩ <;>
    simp [List.cons_prefix_cons] at hs
  obtain rfl : c = n := be8_inj hc hn hs
  exact ⟨i, hi, rfl⟩

/-- the height.index entries of height `c` are all at version `c`: every view from `c` on sees them as committed -/
theorem sees_txHeightIndex {idb : DB} (hd : DBDisc idb) {c i v : Nat} (hc : c < B64) (hi : i < B64) (hcv : c ≤ v)
    (hcm : c ≤ maxVer) (x : Bytes) :
    Sees idb v (idxPrefix ++ txHeightIndexKey c i) x ↔ smGet idb (IKey (txHeightIndexKey c i) c) = some (rawAlive x) := by
  constructor
  · rintro ⟨w, raw, _, hwm, hget, _, _, hx⟩
    obtain ⟨e, th, _, hraw, _⟩ := hd.txi c i w raw hc hi hwm hget
    subst e
    rw [hraw, parseVal_rawAlive] at hx
    rw [← hx, ← hraw]; exact hget
  · intro hget
    refine ⟨c, _, hcv, hcm, hget, ?_, alive_ne_dead, rfl⟩
    intro w' raw' _ hm' hg'
    rw [(hd.txi c i w' raw' hc hi hm' hg').1]
    exact Nat.le_refl _

theorem mem_iter_txHeight {idb : DB} {ver c v : Nat} (hr : IRep IdxKey idb ver) (hver : ver ≤ maxVer) (hd : DBDisc idb)
    (hc : c < B64) (hcv : c ≤ v) (hv : v ≤ maxVer) (uk x : Bytes) :
    (uk, x) ∈ (VS.mk idb v).iter (idxPrefix ++ txHeightKey c) false false ↔
      ∃ i, i < B64 ∧ uk = idxPrefix ++ txHeightIndexKey c i ∧
        smGet idb (IKey (txHeightIndexKey c i) c) = some (rawAlive x) := by
  rw [(VS.iter_sees idb (hr.wfl idxKey_wf hver) v hv _ (hr.compatP (idxKey_pfx c)) false false).2]
  constructor
  · rintro ⟨hp, hs⟩
    obtain ⟨_, _, _, _, hget, _⟩ := id hs
    obtain ⟨i, hi, rfl⟩ := entry_under_txHeight hr hc hp hget
    exact ⟨i, hi, rfl, (sees_txHeightIndex hd hc hi hcv (Nat.le_trans hcv hv) x).mp hs⟩
  · rintro ⟨i, hi, rfl, hg⟩
    exact ⟨hasPrefix_iff.mpr ((List.prefix_append_right_inj _).mpr (txHeightKey_prefix c i)),
      (sees_txHeightIndex hd hc hi hcv (Nat.le_trans hcv hv) x).mpr hg⟩

theorem txsByHeight_of_le {idb : DB} {ver v c : Nat} (hr : IRep IdxKey idb ver) (hver : ver ≤ maxVer) (hd : DBDisc idb) (hc : c < B64)
    (hv : v ≤ maxVer) (hcv : c ≤ v) : (roV idb v).txsByHeight c = (roV idb c).txsByHeight c := by
  have hw := hr.wfl idxKey_wf hver
  have hcm : c ≤ maxVer := Nat.le_trans hcv hv
  have mv := mem_iter_txHeight hr hver hd hc hcv hv
  have mc := mem_iter_txHeight hr hver hd hc (Nat.le_refl _) hcm
  have hiter : (VS.mk idb v).iter (idxPrefix ++ txHeightKey c) false false =
      (VS.mk idb c).iter (idxPrefix ++ txHeightKey c) false false :=
    sorted_mem_unique false _ _ (VS.iter_sees idb hw v hv _ (hr.compatP (idxKey_pfx c)) false false).1
      (VS.iter_sees idb hw c hcm _ (hr.compatP (idxKey_pfx c)) false false).1 fun e => by rw [mv, mc]
  rw [roV_txsByHeight, roV_txsByHeight, hiter]
  apply List.map_congr_left
  intro e he
  -- every element is a height.index entry whose value is the key of a tx record stored at `c`
  obtain ⟨i, hi, _, hg⟩ := (mc e.1 e.2).mp he
  obtain ⟨_, th, _, hraw, raw2, hrec⟩ := hd.txi c i c _ hc hi hcm hg
  have hval : e.2 = txHashKey th := by injection hraw
  rw [hval, decTxHash_read hw hd hv hcv hrec, decTxHash_read hw hd hcm (Nat.le_refl _) hrec]

/-- **the transactions of a freshly committed block, as the database part lists them**: exactly the
indexed ones, in index order -/
theorem txs_of_committed {idb : DB} {ver c : Nat} (hr : IRep IdxKey idb ver) (hver : ver ≤ maxVer) (hd : DBDisc idb)
    (hc : c < B64) (hcm : c ≤ maxVer) (txs : List Bytes) (hlen : txs.length < B64)
    (hin : ∀ (j : Nat) (th : Bytes), txs[j]? = some th →
      smGet idb (IKey (txHeightIndexKey c j) c) = some (rawAlive (txHashKey th)))
    (hex : ∀ i raw, i < B64 → smGet idb (IKey (txHeightIndexKey c i) c) = some raw → ∃ th, txs[i]? = some th) :
    (roV idb c).txsByHeight c = txs := by
  have hw := hr.wfl idxKey_wf hver
  have hsc := VS.iter_sees idb hw c hcm (idxPrefix ++ txHeightKey c) (hr.compatP (idxKey_pfx c)) false false
  -- the candidate: one height.index entry per transaction, in index order
  let L : List (Bytes × Bytes) := txs.zipIdx.map fun p => (idxPrefix ++ txHeightIndexKey c p.2, txHashKey p.1)
  have hL : (VS.mk idb c).iter (idxPrefix ++ txHeightKey c) false false = L := by
    apply sorted_mem_unique false _ _ hsc.1
    · -- the candidate is sorted
      show KeysSorted false (L.map (·.1))
      unfold KeysSorted
      simp only [L, List.map_map, List.pairwise_map, Bool.false_eq_true, if_false, Function.comp]
      rw [List.pairwise_iff_getElem]
      intro i j hi hj hij
      simp only [List.length_zipIdx] at hi hj
      simp only [List.getElem_zipIdx, Nat.zero_add]
      rw [blt_append_left]
      exact blt_txHeightIndexKey c (by omega) (by omega) hij
    · -- and has exactly the entries the view iterates
      intro e
      obtain ⟨uk, x⟩ := e
      rw [mem_iter_txHeight hr hver hd hc (Nat.le_refl _) hcm]
      simp only [L, List.mem_map, Prod.mk.injEq]
      constructor
      · rintro ⟨i, hi, rfl, hgi⟩
        obtain ⟨th, hth⟩ := hex i _ hi hgi
        have := (hin i th hth).symm.trans hgi
        injection this with this
        injection this with _ this
        exact ⟨(th, i), List.mem_zipIdx_iff_getElem?.mpr hth, rfl, this⟩
      · rintro ⟨p, hp, rfl, rfl⟩
        have hth := List.mem_zipIdx_iff_getElem?.mp hp
        exact ⟨p.2, Nat.lt_trans (getElem?_lt hth) hlen, rfl, hin p.2 p.1 hth⟩
  rw [roV_txsByHeight, hL, List.map_map]
  -- element-wise: the tx record of each listed hash decodes that hash
  conv => rhs; rw [← List.zipIdx_map_fst 0 txs]
  apply List.map_congr_left
  intro p hp
  have hth := List.mem_zipIdx_iff_getElem?.mp hp
  -- the discipline stores the record the entry points to
  obtain ⟨_, th, _, hraw, raw2, hrec⟩ := hd.txi c p.2 c _ hc (Nat.lt_trans (getElem?_lt hth) hlen) hcm (hin p.2 p.1 hth)
  have hkey : txHashKey p.1 = txHashKey th := by injection hraw
  rw [← hashKey_inj hkey] at hrec
  exact decTxHash_read hw hd hcm (Nat.le_refl _) hrec

/-- the block committed at height `c` with hash `H`, as the database part assembles it -/
def blockOf (idb : DB) (c : Nat) (H : Bytes) : BlockRes :=
  { hHeight := c, hash := H, txs := (roV idb c).txsByHeight c }

/-- resolving a height in a view: the hash key of the block committed at that height, its header, and the block
the view assembles under that key, which is the one the view at the block's own height assembles -/
theorem resolve_height {idb : DB} {ver : Nat} (hr : IRep IdxKey idb ver) (hver : ver ≤ maxVer) (hd : DBDisc idb) {v h : Nat}
    (hv : v ≤ maxVer) (hh : h < B64) (hne : ((roV idb v).getB (blockHeightKey h)).isEmpty ≠ true) :
    ∃ H, H.length = 32 ∧ (roV idb v).getB (blockHeightKey h) = blockHashKey H ∧ h ≤ maxVer ∧
      smGet idb (IKey (blockHashKey H) h) = some (rawAlive (encHdr h H)) ∧
      (roV idb v).getBlock (blockHashKey H) true = blockOf idb h H := by
  have hw := hr.wfl idxKey_wf hver
  rw [roV_getB] at hne ⊢
  cases hg : (VS.mk idb v).get (idxPrefix ++ blockHeightKey h) with
  | none => rw [hg] at hne; exact absurd rfl hne
  | some x =>
    obtain ⟨w, raw, hwv, hwm, hget, _, _, hx⟩ := (VS.get_sees' idb hw v hv _ _).mp hg
    obtain ⟨e, H, hl, hraw, hhdr⟩ := hd.hgt h w raw hh hwm hget
    subst e
    rw [hraw, parseVal_rawAlive] at hx
    refine ⟨H, hl, hx.symm, hwm, hhdr, ?_⟩
    -- the header is stored once, so every view from `h` on reads it, and lists the same transactions
    unfold IView.getBlock blockOf
    rw [getB_of_unique hw hv hwv hhdr (hd.hdr_uniq H), decHdr_encHdr h H hh]
    simp only [if_true]
    rw [txsByHeight_of_le hr hver hd hh hv hwv]

def IsQC (k : Bytes) (op : TOp) : Prop := ∃ h bh, h < B64 ∧ k = qcHeightKey h ∧ op = .set (encQC h bh)

theorem notQC_tag {t : UInt8} {rest : List Bytes} {op : TOp} (ht : t ≠ 7) : ¬ IsQC (joinLenPrefix ([t] :: rest)) op := by
  rintro ⟨_, _, _, e, _⟩
  exact joinLenPrefix_tag_ne ht e

theorem IsQC.of_smSet {ov : Overlay} {h : Nat} {bh k : Bytes} {op : TOp} (hh : h < B64)
    (hg : smGet (smSet ov (qcHeightKey h) (.set (encQC h bh))) k = some op) : IsQC k op ∨ smGet ov k = some op := by
  rw [smGet_smSet] at hg
  by_cases hk : k = qcHeightKey h
  · rw [if_pos hk] at hg; injection hg with hg
    exact Or.inl ⟨h, bh, hh, hk, hg.symm⟩
  · rw [if_neg hk] at hg; exact Or.inr hg

theorem blockRecs_blockHash {c : Nat} {H H0 : Bytes} {txs : List Bytes} {op : TOp}
    (h : (blockHashKey H0, op) ∈ blockRecs c H txs) : H0 = H ∧ op = .set (encHdr c H) := by
  rcases mem_blockRecs.mp h with ⟨e, rfl⟩ | ⟨e, _⟩ | ⟨_, _, _, ⟨e, _⟩ | ⟨e, _⟩⟩
  · exact ⟨hashKey_inj e, rfl⟩
  all_goals exact absurd e (joinLenPrefix_tag_ne (by decide))

theorem blockRecs_blockHeight {c h : Nat} {H : Bytes} {txs : List Bytes} {op : TOp}
    (hm : (blockHeightKey h, op) ∈ blockRecs c H txs) : blockHeightKey h = blockHeightKey c ∧ op = .set (blockHashKey H) := by
  rcases mem_blockRecs.mp hm with ⟨e, _⟩ | ⟨e, rfl⟩ | ⟨_, _, _, ⟨e, _⟩ | ⟨e, _⟩⟩
  · exact absurd e (joinLenPrefix_tag_ne (by decide))
  · exact ⟨e, rfl⟩
  all_goals exact absurd e (joinLenPrefix_tag_ne (by decide))

theorem blockRecs_txHash {c : Nat} {H th : Bytes} {txs : List Bytes} {op : TOp}
    (h : (txHashKey th, op) ∈ blockRecs c H txs) : ∃ i, txs[i]? = some th ∧ op = .set (encTx c i th) := by
  rcases mem_blockRecs.mp h with ⟨e, _⟩ | ⟨e, _⟩ | ⟨i, th', hi, ⟨e, rfl⟩ | ⟨e, _⟩⟩
  · exact absurd e (joinLenPrefix_tag_ne (by decide))
  · exact absurd e (joinLenPrefix_tag_ne (by decide))
  · exact ⟨i, hashKey_inj e ▸ hi, hashKey_inj e ▸ rfl⟩
  · exact absurd e (joinLenPrefix_tag_ne (by decide))

theorem blockRecs_txHeightIndex {c h i : Nat} {H : Bytes} {txs : List Bytes} {op : TOp} (hh : h < B64) (hc : c < B64)
    (hi : i < B64) (hlen : txs.length < B64) (hm : (txHeightIndexKey h i, op) ∈ blockRecs c H txs) :
    h = c ∧ ∃ th, txs[i]? = some th ∧ op = .set (txHashKey th) := by
  rcases mem_blockRecs.mp hm with ⟨e, _⟩ | ⟨e, _⟩ | ⟨j, th, hj, ⟨e, _⟩ | ⟨e, rfl⟩⟩
  · exact absurd e (joinLenPrefix_tag_ne (by decide))
  · exact absurd e (joinLenPrefix_tag_ne (by decide))
  · exact absurd e (joinLenPrefix_tag_ne (by decide))
  · obtain ⟨rfl, rfl⟩ := txHeightIndexKey_inj hh hc hi (Nat.lt_trans (getElem?_lt hj) hlen) e
    exact ⟨rfl, th, hj, rfl⟩

theorem notQC_of_mem_blockRecs {c : Nat} {H : Bytes} {txs : List Bytes} {k : Bytes} {op op' : TOp}
    (h : (k, op) ∈ blockRecs c H txs) : ¬ IsQC k op' :=
  blockRecs_keys (IK := fun k => ¬ IsQC k op') (notQC_tag (by decide)) (notQC_tag (by decide))
    (fun _ _ _ => ⟨notQC_tag (by decide), notQC_tag (by decide)⟩) _ h

theorem blockRecs_functional {c : Nat} {H : Bytes} {txs : List Bytes} (hc : c < B64)
    (hn : txs.Nodup) (hlen : txs.length < B64) {k : Bytes} {op op' : TOp}
    (h1 : (k, op) ∈ blockRecs c H txs) (h2 : (k, op') ∈ blockRecs c H txs) : op = op' := by
  rcases mem_blockRecs.mp h1 with ⟨rfl, rfl⟩ | ⟨rfl, rfl⟩ | ⟨i, th, hi, ⟨rfl, rfl⟩ | ⟨rfl, rfl⟩⟩
  · exact (blockRecs_blockHash h2).2.symm
  · exact (blockRecs_blockHeight h2).2.symm
  · obtain ⟨j, hj, rfl⟩ := blockRecs_txHash h2
    rw [(List.getElem?_inj (getElem?_lt hi) hn).mp (hi.trans hj.symm)]
  · obtain ⟨_, th', hj, rfl⟩ := blockRecs_txHeightIndex hc hc (Nat.lt_trans (getElem?_lt hi) hlen) hlen h2
    rw [Option.some.inj (hi.symm.trans hj)]

def FreshH (idb : DB) (H : Bytes) : Prop := ∀ w, w ≤ maxVer → smGet idb (IKey (blockHashKey H) w) = none
def FreshTxs (idb : DB) (txs : List Bytes) : Prop := ∀ th ∈ txs, ∀ w, w ≤ maxVer → smGet idb (IKey (txHashKey th) w) = none

/-- the pending index operations: quorum certificates, and at most one block — for the next height,
under a fresh hash, with fresh transactions — whose cache entry (if any) is the block as indexed -/
structure PendOK (s : IState) (pb : Option (Bytes × List Bytes)) : Prop where
  sorted : SSorted s.idxOv
  noBlock : pb = none → ∀ k op, smGet s.idxOv k = some op → IsQC k op
  block : ∀ H txs, pb = some (H, txs) →
    H.length = 32 ∧ (∀ th ∈ txs, th.length = 32) ∧ txs.Nodup ∧ txs.length < B64 ∧ s.st.version + 1 < B64 ∧
    FreshH s.idb H ∧ FreshTxs s.idb txs ∧
    (∀ k op, (k, op) ∈ blockRecs (s.st.version + 1) H txs → smGet s.idxOv k = some op) ∧
    (∀ k op, smGet s.idxOv k = some op → (k, op) ∈ blockRecs (s.st.version + 1) H txs ∨ IsQC k op) ∧
    (∀ b, s.cache.lookup (blockHashKey H) = some b → b = { hHeight := s.st.version + 1, hash := H, txs := txs })

theorem PendOK.nil {s : IState} (h : s.idxOv = []) : PendOK s none :=
  ⟨h ▸ List.Pairwise.nil, fun _ k op hg => by simp [h, smGet] at hg, fun _ _ hpb => by cases hpb⟩

/-- `PendOK` reads the state through the database, the version, the cache entry of the pending block, and the
pending operations up to quorum certificates: those may come and go -/
theorem PendOK.mono {s s' : IState} {pb : Option (Bytes × List Bytes)} (hp : PendOK s pb) (hs : SSorted s'.idxOv)
    (hsub : ∀ k op, smGet s'.idxOv k = some op → IsQC k op ∨ smGet s.idxOv k = some op)
    (hsup : ∀ k op, smGet s.idxOv k = some op → (∀ op', ¬ IsQC k op') → smGet s'.idxOv k = some op)
    (hdb : s'.idb = s.idb) (hv : s'.st.version = s.st.version)
    (hc : ∀ H txs, pb = some (H, txs) → ∀ b, s'.cache.lookup (blockHashKey H) = some b →
      b = { hHeight := s.st.version + 1, hash := H, txs := txs }) : PendOK s' pb := by
  refine ⟨hs, fun hpb k op hg => (hsub k op hg).elim id (hp.noBlock hpb k op), fun H txs hpb => ?_⟩
  obtain ⟨a, b, c, d, e, f, g, h1, h2, _⟩ := hp.block H txs hpb
  rw [hdb, hv]
  exact ⟨a, b, c, d, e, f, g, fun k op hm => hsup k op (h1 k op hm) fun _ => notQC_of_mem_blockRecs hm,
    fun k op hg => (hsub k op hg).elim Or.inr (h2 k op), hc H txs hpb⟩

theorem PendOK.block_of_get {s : IState} {pb : Option (Bytes × List Bytes)} (hp : PendOK s pb) {k : Bytes} {op : TOp}
    (hg : smGet s.idxOv k = some op) (hq : ¬ IsQC k op) :
    ∃ H txs, pb = some (H, txs) ∧ (k, op) ∈ blockRecs (s.st.version + 1) H txs := by
  cases hpb : pb with
  | none => exact absurd (hp.noBlock hpb k op hg) hq
  | some p =>
    obtain ⟨_, _, _, _, _, _, _, _, honly, _⟩ := hp.block p.1 p.2 hpb
    rcases honly k op hg with h | h
    · exact ⟨p.1, p.2, rfl, h⟩
    · exact absurd h hq

theorem PendOK.keys {s : IState} {pb : Option (Bytes × List Bytes)} (hp : PendOK s pb) : ∀ e ∈ s.idxOv, IdxKey e.1 := by
  intro e he
  have hg : smGet s.idxOv e.1 = some e.2 := (smGet_eq_some_iff hp.sorted _ _).mpr he
  by_cases hq : IsQC e.1 e.2
  · obtain ⟨h, _, hh, ek, _⟩ := hq
    rw [ek]; exact IdxKey.qcHeight h hh
  · obtain ⟨H, txs, hpb, hm⟩ := hp.block_of_get hg hq
    obtain ⟨hl, hlt, _, hlen, hv, _⟩ := hp.block H txs hpb
    exact blockRecs_keys (IdxKey.blockHash H hl) (IdxKey.blockHeight _ hv) (fun i th hi =>
      ⟨IdxKey.txHash th (hlt th (List.mem_of_getElem? hi)),
        IdxKey.txHeightIndex _ i hv (Nat.lt_trans (getElem?_lt hi) hlen)⟩) e hm

theorem smGet_commit_idx {idb : DB} {ver : Nat} (hr : IRep IdxKey idb ver) (ov : Overlay) (hs : SSorted ov)
    (hver : ver + 1 ≤ maxVer) (k : Bytes) (w : Nat) (hw : w ≤ maxVer) :
    smGet (applyBatch idb (idxBatch ov (ver + 1))) (IKey k w) =
      if w = ver + 1 then (smGet ov k).map rawOf else smGet idb (IKey k w) := by
  rw [smGet_applyBatch hr.sorted]
  unfold idxBatch
  by_cases hwv : w = ver + 1
  · subst hwv
    rw [if_pos rfl]
    have := batchLookup_ov_puts ov hs (fun a => mkKey (idxPrefix ++ a) (ver + 1))
      (fun a b e => (IKey_inj hver hver e).1) rawOf k
    show (match batchLookup (ov.map fun e => BatchOp.put (mkKey (idxPrefix ++ e.1) (ver + 1)) (rawOf e.2)) (IKey k (ver + 1)) with
      | some r => r | none => smGet idb (IKey k (ver + 1))) = _
    unfold IKey
    rw [this]
    cases hg : smGet ov k with
    | some op => rfl
    | none =>
      simp only [Option.map_none]
      -- no old entry at the new version
      cases hold : smGet idb (mkKey (idxPrefix ++ k) (ver + 1)) with
      | none => rfl
      | some raw => exact absurd (hr.version_le (Nat.le_of_succ_le hver) hver hold) (Nat.not_succ_le_self ver)
  · rw [if_neg hwv, batchLookup_map_none]
    intro a _
    exact fun e => hwv (IKey_inj hver hw e).2.symm

/-- a key stored at one version at most stays so across a commit that writes it only if it was never stored -/
theorem version_uniq_commit {idb db' : DB} {ov : Overlay} {n : Nat} {k : Bytes}
    (hget : ∀ w, w ≤ maxVer → smGet db' (IKey k w) = if w = n then (smGet ov k).map rawOf else smGet idb (IKey k w))
    (hfresh : ∀ op, smGet ov k = some op → ∀ w, w ≤ maxVer → smGet idb (IKey k w) = none)
    (hu : ∀ w w' raw raw', w ≤ maxVer → w' ≤ maxVer → smGet idb (IKey k w) = some raw →
      smGet idb (IKey k w') = some raw' → w = w') :
    ∀ w w' raw raw', w ≤ maxVer → w' ≤ maxVer → smGet db' (IKey k w) = some raw →
      smGet db' (IKey k w') = some raw' → w = w' := by
  intro w w' raw raw' hw hw' hg hg'
  rw [hget w hw] at hg
  rw [hget w' hw'] at hg'
  cases hov : smGet ov k with
  | none =>
    -- not written by this commit: both entries are old ones
    rw [hov, Option.map_none, Option.ite_none_left_eq_some] at hg hg'
    exact hu w w' raw raw' hw hw' hg.2 hg'.2
  | some op =>
    -- written by this commit: there is no old entry, so both are the new one
    rw [hfresh op hov w hw, Option.ite_none_right_eq_some] at hg
    rw [hfresh op hov w' hw', Option.ite_none_right_eq_some] at hg'
    exact hg.1.trans hg'.1.symm

theorem DBDisc.commit {s : IState} {pb : Option (Bytes × List Bytes)} (hr : IRep IdxKey s.idb s.st.version)
    (hd : DBDisc s.idb) (hp : PendOK s pb) (hver : s.st.version + 1 ≤ maxVer) :
    DBDisc (applyBatch s.idb (idxBatch s.idxOv (s.st.version + 1))) := by
  have hc64 : s.st.version + 1 < B64 := Nat.lt_succ_of_le hver
  have hget := smGet_commit_idx hr s.idxOv hp.sorted hver
  generalize applyBatch s.idb (idxBatch s.idxOv (s.st.version + 1)) = db' at hget ⊢
  -- an entry of the new version is a pending operation, the others are the old entries
  have hnew : ∀ {k raw}, smGet db' (IKey k (s.st.version + 1)) = some raw → ∃ op, smGet s.idxOv k = some op ∧ raw = rawOf op := by
    intro k raw h
    rw [hget k _ hver, if_pos rfl] at h
    obtain ⟨op, hop, e⟩ := Option.map_eq_some_iff.mp h
    exact ⟨op, hop, e.symm⟩
  have hput : ∀ {H txs}, pb = some (H, txs) → ∀ {k op}, (k, op) ∈ blockRecs (s.st.version + 1) H txs →
      smGet db' (IKey k (s.st.version + 1)) = some (rawOf op) := by
    intro H txs hpb k op hm
    obtain ⟨_, _, _, _, _, _, _, hrecs, _⟩ := hp.block H txs hpb
    rw [hget k _ hver, if_pos rfl, hrecs k op hm]
    rfl
  have hold : ∀ k {w}, w ≤ maxVer → w ≠ s.st.version + 1 → smGet db' (IKey k w) = smGet s.idb (IKey k w) := by
    intro k w hw hne; rw [hget k w hw, if_neg hne]
  constructor
  · intro h w raw hh hw hg
    by_cases hwv : w = s.st.version + 1
    · subst hwv
      obtain ⟨op, hop, rfl⟩ := hnew hg
      obtain ⟨H, txs, hpb, hm⟩ := hp.block_of_get hop (notQC_tag (by decide))
      obtain ⟨e, rfl⟩ := blockRecs_blockHeight hm
      exact ⟨blockHeightKey_inj hh hc64 e, H, (hp.block H txs hpb).1, rfl, hput hpb (mem_blockRecs.mpr (Or.inl ⟨rfl, rfl⟩))⟩
    · simp only [hold _ hw hwv] at hg ⊢
      exact hd.hgt h w raw hh hw hg
  · intro H0
    refine version_uniq_commit (hget _) (fun op hop => ?_) (hd.hdr_uniq H0)
    obtain ⟨H, txs, hpb, hm⟩ := hp.block_of_get hop (notQC_tag (by decide))
    rw [(blockRecs_blockHash hm).1]
    obtain ⟨_, _, _, _, _, hfresh, _⟩ := hp.block H txs hpb
    exact hfresh
  · intro h i w raw hh hi hw hg
    by_cases hwv : w = s.st.version + 1
    · subst hwv
      obtain ⟨op, hop, rfl⟩ := hnew hg
      obtain ⟨H, txs, hpb, hm⟩ := hp.block_of_get hop (notQC_tag (by decide))
      obtain ⟨_, hlt, _, hlen, _⟩ := hp.block H txs hpb
      obtain ⟨e, th, hj, rfl⟩ := blockRecs_txHeightIndex hh hc64 hi hlen hm
      exact ⟨e, th, hlt th (List.mem_of_getElem? hj), rfl, _,
        hput hpb (mem_blockRecs.mpr (Or.inr (Or.inr ⟨i, th, hj, Or.inl ⟨rfl, rfl⟩⟩)))⟩
    · simp only [hold _ hw hwv] at hg ⊢
      exact hd.txi h i w raw hh hi hw hg
  · intro th0 w raw hw hg
    by_cases hwv : w = s.st.version + 1
    · subst hwv
      obtain ⟨op, hop, rfl⟩ := hnew hg
      obtain ⟨H, txs, hpb, hm⟩ := hp.block_of_get hop (notQC_tag (by decide))
      obtain ⟨j, _, rfl⟩ := blockRecs_txHash hm
      exact ⟨be8 (s.st.version + 1) ++ be8 j, by simp [be8_length], rfl⟩
    · rw [hold _ hw hwv] at hg
      exact hd.txh th0 w raw hw hg
  · intro th0
    refine version_uniq_commit (hget _) (fun op hop => ?_) (hd.txh_uniq th0)
    obtain ⟨H, txs, hpb, hm⟩ := hp.block_of_get hop (notQC_tag (by decide))
    obtain ⟨j, hj, _⟩ := blockRecs_txHash hm
    obtain ⟨_, _, _, _, _, _, hfresh, _⟩ := hp.block H txs hpb
    exact hfresh th0 (List.mem_of_getElem? hj)

theorem DBDisc.prune {idb : DB} (hs : SSorted idb) (hd : DBDisc idb) (lo hi : Nat) : DBDisc (idxPrune idb lo hi) := by
  -- an entry survives exactly when its version is outside the window, so whole versions go or stay
  have surv : ∀ {k w raw}, w ≤ maxVer → (smGet (idxPrune idb lo hi) (IKey k w) = some raw ↔
      ¬ (lo ≤ w ∧ w ≤ hi) ∧ smGet idb (IKey k w) = some raw) := fun hw => smGet_prune hs lo hi _ hw _
  constructor
  · intro h w raw hh hw hg
    obtain ⟨hc, hg'⟩ := (surv hw).mp hg
    simp only [surv hw, hc, not_false_eq_true, true_and]
    exact hd.hgt h w raw hh hw hg'
  · intro H w w' raw raw' hw hw' hg hg'
    exact hd.hdr_uniq H w w' raw raw' hw hw' ((surv hw).mp hg).2 ((surv hw').mp hg').2
  · intro h i w raw hh hi hw hg
    obtain ⟨hc, hg'⟩ := (surv hw).mp hg
    simp only [surv hw, hc, not_false_eq_true, true_and]
    exact hd.txi h i w raw hh hi hw hg'
  · intro th w raw hw hg
    exact hd.txh th w raw hw ((surv hw).mp hg).2
  · intro th w w' raw raw' hw hw' hg hg'
    exact hd.txh_uniq th w w' raw raw' hw hw' ((surv hw).mp hg).2 ((surv hw').mp hg').2

end Canopy.Store
