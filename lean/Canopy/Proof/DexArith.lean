import Canopy.Model.DexArith
import Canopy.Proof.Guards
/-! Arithmetic behind C20: `safeMulDiv` and the pro-rata share, the integer square root, `uint64` addition, the swap
formula (`rawDY`), the deposit points formula. Core Lean only. -/
namespace Canopy.Dex
open Canopy.Gen.Dex

theorem safeMulDiv_gen (a b c : Nat) : SafeMulDiv a b c = some (safeMulDiv a b c) := by
  unfold SafeMulDiv safeMulDiv U64
  by_cases h : c = 0 <;> simp [h]

theorem safeMulDiv_le (a b c : Nat) : safeMulDiv a b c ≤ a * b / c := by
  unfold safeMulDiv
  split
  · exact Nat.zero_le _
  · exact Nat.mod_le _ _

theorem safeMulDiv_lt {a b c : Nat} : safeMulDiv a b c < U64 := by
  unfold safeMulDiv
  split
  · decide
  · exact Nat.mod_lt _ (by decide)

theorem safeMulDiv_exact (a b c : Nat) (hc : c ≠ 0) (h : a * b / c < U64) : safeMulDiv a b c = a * b / c := by
  unfold safeMulDiv
  rw [if_neg hc, Nat.mod_eq_of_lt h]

theorem safeMulDiv_zero_left (b c : Nat) : safeMulDiv 0 b c = 0 := by
  unfold safeMulDiv; split <;> simp

theorem safeMulDiv_percent_le (held pct : Nat) (h : pct ≤ 100) : safeMulDiv held pct 100 ≤ held := by
  have := safeMulDiv_le held pct 100
  have : held * pct / 100 ≤ held := by
    apply Nat.div_le_of_le_mul
    calc held * pct ≤ held * 100 := Nat.mul_le_mul_left _ h
      _ = 100 * held := Nat.mul_comm _ _
  omega

/-- two-stage pro-rata (`total := r*T/P`, `share := total*pts/T`) never exceeds the direct share `r*pts/P` -/
theorem share_le (r T P pts : Nat) :
    safeMulDiv (safeMulDiv r T P) pts T ≤ r * pts / P := by
  by_cases hP : P = 0
  · have : safeMulDiv r T P = 0 := by simp [safeMulDiv, hP]
    rw [this, safeMulDiv_zero_left]
    exact Nat.zero_le _
  by_cases hT : T = 0
  · simp [safeMulDiv, hT]
  have hPpos : 0 < P := Nat.pos_of_ne_zero hP
  have hTpos : 0 < T := Nat.pos_of_ne_zero hT
  have hq : safeMulDiv r T P * P ≤ r * T :=
    Nat.le_trans (Nat.mul_le_mul_right _ (safeMulDiv_le r T P)) (Nat.div_mul_le_self _ _)
  have hs : safeMulDiv (safeMulDiv r T P) pts T * T ≤ safeMulDiv r T P * pts :=
    Nat.le_trans (Nat.mul_le_mul_right _ (safeMulDiv_le _ pts T)) (Nat.div_mul_le_self _ _)
  rw [Nat.le_div_iff_mul_le hPpos]
  apply Nat.le_of_mul_le_mul_right _ hTpos
  calc safeMulDiv (safeMulDiv r T P) pts T * P * T
      = safeMulDiv (safeMulDiv r T P) pts T * T * P := by ac_rfl
    _ ≤ safeMulDiv r T P * pts * P := Nat.mul_le_mul_right _ hs
    _ = safeMulDiv r T P * P * pts := by ac_rfl
    _ ≤ r * T * pts := Nat.mul_le_mul_right _ hq
    _ = r * pts * T := by ac_rfl

theorem share_lt {r m P : Nat} (hr : 0 < r) (hm : m < P) : safeMulDiv (safeMulDiv r m P) m m < r := by
  have h1 := share_le r m P m
  have : r * m / P < r := by
    apply Nat.div_lt_of_lt_mul
    calc r * m < r * P := Nat.mul_lt_mul_of_pos_left hm hr
      _ = P * r := Nat.mul_comm _ _
  omega

theorem sqrt_lt_of {n r : Nat} (h : n < r * r) : Nat.sqrt n < r :=
  Nat.mul_self_lt_mul_self_iff.mp (Nat.lt_of_le_of_lt (Nat.sqrt_le n) h)

theorem lt_succ_sqrt_of {n r : Nat} (h : r * r ≤ n) : r < Nat.succ (Nat.sqrt n) :=
  Nat.mul_self_lt_mul_self_iff.mp (Nat.lt_of_le_of_lt h (Nat.lt_succ_sqrt n))

theorem sqrt_mono {a b : Nat} (h : a ≤ b) : Nat.sqrt a ≤ Nat.sqrt b :=
  Nat.le_of_lt_succ (lt_succ_sqrt_of (Nat.le_trans (Nat.sqrt_le a) h))

/-- characterisation of the integer square root (lets concrete values be checked by `decide`) -/
theorem sqrt_eq_of {n r : Nat} (h1 : r * r ≤ n) (h2 : n < (r + 1) * (r + 1)) : Nat.sqrt n = r :=
  Nat.le_antisymm (Nat.le_of_lt_succ (sqrt_lt_of h2)) (Nat.le_of_lt_succ (lt_succ_sqrt_of h1))

theorem sqrt_zero : Nat.sqrt 0 = 0 := sqrt_eq_of (by decide) (by decide)

theorem sqrtProduct_gen (x y : Nat) : SqrtProductUint64 x y = some (sqrtProduct x y) := by
  simp [SqrtProductUint64, sqrtProduct, U64]

theorem sqrtProduct_lt {x y : Nat} : sqrtProduct x y < U64 := Nat.mod_lt _ (by decide)

theorem sqrt_lt_U64 (x y : Nat) (hx : x < U64) (hy : y < U64) : Nat.sqrt (x * y) < U64 :=
  sqrt_lt_of (Nat.mul_lt_mul'' hx hy)

theorem sqrtProduct_exact (x y : Nat) (hx : x < U64) (hy : y < U64) : sqrtProduct x y = Nat.sqrt (x * y) :=
  Nat.mod_eq_of_lt (sqrt_lt_U64 x y hx hy)

theorem addUint64_exact {a b : Nat} (h : ¬ (addUint64 a b).2 = true) : (addUint64 a b).1 = a + b := by
  unfold addUint64 at *
  simp only [decide_eq_true_eq] at h
  exact Nat.mod_eq_of_lt (by omega)

theorem addUint64_lt {a b : Nat} : (addUint64 a b).1 < U64 := Nat.mod_lt _ (by decide)

/-- the raw (un-truncated) AMM output -/
def rawDY (x y dX : Nat) : Nat := dX * 990 * y / (x * 1000 + dX * 990)

theorem computeDY_eq (x y dX : Nat) (h : 0 < x ∨ 0 < dX) :
    computeDY x y dX = some (rawDY x y dX % U64) := by
  unfold computeDY SafeComputeDY rawDY U64
  simp
  omega

theorem computeDY_panic : computeDY 0 y 0 = none := by
  simp [computeDY, SafeComputeDY]

theorem den_pos (x dX : Nat) (hx : 0 < x) : 0 < x * 1000 + dX * 990 :=
  Nat.add_pos_left (Nat.mul_pos hx (by decide)) _

theorem rawDY_lt (x y dX : Nat) (hx : 0 < x) (hy : 0 < y) : rawDY x y dX < y := by
  unfold rawDY
  rw [Nat.div_lt_iff_lt_mul (den_pos x dX hx), Nat.mul_add, Nat.mul_comm (dX * 990) y]
  exact Nat.lt_add_of_pos_left (Nat.mul_pos hy (Nat.mul_pos hx (by decide)))

theorem rawDY_product (x y dX : Nat) (hx : 0 < x) (hy : 0 < y) :
    x * y ≤ (x + dX) * (y - rawDY x y dX) := by
  have hlt := rawDY_lt x y dX hx hy
  have hd := den_pos x dX hx
  have h1 : rawDY x y dX * (x * 1000 + dX * 990) ≤ dX * 990 * y := Nat.div_mul_le_self _ _
  have h2 : (x + dX) * rawDY x y dX ≤ dX * y := by
    apply Nat.le_of_mul_le_mul_right _ hd
    calc (x + dX) * rawDY x y dX * (x * 1000 + dX * 990)
        = (x + dX) * (rawDY x y dX * (x * 1000 + dX * 990)) := Nat.mul_assoc _ _ _
      _ ≤ (x + dX) * (dX * 990 * y) := Nat.mul_le_mul_left _ h1
      _ = ((x + dX) * 990) * (dX * y) := by ac_rfl
      _ ≤ (x * 1000 + dX * 990) * (dX * y) := Nat.mul_le_mul_right _ (by rw [Nat.add_mul]; exact Nat.add_le_add_right (Nat.mul_le_mul_left _ (by decide)) _)
      _ = dX * y * (x * 1000 + dX * 990) := Nat.mul_comm _ _
  rw [Nat.mul_sub, Nat.add_mul]
  omega

theorem rawDY_fits (x y dX : Nat) (hx : 0 < x) (hy : 0 < y) (hy64 : y < U64) :
    rawDY x y dX % U64 = rawDY x y dX :=
  Nat.mod_eq_of_lt (Nat.lt_trans (rawDY_lt x y dX hx hy) hy64)

theorem computeDY_lt {x y dX : Nat} (hx : 0 < x) (hy : 0 < y) : ∃ d, computeDY x y dX = some d ∧ d < y :=
  ⟨rawDY x y dX % U64, computeDY_eq x y dX (Or.inl hx), Nat.lt_of_le_of_lt (Nat.mod_le _ _) (rawDY_lt x y dX hx hy)⟩

theorem liquidityDepositPoints_ok {L x y a d : Nat} (h : liquidityDepositPoints L x y a = .ok d) :
    ¬ (addUint64 x a).2 = true ∧ sqrtProduct x y ≠ 0 ∧ sqrtProduct x y ≤ sqrtProduct (addUint64 x a).1 y ∧
    d = safeMulDiv L (sqrtProduct (addUint64 x a).1 y - sqrtProduct x y) (sqrtProduct x y) := by
  simp only [liquidityDepositPoints, ite_error_eq_ok, Except.ok.injEq, not_or, Nat.not_lt] at h
  exact ⟨h.1, h.2.1.1, h.2.1.2, h.2.2.symm⟩

end Canopy.Dex
