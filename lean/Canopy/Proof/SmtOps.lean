import Canopy.Proof.SmtBasic
/-! `insert` / `delete` preserve well-formedness and act on the contents as map insert / erase: each replaces the binding of
one key (`Upd`). Core only. -/
namespace Canopy.Smt

/-- the binding an operation leaves at its key -/
def Op.effect : Op → Option Bytes
  | .set _ v => some v
  | .del _ => none

namespace Trie

theorem wf_leaf {n : Nat} {k : Key} {v : Bytes} (h : k.length = n) : WF n (leaf k v) := h

theorem insert_mk {p k : Key} {b : Bool} (h : p ++ [b] <+: k) (v : Bytes) (c s : Trie) :
    insert k v (mk p b c s) = mk p b (insert k v c) s := by
  cases b
  · simp only [mk, insert, if_pos h]
  · simp only [mk, insert, if_neg (not_snoc_false_of_snoc_true h), if_pos h]

theorem insert_off {p k : Key} (h : ∀ b, ¬ p ++ [b] <+: k) (v : Bytes) (l r : Trie) :
    insert k v (node p l r) = join k v (node p l r) := by
  simp only [insert, if_neg (h false), if_neg (h true)]

theorem delete_mk {p k : Key} {b : Bool} (h : p ++ [b] <+: k) (c s : Trie) :
    delete k (mk p b c s) = match c with
      | leaf k' _ => if k' = k then s else mk p b c s
      | node _ _ _ => mk p b (delete k c) s := by
  cases b
  · cases c <;> simp only [mk, delete, if_pos h]
  · cases c <;> simp only [mk, delete, if_neg (not_snoc_false_of_snoc_true h), if_pos h]

theorem delete_off {p k : Key} (h : ∀ b, ¬ p ++ [b] <+: k) (l r : Trie) : delete k (node p l r) = node p l r := by
  simp only [delete, if_neg (h false), if_neg (h true)]

theorem join_eq_mk {k : Key} {x : Bool} {t : Trie} (h : gcp k t.key ++ [x] <+: k) (v : Bytes) :
    join k v t = mk (gcp k t.key) x (leaf k v) t := by
  cases x
  · simp only [join, mk, if_pos h]
  · simp only [join, mk, if_neg (not_snoc_false_of_snoc_true h)]

theorem mem_iff_of_not_mem {k : Key} {t : Trie} (hnot : k ∉ t.keys) (k' : Key) (v' : Bytes) :
    (k', v') ∈ t.toList ↔ k' ≠ k ∧ (k', v') ∈ t.toList :=
  ⟨fun h => ⟨fun e => hnot (e ▸ mem_keys_of_mem h), h⟩, fun h => h.2⟩

/-- `t'` is canonical and holds the contents of `t` with the binding of `k` replaced by `o` (`none` = no binding) -/
def Upd (n : Nat) (k : Key) (o : Option Bytes) (t t' : Trie) : Prop :=
  WF n t' ∧ ∀ k' v', (k', v') ∈ t'.toList ↔ (k' = k ∧ some v' = o) ∨ (k' ≠ k ∧ (k', v') ∈ t.toList)

variable {n : Nat} {k : Key} {o : Option Bytes}

theorem Upd.rep {t t' : Trie} {S : KMap} (h : t.Rep n S) (hu : Upd n k o t t') :
    t'.Rep n (fun k' => if k' = k then o else S k') := by
  refine ⟨hu.1, fun k' v' => ?_⟩
  rw [hu.2, h.2]
  by_cases e : k' = k <;> simp [e, eq_comm]

theorem Upd.of_not_mem {t : Trie} (ht : WF n t) (hk : k ∉ t.keys) : Upd n k none t t :=
  ⟨ht, fun k' v' => (mem_iff_of_not_mem hk k' v').trans (or_iff_right fun h => nomatch h.2).symm⟩

/-- a replacement in the child on the side the key takes is a replacement in the node -/
theorem Upd.mk {p : Key} {b : Bool} {c c' s : Trie} (ht : WF n (mk p b c s)) (hb : p ++ [b] <+: k)
    (h : Upd n k o c c') : Upd n k o (mk p b c s) (mk p b c' s) := by
  obtain ⟨hc, hs, hck, hsk⟩ := wf_mk.mp ht
  obtain ⟨hw, hm⟩ := h
  refine ⟨wf_mk.mpr ⟨hw, hs, fun k' hk' => ?_, hsk⟩, fun k' v' => ?_⟩
  · obtain ⟨v', hv'⟩ := exists_mem_of_mem_keys hk'
    rcases (hm k' v').mp hv' with ⟨rfl, _⟩ | ⟨_, hm⟩
    · exact hb
    · exact hck _ (mem_keys_of_mem hm)
  · -- the other child `s` is untouched and cannot hold the key
    rw [mem_toList_mk, hm, mem_toList_mk, and_or_left, or_assoc]
    exact or_congr_right (or_congr_right (mem_iff_of_not_mem (not_mem_other hb hsk) k' v'))

/-- the new parent created by `set()` for a key that does not extend the node's key -/
theorem join_spec {v : Bytes} {t : Trie} (ht : WF n t) (hk : k.length = n)
    (hnp : ¬ t.key <+: k) : Upd n k (some v) t (join k v t) := by
  have hnp' : ¬ k <+: t.key := fun h => by
    rw [h.eq_of_length_le (by rw [hk]; exact key_length_le ht)] at hnp
    exact hnp (List.prefix_refl _)
  obtain ⟨x, hx1, hx2⟩ := gcp_diverge k t.key hnp' hnp
  rw [join_eq_mk hx1]
  refine ⟨wf_mk.mpr ⟨hk, ht, ?_, fun k' hk' => hx2.trans (key_prefix ht hk')⟩, fun k' v' => ?_⟩
  · intro k' hk'; rw [mem_keys_leaf.mp hk']; exact hx1
  · rw [mem_toList_mk, mem_toList_leaf, Option.some.injEq]
    exact or_congr_right (mem_iff_of_not_mem (fun hm => hnp (key_prefix ht hm)) k' v')

/-- `set()`: well-formedness is preserved and the contents change as a map insert -/
theorem insert_spec {v : Bytes} (hk : k.length = n) (t : Trie) :
    WF n t → Upd n k (some v) t (insert k v t) := by
  induction t using descent_induction k with
  | leaf k0 v0 =>
    intro ht
    unfold insert
    split
    · next e =>
      subst e
      refine ⟨hk, fun k' v' => ?_⟩
      rw [mem_toList_leaf, mem_toList_leaf, Option.some.injEq]
      exact ⟨Or.inl, fun h => h.elim id fun h => absurd h.2.1 h.1⟩
    · next e => exact join_spec ht hk fun h => e (h.eq_of_length (by rw [hk]; exact ht)).symm
  | down p b c s hb ih => exact fun ht => insert_mk hb v c s ▸ Upd.mk ht hb (ih (wf_mk.mp ht).1)
  | off p l r hoff =>
    intro ht
    rw [insert_off hoff]
    refine join_spec ht hk fun h => ?_
    obtain ⟨b, hb⟩ := snoc_prefix_of_prefix_lt h (by rw [hk]; exact node_prefix_lt ht)
    exact hoff b hb

def isNode : Trie → Prop
  | leaf _ _ => False
  | node _ _ _ => True

/-- `delete()` on an inner node: well-formedness is preserved and the contents change as a map erase -/
theorem delete_spec (k : Key) (t : Trie) : WF n t → t.isNode → Upd n k none t (delete k t) := by
  induction t using descent_induction k with
  | leaf k0 v0 => intro _ h; cases h
  | down p b c s hb ih =>
    -- the key can only be in the child `c`
    intro ht _
    obtain ⟨hc, hs, hck, hsk⟩ := wf_mk.mp ht
    rw [delete_mk hb]
    cases c with
    | leaf k0 v0 =>
      by_cases e : k0 = k
      · -- the sibling takes the parent's place
        subst e
        simp only [if_true]
        refine ⟨hs, fun k' v' => ?_⟩
        have hks := mem_iff_of_not_mem (not_mem_other hb hsk) k' v'
        rw [mem_toList_mk, mem_toList_leaf]
        exact ⟨fun h => Or.inr ⟨(hks.mp h).1, Or.inr h⟩,
          fun h => h.elim (fun h => nomatch h.2) fun h => h.2.elim (fun h' => absurd h'.1 h.1) id⟩
      · simp only [if_neg e]
        refine Upd.of_not_mem ht fun hm => ?_
        obtain ⟨v', hv'⟩ := exists_mem_of_mem_keys hm
        rcases mem_toList_mk.mp hv' with h | h
        · exact e (mem_toList_leaf.mp h).1.symm
        · exact not_mem_other hb hsk (mem_keys_of_mem h)
    | node q c1 c2 => exact Upd.mk ht hb (ih hc trivial)
  | off p l r hoff =>
    intro ht _
    rw [delete_off hoff]
    exact Upd.of_not_mem ht fun hm => (node_key_prefix ht hm).elim (hoff _) (hoff _)

theorem apply_spec {op : Op} {t : Trie} (ht : WF n t) (hnode : t.isNode) (hv : op.Valid n) :
    Upd n op.key op.effect t (op.apply t) := by
  cases op with
  | set k v => exact insert_spec hv t ht
  | del k => exact delete_spec k t ht hnode

end Trie
end Canopy.Smt
