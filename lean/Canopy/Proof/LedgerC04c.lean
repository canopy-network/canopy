import Canopy.Proof.LedgerRewards
/-! C04, third part: end of block, transactions, genesis. -/
namespace Canopy.Ledger
open AMap

/-- what a successful `EndBlock` did: rewards, max-pause force-unstake, finished unstaking, then the block boundary -/
theorem endBlock_run {L L' : Ledger} (h : endBlock L = .ok L') :
    ∃ L1 L3, distributeCommitteeRewards L = .ok L1 ∧ deleteFinishedUnstaking (forceUnstakeMaxPaused L1) = .ok L3 ∧
      L' = { L3 with height := L3.height + 1, slashTracker := [] } := by
  unfold endBlock at h
  split at h
  · cases h
  · next L1 h1 =>
    split at h
    · cases h
    · next L3 h3 => exact ⟨L1, L3, h1, h3, (Except.ok.inj h).symm⟩

/-- `EndBlock` only burns: the undistributed remainder of the rewards -/
theorem endBlock_burns {L L' : Ledger} (hi : InvSupply L) (hp : PercentsOK L) (h : endBlock L = .ok L') : Burns L L' := by
  obtain ⟨L1, L3, h1, h3, rfl⟩ := endBlock_run h
  obtain ⟨b1, _⟩ := distributeCommitteeRewards_burns hi hp h1
  have m2 := forceUnstakeMaxPaused_moves L1
  have m3 := deleteFinishedUnstaking_moves h3
  exact ((b1.trans m2.burns).trans m3.burns).trans (SameBal.moves ⟨rfl, rfl, rfl, rfl⟩).burns

/-- what a transaction may mint: the faucet top-up of a send from the configured faucet, and a governance DAO
transfer with `mint` set; everything else only moves tokens -/
def txMint (L : Ledger) (sender : Addr) (fee : Nat) : Msg → Nat
  | .send _ _ amount => faucetMint L sender (amount + fee)
  | .sendVesting _ _ amount _ _ _ => faucetMint L sender (amount + fee)
  | .daoTransfer _ amount true _ _ => amount
  | _ => 0

/-- what the handler itself may mint: the amount of a DAO transfer with `mint` set -/
def daoMint : Msg → Nat
  | .daoTransfer _ amount true _ _ => amount
  | _ => 0

theorem handleMessage_step {L L' : Ledger} {sender : Addr} {msg : Msg} (hi : InvSupply L)
    (hx : L.supply.total + daoMint msg < U64) (h : handleMessage L sender msg = .ok L') : Step (daoMint msg) 0 L L' := by
  cases msg with
  | send s d x => exact handleSend_moves h
  | sendVesting s d x st cl en => exact handleSendVesting_moves h
  | stake a x cs dl c o => exact handleStake_moves h
  | editStake a x cs c o => exact handleEditStake_moves hi h
  | unstake a => exact handleUnstake_moves h
  | pause a => exact handlePause_moves h
  | unpause a => exact handleUnpause_moves h
  | daoTransfer a x m s e =>
    have := handleDaoTransfer_step hi (fun hm => by subst hm; exact hx) h
    cases m <;> simpa [daoMint] using this
  | subsidy a c x => exact handleSubsidy_moves hi h
  | changeParameter sg sp k v s e => exact handleChangeParameter_moves h

/-- what a successful `ApplyTransaction` did: the stateless check, then faucet top-up, fee, handler -/
theorem applyTx_run {L L' : Ledger} {sender : Addr} {fee : Nat} {msg : Msg} (h : applyTx L sender fee msg = .ok L') :
    msg.check = .ok () ∧ ∃ L1 L2, txFaucet L sender fee msg = .ok L1 ∧ deductFees L1 sender fee = .ok L2 ∧
      handleMessage L2 sender msg = .ok L' := by
  unfold applyTx at h
  split at h
  · cases h
  · next u hc =>
    simp only [ite_error_eq_ok] at h
    obtain ⟨_, h⟩ := h
    split at h
    · cases h
    · simp only [ite_error_eq_ok] at h
      obtain ⟨_, h⟩ := h
      split at h
      · cases h
      · next L1 h1 =>
        split at h
        · cases h
        · next L2 h2 => exact ⟨hc, L1, L2, h1, h2, h⟩

theorem applyTx_ok {L L' : Ledger} {sender : Addr} {fee : Nat} {msg : Msg} (h : applyTx L sender fee msg = .ok L') :
    ∃ L1 L2, txFaucet L sender fee msg = .ok L1 ∧ deductFees L1 sender fee = .ok L2 ∧
      handleMessage L2 sender msg = .ok L' :=
  (applyTx_run h).2

/-- the faucet step is a mint to the sender of the faucet part of `txMint` (nothing unless the message is a send) -/
theorem txFaucet_ok {L L1 : Ledger} {sender : Addr} {fee : Nat} {msg : Msg} (h : txFaucet L sender fee msg = .ok L1) :
    ∃ m, mintToAccount L sender m = .ok L1 ∧
      m + daoMint msg = txMint L sender fee msg := by
  cases msg with
  | send s d x =>
    simp only [txFaucet, ite_error_eq_ok, faucetTopUp_eq] at h
    exact ⟨_, h.2, rfl⟩
  | sendVesting s d x st cl en =>
    simp only [txFaucet, ite_error_eq_ok, faucetTopUp_eq] at h
    exact ⟨_, h.2, rfl⟩
  | daoTransfer a x m s e => exact ⟨0, h, by cases m <;> simp only [txMint, daoMint, Nat.zero_add]⟩
  | stake | editStake | unstake | pause | unpause | subsidy | changeParameter => exact ⟨0, h, rfl⟩

/-- faucet top-up and fee: together they mint the faucet part of `txMint`, and the supply invariant holds when the
handler starts -/
theorem txFaucet_deductFees_step {L L1 L2 : Ledger} {sender : Addr} {fee : Nat} {msg : Msg} (hi : InvSupply L)
    (hx : L.supply.total + txMint L sender fee msg < U64) (h1 : txFaucet L sender fee msg = .ok L1)
    (h2 : deductFees L1 sender fee = .ok L2) :
    ∃ m, m + daoMint msg = txMint L sender fee msg ∧ Step m 0 L L2 ∧ InvSupply L2 := by
  obtain ⟨m, hm, e⟩ := txFaucet_ok h1
  have s1 := mintToAccount_mints (x := m) (by omega) hm
  have i1 := s1.inv hi (by have := s1.1; omega)
  have m2 := deductFees_moves i1 h2
  exact ⟨m, e, by simpa using s1.trans m2, m2.inv i1⟩

/-- `ApplyTransaction`: fee to the reward pool, then the handler; mints only what `txMint` names -/
theorem applyTx_step {L L' : Ledger} {sender : Addr} {fee : Nat} {msg : Msg} (hi : InvSupply L)
    (hx : L.supply.total + txMint L sender fee msg < U64)
    (h : applyTx L sender fee msg = .ok L') : Step (txMint L sender fee msg) 0 L L' := by
  obtain ⟨L1, L2, h1, h2, h⟩ := applyTx_ok h
  obtain ⟨m, e, s2, i2⟩ := txFaucet_deductFees_step hi hx h1 h2
  rw [← e] at hx ⊢
  have s3 := handleMessage_step i2 (by have := s2.1; omega) h
  simpa using s2.trans s3

theorem hasDup_false_nodup : ∀ (xs : List Nat), hasDup xs = false → xs.Nodup
  | [], _ => List.nodup_nil
  | x :: xs, h => by
    simp only [hasDup, Bool.or_eq_false_iff] at h
    rw [List.nodup_cons]
    refine ⟨?_, hasDup_false_nodup xs h.2⟩
    intro hm
    have : xs.contains x = true := by simpa using hm
    rw [this] at h; exact absurd h.1 (by decide)

/-- what the validator loop of `ValidateGenesisState` guarantees when it passes -/
theorem genesisValidatorsError_none : ∀ (vals : List GenesisValidator) (seen : List Addr), genesisValidatorsError seen vals = none →
    (∀ g ∈ vals, g.addr ∉ seen) ∧ (vals.map (·.addr)).Nodup ∧ ∀ g ∈ vals, g.val.committees.Nodup
  | [], _, _ => ⟨nofun, List.nodup_nil, nofun⟩
  | g :: rest, seen, h => by
    unfold genesisValidatorsError at h
    simp only [ite_some_eq_none, Bool.not_eq_true] at h
    obtain ⟨hs, hc, h⟩ := h
    obtain ⟨i1, i2, i3⟩ := genesisValidatorsError_none rest (g.addr :: seen) h
    simp only [List.forall_mem_cons, List.map_cons, List.nodup_cons]
    refine ⟨⟨by simpa using hs, fun g' hg' hm => i1 g' hg' (List.mem_cons_of_mem _ hm)⟩, ⟨fun hm => ?_, i2⟩,
      hasDup_false_nodup _ hc, i3⟩
    -- every later validator was checked against a `seen` that holds `g.addr`
    obtain ⟨g', hg', e⟩ := List.mem_map.1 hm
    exact i1 g' hg' (e ▸ List.mem_cons_self ..)

/-- `ValidateGenesisState` accepts only duplicate-free validator addresses, account addresses and pool ids, and
duplicate-free committee lists -/
theorem validateGenesis_distinct {params : Params} {accounts : List (Addr × Nat)} {pools : List (Nat × Nat)}
    {vals : List GenesisValidator} {books : List GenesisBook} {u : Unit} (h : validateGenesis params accounts pools vals books = .ok u) :
    (vals.map (·.addr)).Nodup ∧ (accounts.map (·.1)).Nodup ∧ (pools.map (·.1)).Nodup ∧ ∀ g ∈ vals, g.val.committees.Nodup := by
  unfold validateGenesis at h
  split at h
  · cases h
  · simp only [ite_error_eq_ok] at h
    obtain ⟨_, h⟩ := h
    split at h
    · cases h
    · next hcv =>
      simp only [ite_error_eq_ok, Bool.not_eq_true] at h
      obtain ⟨_, hdv, hdc⟩ := genesisValidatorsError_none _ _ hcv
      exact ⟨hdv, hasDup_false_nodup _ h.1, hasDup_false_nodup _ h.2.1, hdc⟩

/-- the part of the ledger the account / pool loading does not touch -/
structure SameRest (L L' : Ledger) : Prop where
  validators : L'.validators = L.validators
  staked : L'.supply.staked = L.supply.staked
  delegatedOnly : L'.supply.delegatedOnly = L.supply.delegatedOnly
  committee : L'.supply.committee = L.supply.committee
  delegated : L'.supply.delegated = L.supply.delegated
  unstaking : L'.unstaking = L.unstaking
  paused : L'.paused = L.paused
  params : L'.params = L.params
  height : L'.height = L.height
  cfg : L'.cfg = L.cfg

theorem SameRest.refl (L : Ledger) : SameRest L L := by constructor <;> rfl
theorem SameRest.trans {A B C : Ledger} (h1 : SameRest A B) (h2 : SameRest B C) : SameRest A C := by
  constructor
  · exact h2.validators.trans h1.validators
  · exact h2.staked.trans h1.staked
  · exact h2.delegatedOnly.trans h1.delegatedOnly
  · exact h2.committee.trans h1.committee
  · exact h2.delegated.trans h1.delegated
  · exact h2.unstaking.trans h1.unstaking
  · exact h2.paused.trans h1.paused
  · exact h2.params.trans h1.params
  · exact h2.height.trans h1.height
  · exact h2.cfg.trans h1.cfg

/-- `SameRest` and the committee data as well -/
def SameRestCD (L L' : Ledger) : Prop := SameRest L L' ∧ L'.committeesData = L.committeesData

theorem SameRestCD.refl (L : Ledger) : SameRestCD L L := ⟨SameRest.refl L, rfl⟩
theorem SameRestCD.trans {A B C : Ledger} (h1 : SameRestCD A B) (h2 : SameRestCD B C) : SameRestCD A C :=
  ⟨h1.1.trans h2.1, h2.2.trans h1.2⟩

/-- loading accounts and pools touches only the accounts, the pools and the recorded total -/
theorem foldlM_genesisAccount_rest (es : List (Addr × Nat)) {L L' : Ledger} (h : es.foldlM genesisAccount L = .ok L') : SameRestCD L L' :=
  foldlM_rel SameRestCD.refl SameRestCD.trans (f := genesisAccount) (fun L e L1 h => by
    unfold genesisAccount at h
    simp only [ite_error_eq_ok] at h
    obtain rfl := Except.ok.inj h.2
    exact ⟨by constructor <;> rfl, rfl⟩) es h

theorem foldlM_genesisPool_rest (es : List (Nat × Nat)) {L L' : Ledger} (h : es.foldlM genesisPool L = .ok L') : SameRestCD L L' :=
  foldlM_rel SameRestCD.refl SameRestCD.trans (f := genesisPool) (fun L e L1 h => by
    unfold genesisPool at h
    simp only [ite_error_eq_ok] at h
    obtain rfl := Except.ok.inj h.2
    exact ⟨by constructor <;> rfl, rfl⟩) es h

theorem genesisAccount_ok {L L1 : Ledger} {e : Addr × Nat} (hf : e.1 ∉ L.accounts.map (·.1)) (hu : e.2 ≤ MAXU) (h : genesisAccount L e = .ok L1) :
    L1.supply.total = L.supply.total + e.2 ∧ L.supply.total + e.2 ≤ MAXU ∧ bal L1 = bal L + e.2 ∧
    (L1.pools = L.pools ∧ SameRest L L1) ∧ (∀ x ∈ L1.accounts.map (·.1), x = e.1 ∨ x ∈ L.accounts.map (·.1)) := by
  unfold genesisAccount at h
  obtain ⟨hg, h⟩ := ite_error_eq_ok.1 h
  obtain rfl := Except.ok.inj h
  have hz : NMap.get L.accounts e.1 = 0 := get_eq_zero_of_not_mem _ _ hf
  have hs := NMap.total_put L.accounts e.1 e.2
  refine ⟨rfl, by omega, ?_, ⟨rfl, by constructor <;> rfl⟩, fun x hx => keys_put _ _ _ _ hx⟩
  simp only [bal, accSum, poolSum, stakeSum, accPut]
  omega

theorem genesisPool_ok {L L1 : Ledger} {e : Nat × Nat} (hf : e.1 ∉ L.pools.map (·.1)) (hu : e.2 ≤ MAXU) (h : genesisPool L e = .ok L1) :
    L1.supply.total = L.supply.total + e.2 ∧ L.supply.total + e.2 ≤ MAXU ∧ bal L1 = bal L + e.2 ∧
    (L1.accounts = L.accounts ∧ SameRest L L1) ∧ (∀ x ∈ L1.pools.map (·.1), x = e.1 ∨ x ∈ L.pools.map (·.1)) := by
  unfold genesisPool at h
  obtain ⟨hg, h⟩ := ite_error_eq_ok.1 h
  obtain rfl := Except.ok.inj h
  have hz : NMap.get L.pools e.1 = 0 := get_eq_zero_of_not_mem _ _ hf
  have hs := NMap.total_put L.pools e.1 e.2
  refine ⟨rfl, by omega, ?_, ⟨rfl, by constructor <;> rfl⟩, fun x hx => keys_put _ _ _ _ hx⟩
  simp only [bal, accSum, poolSum, stakeSum, poolPut]
  omega

/-- what the order-book loading leaves alone and what it keeps true -/
structure BooksOk (L L' : Ledger) : Prop where
  ident : L'.supply.total = bal L'
  le : L'.supply.total ≤ MAXU
  rest : SameRest L L'
  accounts : L'.accounts = L.accounts
  committeesData : L'.committeesData = L.committeesData

theorem genesisOrder_ok {chain : Nat} {L L1 : Ledger} {amt : Nat} (hb : L.supply.total = bal L) (hx : amt ≤ MAXU)
    (h : genesisOrder chain L amt = .ok L1) : BooksOk L L1 := by
  unfold genesisOrder at h
  obtain ⟨hg, h⟩ := ite_error_eq_ok.1 h
  obtain rfl := Except.ok.inj h
  have hlt : L.supply.total + amt < U64 := by unfold MAXU at hg hx; unfold U64; omega
  -- below the wrap the guarded addition followed by `PoolAdd` is `MintToPool`
  have e : poolAdd { L with supply := { L.supply with total := L.supply.total + amt } }
      (chain + Canopy.Gen.LedgerFacts.escrowPoolAddend) amt = mintToPool L (chain + Canopy.Gen.LedgerFacts.escrowPoolAddend) amt := by
    unfold mintToPool; rw [addToTotal_noWrap L amt hlt]
  rw [e]
  obtain ⟨t, b⟩ := mintToPool_mints (id := chain + Canopy.Gen.LedgerFacts.escrowPoolAddend) ⟨hb, by omega⟩ hlt
  exact ⟨by omega, by unfold U64 at hlt; unfold MAXU; omega, by constructor <;> rfl, rfl, rfl⟩

theorem BooksOk.trans {A B C : Ledger} (h1 : BooksOk A B) (h2 : BooksOk B C) : BooksOk A C :=
  ⟨h2.ident, h2.le, h1.rest.trans h2.rest, h2.accounts.trans h1.accounts, h2.committeesData.trans h1.committeesData⟩

theorem foldlM_genesisOrder_ok (chain : Nat) (amts : List Nat) (L L' : Ledger) (hb : L.supply.total = bal L) (hl : L.supply.total ≤ MAXU)
    (hx : ∀ x ∈ amts, x ≤ MAXU) (h : amts.foldlM (genesisOrder chain) L = .ok L') : BooksOk L L' :=
  foldlM_keeps (BooksOk L) amts (fun x hm _ _ k h => k.trans (genesisOrder_ok k.ident (hx x hm) h)) L L'
    ⟨hb, hl, SameRest.refl _, rfl, rfl⟩ h

/-- `SetOrderBooks` on a ledger whose recorded total is the real sum: it still is afterwards (every order's amount
goes to the total and to the escrow pool), and nothing but the pools and the total changed -/
theorem foldlM_genesisBook_ok (books : List GenesisBook) (L L' : Ledger) (hb : L.supply.total = bal L) (hl : L.supply.total ≤ MAXU)
    (hx : ∀ b ∈ books, ∀ x ∈ b.2, x ≤ MAXU) (h : books.foldlM genesisBook L = .ok L') : BooksOk L L' :=
  foldlM_keeps (BooksOk L) books (fun b hm s s' k h => k.trans (foldlM_genesisOrder_ok b.1 b.2 s s' k.ident k.le (hx b hm) h)) L L'
    ⟨hb, hl, SameRest.refl _, rfl, rfl⟩ h

/-- … and, without any hypothesis, it touches nothing but the pools and the total -/
theorem foldlM_genesisBook_rest (books : List GenesisBook) (L L' : Ledger) (h : books.foldlM genesisBook L = .ok L') : SameRestCD L L' :=
  foldlM_rel SameRestCD.refl SameRestCD.trans (f := genesisBook) (fun L b L' h =>
    foldlM_rel SameRestCD.refl SameRestCD.trans (f := genesisOrder b.1) (fun A x B g => by
      unfold genesisOrder at g
      simp only [ite_error_eq_ok] at g
      obtain rfl := Except.ok.inj g.2
      exact ⟨by constructor <;> rfl, rfl⟩) b.2 h) books h

/-- loading entries with distinct fresh keys, each of which adds its amount to the recorded total (guarded) and to the
real sum: total and sum grow together, the total stays within `MAXU`, and what every such step keeps (`R`) is kept -/
theorem foldlM_load {α κ : Type} {f : Ledger → α → M Ledger} (key : α → κ) (amt : α → Nat) (keys : Ledger → List κ)
    (R : Ledger → Ledger → Prop) (refl : ∀ L, R L L) (trans : ∀ {A B C}, R A B → R B C → R A C)
    (hstep : ∀ {L L1 : Ledger} {e : α}, key e ∉ keys L → amt e ≤ MAXU → f L e = .ok L1 →
      L1.supply.total = L.supply.total + amt e ∧ L.supply.total + amt e ≤ MAXU ∧ bal L1 = bal L + amt e ∧ R L L1 ∧
      ∀ x ∈ keys L1, x = key e ∨ x ∈ keys L) :
    ∀ (es : List α) (L L' : Ledger), (es.map key).Nodup → (∀ e ∈ es, key e ∉ keys L) → (∀ e ∈ es, amt e ≤ MAXU) →
      es.foldlM f L = .ok L' →
      L'.supply.total + bal L = L.supply.total + bal L' ∧ (L.supply.total ≤ MAXU → L'.supply.total ≤ MAXU) ∧ R L L'
  | [], L, L', _, _, _, h => by obtain rfl := Except.ok.inj h; exact ⟨rfl, id, refl _⟩
  | e :: es, L, L', hn, hk, hu, h => by
    simp only [List.foldlM_cons] at h
    obtain ⟨L1, h1, h2⟩ := bind_ok h
    simp only [List.map_cons, List.nodup_cons] at hn
    obtain ⟨t1, g1, b1, r1, k1⟩ := hstep (hk e (List.mem_cons_self ..)) (hu e (List.mem_cons_self ..)) h1
    obtain ⟨i1, i2, i3⟩ := foldlM_load key amt keys R refl trans hstep es L1 L' hn.2 (by
      intro e' he' hm
      rcases k1 _ hm with h' | h'
      · exact hn.1 (by rw [← h']; exact List.mem_map_of_mem he')
      · exact hk e' (List.mem_cons_of_mem _ he') h') (fun e' he' => hu e' (List.mem_cons_of_mem _ he')) h2
    exact ⟨by omega, fun _ => i2 (by omega), trans r1 i3⟩

theorem foldlM_genesisAccount (es : List (Addr × Nat)) (L L' : Ledger) :
    (es.map (·.1)).Nodup → (∀ e ∈ es, e.1 ∉ L.accounts.map (·.1)) → (∀ e ∈ es, e.2 ≤ MAXU) → es.foldlM genesisAccount L = .ok L' →
    L'.supply.total + bal L = L.supply.total + bal L' ∧ (L.supply.total ≤ MAXU → L'.supply.total ≤ MAXU) ∧
    L'.pools = L.pools ∧ SameRest L L' :=
  foldlM_load (·.1) (·.2) (fun L => L.accounts.map (·.1)) (fun L L' => L'.pools = L.pools ∧ SameRest L L')
    (fun L => ⟨rfl, SameRest.refl L⟩) (fun h1 h2 => ⟨h2.1.trans h1.1, h1.2.trans h2.2⟩) genesisAccount_ok es L L'

theorem foldlM_genesisPool (es : List (Nat × Nat)) (L L' : Ledger) :
    (es.map (·.1)).Nodup → (∀ e ∈ es, e.1 ∉ L.pools.map (·.1)) → (∀ e ∈ es, e.2 ≤ MAXU) → es.foldlM genesisPool L = .ok L' →
    L'.supply.total + bal L = L.supply.total + bal L' ∧ (L.supply.total ≤ MAXU → L'.supply.total ≤ MAXU) ∧
    L'.accounts = L.accounts ∧ SameRest L L' :=
  foldlM_load (·.1) (·.2) (fun L => L.pools.map (·.1)) (fun L L' => L'.accounts = L.accounts ∧ SameRest L L')
    (fun L => ⟨rfl, SameRest.refl L⟩) (fun h1 h2 => ⟨h2.1.trans h1.1, h1.2.trans h2.2⟩) genesisPool_ok es L L'

/-- the marker step of `SetValidators` for a fresh address: afterwards the address holds a record with the same stake
(or nothing was written) -/
theorem genesisMarker_step (L : Ledger) (a : Addr) (v : Validator) :
    let L1 := if v.unstakingHeight ≠ 0 then setValidatorUnstaking L a v v.unstakingHeight
      else if v.maxPausedHeight ≠ 0 then setValidatorPaused L a v v.maxPausedHeight else L
    SameMoney L L1 ∧
    ((L1.validators = L.validators) ∨ (∃ v0, v0.stake = v.stake ∧ L1.validators = AMap.set L.validators a v0)) := by
  intro L1
  show SameMoney L L1 ∧ _
  by_cases hu : v.unstakingHeight ≠ 0
  · have e : L1 = setValidatorUnstaking L a v v.unstakingHeight := if_pos hu
    rw [e]
    exact ⟨setValidatorUnstaking_money .., Or.inr ⟨{ v with maxPausedHeight := 0 }, rfl, setValidatorUnstaking_validators ..⟩⟩
  · by_cases hp : v.maxPausedHeight ≠ 0
    · have e : L1 = setValidatorPaused L a v v.maxPausedHeight := (if_neg hu).trans (if_pos hp)
      rw [e]
      exact ⟨setValidatorPaused_money .., Or.inr ⟨_, rfl, rfl⟩⟩
    · have e : L1 = L := (if_neg hu).trans (if_neg hp)
      rw [e]
      exact ⟨⟨rfl, rfl, rfl⟩, Or.inl rfl⟩

/-- what a successful `SetValidators` did for one validator: the guards on the running totals passed; the marker is written,
the stake is added to the recorded total and the record written, then the tallies take on the weights of the record -/
theorem genesisValidator_run {L L' : Ledger} {g : GenesisValidator} (h : genesisValidator L g = .ok L') :
    L.supply.total ≤ MAXU - g.val.stake ∧ ∃ L1 v1,
      L1 = (if g.val.unstakingHeight ≠ 0 then setValidatorUnstaking L g.addr g.val g.val.unstakingHeight
        else if g.val.maxPausedHeight ≠ 0 then setValidatorPaused L g.addr g.val g.val.maxPausedHeight else L) ∧
      v1 = (if g.val.unstakingHeight ≠ 0 then { g.val with maxPausedHeight := 0 } else g.val) ∧
      Reweigh none (some v1)
        (valPut { L1 with supply := { L1.supply with total := L1.supply.total + g.val.stake } } g.addr v1) L' := by
  unfold genesisValidator at h
  dsimp only at h
  simp only [ite_error_eq_ok, Bool.or_eq_true, decide_eq_true_eq, not_or, Nat.not_lt] at h
  refine ⟨h.1.1, _, _, rfl, rfl, Reweigh.to_weights (nv' := g.val) (enroll_reweigh h.2.2) ?_ ?_ ?_⟩ <;> split <;> rfl

theorem sumBy_set_set_fresh {f : Validator → Nat} {m : List (Addr × Validator)} {a : Addr} {x v : Validator}
    (hg : find? m a = none) (hf : f x = f v) : sumBy f (AMap.set (AMap.set m a x) a v) = sumBy f m + f v := by
  have h1 := sumBy_set f m a x
  have h2 := sumBy_set f (AMap.set m a x) a v
  rw [hg] at h1; rw [find?_set_self] at h2
  simp only [ow_none, ow_some] at h1 h2; omega

theorem sumBy_set_fresh {f : Validator → Nat} {m : List (Addr × Validator)} {a : Addr} {v : Validator}
    (hg : find? m a = none) : sumBy f (AMap.set m a v) = sumBy f m + f v := by
  have h1 := sumBy_set f m a v
  rw [hg] at h1; simp only [ow_none] at h1; omega

theorem genesisValidator_ok {L L' : Ledger} {g : GenesisValidator} (hf : g.addr ∉ L.validators.map (·.1)) (hu : g.val.stake ≤ MAXU)
    (h : genesisValidator L g = .ok L') :
    L'.supply.total = L.supply.total + g.val.stake ∧ L.supply.total + g.val.stake ≤ MAXU ∧ bal L' = bal L + g.val.stake ∧
    (∀ x ∈ L'.validators.map (·.1), x = g.addr ∨ x ∈ L.validators.map (·.1)) := by
  have hnone : find? L.validators g.addr = none := find?_eq_none_of_not_mem _ _ hf
  obtain ⟨hg1, L1, v1, e1, ev, r⟩ := genesisValidator_run h
  obtain ⟨hm, hv⟩ := genesisMarker_step L g.addr g.val
  rw [← e1] at hm hv
  have hv1s : v1.stake = g.val.stake := by rw [ev]; split <;> rfl
  -- the marker step may have written a record at the fresh address already; its stake is the same
  have hb : bal (valPut L1 g.addr v1) = bal L + g.val.stake := by
    have e : stakeSum (valPut L1 g.addr v1) = stakeSum L + v1.stake := by
      show sumBy _ (AMap.set L1.validators g.addr v1) = _
      rcases hv with e | ⟨v0, hs0, e⟩
      · rw [e]; exact sumBy_set_fresh hnone
      · rw [e]; exact sumBy_set_set_fresh hnone (hs0.trans hv1s.symm)
    have ea : accSum (valPut L1 g.addr v1) = accSum L := congrArg NMap.total hm.accounts
    have ep : poolSum (valPut L1 g.addr v1) = poolSum L := congrArg NMap.total hm.pools
    unfold bal
    rw [ea, ep, e, hv1s, Nat.add_assoc (accSum L + poolSum L)]
  have hk : ∀ x ∈ (AMap.set L1.validators g.addr v1).map (·.1), x = g.addr ∨ x ∈ L.validators.map (·.1) := by
    intro x hx
    rcases keys_set _ _ _ _ hx with h' | h'
    · exact Or.inl h'
    · rcases hv with e | ⟨v0, _, e⟩
      · rw [e] at h'; exact Or.inr h'
      · rw [e] at h'; exact keys_set _ _ _ _ h'
  exact ⟨by rw [r.env.total]; show L1.supply.total + _ = _; rw [hm.supply], by omega, r.sameBal.bal_eq.trans hb,
    by rw [r.validators]; exact hk⟩

theorem foldlM_genesisValidator (gs : List GenesisValidator) (L L' : Ledger) (hn : (gs.map (·.addr)).Nodup)
    (hk : ∀ g ∈ gs, g.addr ∉ L.validators.map (·.1)) (hu : ∀ g ∈ gs, g.val.stake ≤ MAXU)
    (h : gs.foldlM genesisValidator L = .ok L') :
    L'.supply.total + bal L = L.supply.total + bal L' ∧ (L.supply.total ≤ MAXU → L'.supply.total ≤ MAXU) :=
  have k := foldlM_load (·.addr) (·.val.stake) (fun L => L.validators.map (·.1)) (fun _ _ => True) (fun _ => trivial)
    (fun _ _ => trivial) (fun hf hu h => have ⟨t, m, b, k⟩ := genesisValidator_ok hf hu h; ⟨t, m, b, trivial, k⟩) gs L L' hn hk hu h
  ⟨k.1, k.2.1⟩

/-- what a successful `NewFromGenesis` did -/
theorem genesis_ok {cfg : Config} {params : Params} {accounts : List (Addr × Nat)} {pools : List (Nat × Nat)}
    {vals : List GenesisValidator} {retired : List Nat} {books : List GenesisBook} {L : Ledger}
    (h : genesis cfg params accounts pools vals retired books = .ok L) :
    validateGenesis params accounts pools vals books = .ok () ∧ ∃ L1 L2 L3 L4,
      accounts.foldlM genesisAccount ({ cfg := cfg, params := params, height := 0 } : Ledger) = .ok L1 ∧
      pools.foldlM genesisPool L1 = .ok L2 ∧ vals.foldlM genesisValidator L2 = .ok L3 ∧
      books.foldlM genesisBook L3 = .ok L4 ∧ L = { L4 with retired := retired, height := 1 } := by
  unfold genesis at h
  split at h
  · cases h
  · next hval =>
    split at h
    · cases h
    · next L1 h1 =>
      split at h
      · cases h
      · next L2 h2 =>
        split at h
        · cases h
        · next L3 h3 =>
          split at h
          · cases h
          · next L4 h4 => exact ⟨hval, L1, L2, L3, L4, h1, h2, h3, h4, (Except.ok.inj h).symm⟩

/-- a genesis of `uint64` amounts that the loader accepts (in particular: no address or pool id listed twice, the running
total never overflows) yields a ledger whose recorded total is the exact sum of everything it holds -/
theorem genesis_invSupply {cfg : Config} {params : Params} {accounts : List (Addr × Nat)} {pools : List (Nat × Nat)}
    {vals : List GenesisValidator} {retired : List Nat} {books : List GenesisBook} {L : Ledger}
    (ha : ∀ e ∈ accounts, e.2 ≤ MAXU) (hp : ∀ e ∈ pools, e.2 ≤ MAXU) (hv : ∀ g ∈ vals, g.val.stake ≤ MAXU)
    (ho : ∀ b ∈ books, ∀ x ∈ b.2, x ≤ MAXU)
    (h : genesis cfg params accounts pools vals retired books = .ok L) : InvSupply L := by
  obtain ⟨hval, L1, L2, L3, L4, h1, h2, h3, h4, rfl⟩ := genesis_ok h
  obtain ⟨nv, na, np, _⟩ := validateGenesis_distinct hval
  obtain ⟨a1, a2, a3, a4⟩ := foldlM_genesisAccount accounts _ L1 na (by intro e _ hm; simp at hm) ha h1
  obtain ⟨p1, p2, p3, p4⟩ := foldlM_genesisPool pools L1 L2 np (by
    intro e _ hm; rw [a3] at hm; simp at hm) hp h2
  obtain ⟨v1, v2⟩ := foldlM_genesisValidator vals L2 L3 nv (by
    intro g _ hm; rw [p4.validators, a4.validators] at hm; simp at hm) hv h3
  have z : bal ({ cfg := cfg, params := params, height := 0 } : Ledger) = 0 := rfl
  have zt : ({ cfg := cfg, params := params, height := 0 } : Ledger).supply.total = 0 := rfl
  rw [z, zt] at a1
  have hle : L3.supply.total ≤ MAXU := v2 (p2 (a2 (by rw [zt]; exact Nat.zero_le _)))
  have k := foldlM_genesisBook_ok books L3 L4 (by omega) hle ho h4
  have hb : bal { L4 with retired := retired, height := 1 } = bal L4 := rfl
  refine ⟨?_, ?_⟩
  · show L4.supply.total = _; rw [hb]; exact k.ident
  · show L4.supply.total < U64
    have : MAXU < U64 := by decide
    have := k.le
    omega

end Canopy.Ledger
