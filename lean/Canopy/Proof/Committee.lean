import Canopy.Model.Committee
import Canopy.Gen.Committee
import Canopy.Proof.Lex
/-! Helper lemmas for C13: both comparators are lexicographic. `bytesLe` is the core library's order on lists;
the order properties of `before` come from those of `<` on the stakes and of `bytesLe` on the addresses.
Then the `uint64` arithmetic of voting power, which the threshold statements of C01, C02 and C13 share. -/
namespace Canopy.Committee
open Canopy.Lex

theorem bytesLe_cons (x y : UInt8) (xs ys : Bytes) :
    bytesLe (x :: xs) (y :: ys) = true ↔ x < y ∨ x = y ∧ bytesLe xs ys = true :=
  u8.lexStep (· = true) rfl Bool.false_ne_true

/-- `bytesLe` is the lexicographic order of the core library on byte lists, whose order properties it inherits -/
theorem bytesLe_iff_le (a b : Bytes) : bytesLe a b = true ↔ a ≤ b := by
  induction a generalizing b with
  | nil => exact ⟨fun _ => List.nil_le b, fun _ => rfl⟩
  | cons x xs ih =>
    cases b with
    | nil => exact ⟨nofun, fun h => absurd (List.nil_lt_cons x xs) h⟩
    | cons y ys => rw [bytesLe_cons, List.cons_le_cons_iff, ih]

theorem bytesLe_refl (a : Bytes) : bytesLe a a = true :=
  (bytesLe_iff_le a a).mpr (List.le_refl a)

theorem bytesLe_total (a b : Bytes) : bytesLe a b = true ∨ bytesLe b a = true := by
  rw [bytesLe_iff_le, bytesLe_iff_le]
  exact List.le_total a b

theorem bytesLe_antisymm {a b : Bytes} (h1 : bytesLe a b = true) (h2 : bytesLe b a = true) : a = b :=
  List.le_antisymm ((bytesLe_iff_le a b).mp h1) ((bytesLe_iff_le b a).mp h2)

theorem bytesLe_trans {a b c : Bytes} (h1 : bytesLe a b = true) (h2 : bytesLe b c = true) :
    bytesLe a c = true :=
  (bytesLe_iff_le a c).mpr (List.le_trans ((bytesLe_iff_le a b).mp h1) ((bytesLe_iff_le b c).mp h2))

theorem before_iff (a b : Val) :
    before a b = true ↔ b.stake < a.stake ∨ b.stake = a.stake ∧ bytesLe b.address a.address = true :=
  u64.lexStep (· = true) rfl Bool.false_ne_true

theorem before_total (a b : Val) : (before a b || before b a) = true := by
  rw [Bool.or_eq_true, before_iff, before_iff]
  exact u64.lex_total (bytesLe_total b.address a.address)

theorem before_trans (a b c : Val) (h1 : before a b = true) (h2 : before b c = true) :
    before a c = true := by
  rw [before_iff] at h1 h2 ⊢
  exact u64.lex_trans bytesLe_trans h2 h1

/-- ties only between records with the same stake and the same address -/
theorem before_antisymm (a b : Val) (h1 : before a b = true) (h2 : before b a = true) :
    a.stake = b.stake ∧ a.address = b.address := by
  rw [before_iff] at h1 h2
  obtain ⟨e, r1, r2⟩ := u64.lex_antisymm h1 h2
  exact ⟨e.symm, bytesLe_antisymm r2 r1⟩

/-- an unguarded `uint64` running sum is the exact sum of its terms as long as that fits -/
theorem foldl_add_toNat {α} (f : α → UInt64) (l : List α) (acc : UInt64)
    (h : acc.toNat + (l.map fun x => (f x).toNat).sum < 2 ^ 64) :
    (l.foldl (fun acc x => acc + f x) acc).toNat = acc.toNat + (l.map fun x => (f x).toNat).sum := by
  induction l generalizing acc with
  | nil => exact (Nat.add_zero _).symm
  | cons x xs ih =>
    rw [List.map_cons, List.sum_cons, ← Nat.add_assoc] at h ⊢
    have hadd : (acc + f x).toNat = acc.toNat + (f x).toNat :=
      (UInt64.toNat_add ..).trans (Nat.mod_eq_of_lt (Nat.lt_of_le_of_lt (Nat.le_add_right _ _) h))
    rw [List.foldl_cons, ih (acc + f x) (hadd ▸ h), hadd]

theorem foldl_add_zero_toNat {α} {f : α → UInt64} {l : List α} (h : (l.map fun x => (f x).toNat).sum < 2 ^ 64) :
    (l.foldl (fun acc x => acc + f x) 0).toNat = (l.map fun x => (f x).toNat).sum := by
  have := foldl_add_toNat f l 0 (by rwa [UInt64.toNat_zero, Nat.zero_add])
  rwa [UInt64.toNat_zero, Nat.zero_add] at this

theorem minPowerFor23Maj_toNat (T : UInt64) (h : 2 * T.toNat < 2 ^ 64) :
    (Gen.Committee.minPowerFor23Maj T).toNat = 2 * T.toNat / 3 + 1 := by
  have h2 : (2 * T).toNat = 2 * T.toNat := by rw [UInt64.toNat_mul]; exact Nat.mod_eq_of_lt h
  have h3 : ((2 * T) / 3).toNat = 2 * T.toNat / 3 := by rw [UInt64.toNat_div, h2]; rfl
  rw [Gen.Committee.minPowerFor23Maj, UInt64.toNat_add, h3, UInt64.toNat_one]
  exact Nat.mod_eq_of_lt (by omega)

end Canopy.Committee
