import Canopy.Model.SmtCache
/-! Coherence of the SMT node cache for every discipline whose `setNode` always writes the cache and whose `delNode`
always evicts — in particular the source's, at every capacity. Core only. -/
namespace Canopy.Smt.Cache

variable {K V : Type} [DecidableEq K]

theorem cacheGet_del (c : List (K × V)) (k k' : K) :
    cacheGet (cacheDel c k) k' = if k' = k then none else cacheGet c k' := by
  simp only [cacheGet, cacheDel, List.find?_filter]
  split
  · next e =>
    rw [List.find?_eq_none.mpr fun x _ => by simp [e]]
    rfl
  · next e =>
    -- an entry for `k'` passes the filter
    congr 2; funext x
    by_cases hx : x.1 = k' <;> simp [hx, e]

theorem cacheGet_put (c : List (K × V)) (k k' : K) (v : V) :
    cacheGet (cachePut c k v) k' = if k' = k then some v else cacheGet c k' := by
  split
  · next e => simp [cacheGet, cachePut, e]
  · next e =>
    refine Eq.trans ?_ ((cacheGet_del c k k').trans (if_neg e))
    simp only [cacheGet, cachePut, cacheDel]
    rw [List.find?_cons_of_neg (by simpa using Ne.symm e)]

theorem coherent_nil (st : K → Option V) : Coherent (⟨st, []⟩ : St K V) := by
  intro k v h; simp [cacheGet] at h

theorem coherent_setNode {d : Discipline} (hw : ∀ len cap, d.setWrite len cap = true) (cap : Nat) {s : St K V}
    (h : Coherent s) (k : K) (v : V) : Coherent (setNode d cap s k v) := by
  intro k' v' hg
  simp only [setNode, hw, if_true, cacheGet_put] at hg ⊢
  split
  · next e => rwa [if_pos e] at hg
  · next e =>
    rw [if_neg e] at hg
    split at hg
    · simp [cacheGet] at hg
    · exact h k' v' hg

theorem coherent_delNode {d : Discipline} (he : d.delEvict = true) {s : St K V} (h : Coherent s) (k : K) :
    Coherent (delNode d s k) := by
  intro k' v' hg
  simp only [delNode, he, if_true, cacheGet_del] at hg ⊢
  split
  · next e => rw [if_pos e] at hg; cases hg
  · next e => rw [if_neg e] at hg; exact h k' v' hg

theorem coherent_getNode (d : Discipline) (cap : Nat) {s : St K V} (h : Coherent s) (k : K) :
    Coherent (getNode d cap s k).2 := by
  unfold getNode
  cases hc : cacheGet s.cache k with
  | some v => exact h
  | none =>
    cases hs : s.store k with
    | none => exact h
    | some v =>
      simp only
      split
      · intro k' v' hg
        rw [cacheGet_put] at hg
        split at hg
        · next e => subst e; cases hg; exact hs
        · exact h k' v' hg
      · exact h

theorem coherent_step {d : Discipline} (hw : ∀ len cap, d.setWrite len cap = true) (he : d.delEvict = true) (cap : Nat)
    {s : St K V} (h : Coherent s) (a : Acc K V) : Coherent (step d cap s a) := by
  cases a with
  | set k v => exact coherent_setNode hw cap h k v
  | del k => exact coherent_delNode he h k
  | get k => exact coherent_getNode d cap h k
  | drop => exact coherent_nil s.store

theorem coherent_run {d : Discipline} (hw : ∀ len cap, d.setWrite len cap = true) (he : d.delEvict = true) (cap : Nat) :
    ∀ (as : List (Acc K V)) {s : St K V}, Coherent s → Coherent (run d cap s as)
  | [], _, h => h
  | a :: as, _, h => coherent_run hw he cap as (coherent_step hw he cap h a)

theorem getNode_eq_store (d : Discipline) (cap : Nat) {s : St K V} (h : Coherent s) (k : K) :
    (getNode d cap s k).1 = s.store k := by
  unfold getNode
  cases hc : cacheGet s.cache k with
  | some v => exact (h k v hc).symm
  | none => cases hs : s.store k <;> rfl

theorem getNode_store (d : Discipline) (cap : Nat) (s : St K V) (k : K) : (getNode d cap s k).2.store = s.store := by
  unfold getNode
  cases cacheGet s.cache k with
  | some v => rfl
  | none =>
    cases s.store k with
    | none => rfl
    | some v => simp only; split <;> rfl

theorem step_store (d : Discipline) (cap : Nat) (s : St K V) (a : Acc K V) :
    (step d cap s a).store = stepStore s.store a := by
  cases a with
  | get k => exact getNode_store d cap s k
  | _ => rfl

theorem run_store (d : Discipline) (cap : Nat) : ∀ (as : List (Acc K V)) (s : St K V),
    (run d cap s as).store = runStore s.store as
  | [], _ => rfl
  | a :: as, s => (run_store d cap as (step d cap s a)).trans (by rw [step_store]; rfl)

end Canopy.Smt.Cache
