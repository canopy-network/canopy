import Canopy.Model.Store
/-! Byte order, big-endian version suffixes and physical-key shape lemmas for M-store (C10). -/
namespace Canopy.Store

theorem blt_cons (a b : UInt8) (as bs : Bytes) :
    blt (a :: as) (b :: bs) = (decide (a.toNat < b.toNat) || (decide (a.toNat = b.toNat) && blt as bs)) := rfl

@[simp] theorem blt_nil_right (a : Bytes) : blt a [] = false := by cases a <;> rfl
@[simp] theorem blt_nil_cons (b : UInt8) (bs : Bytes) : blt [] (b :: bs) = true := rfl

theorem blt_iff_lt : ∀ {a b : Bytes}, blt a b = true ↔ a < b
  | [], [] => by simp [blt]
  | [], _ :: _ => by simp [blt]
  | _ :: _, [] => by simp [blt]
  | x :: xs, y :: ys => by
    rw [blt_cons, List.cons_lt_cons_iff, ← blt_iff_lt (a := xs), Bool.or_eq_true, Bool.and_eq_true,
      decide_eq_true_eq, decide_eq_true_eq, UInt8.lt_iff_toNat_lt, UInt8.toNat_inj]

theorem blt_irrefl (a : Bytes) : blt a a = false :=
  Bool.eq_false_iff.mpr fun h => List.lt_irrefl a (blt_iff_lt.mp h)

theorem blt_trans {a b c : Bytes} (h1 : blt a b = true) (h2 : blt b c = true) : blt a c = true :=
  blt_iff_lt.mpr (List.lt_trans (blt_iff_lt.mp h1) (blt_iff_lt.mp h2))

theorem blt_asymm {a b : Bytes} (h : blt a b = true) : blt b a = false := by
  cases hba : blt b a with
  | false => rfl
  | true => rw [← blt_irrefl a, blt_trans h hba]

theorem blt_trichotomy (a b : Bytes) : blt a b = true ∨ a = b ∨ blt b a = true := by
  rw [blt_iff_lt, blt_iff_lt]
  exact Std.lt_trichotomy a b

theorem ble_iff {a b : Bytes} : ble a b = true ↔ (blt a b = true ∨ a = b) := by
  rw [ble, Bool.not_eq_true', ← Bool.not_eq_true, blt_iff_lt, blt_iff_lt, List.not_lt, List.le_iff_lt_or_eq]

theorem ble_refl (a : Bytes) : ble a a = true := ble_iff.mpr (Or.inr rfl)

theorem blt_of_blt_of_ble {a b c : Bytes} (h1 : blt a b = true) (h2 : ble b c = true) : blt a c = true := by
  rcases ble_iff.mp h2 with h | rfl
  · exact blt_trans h1 h
  · exact h1

theorem blt_of_ble_of_blt {a b c : Bytes} (h1 : ble a b = true) (h2 : blt b c = true) : blt a c = true := by
  rcases ble_iff.mp h1 with h | rfl
  · exact blt_trans h h2
  · exact h2

theorem not_blt_iff_ble {a b : Bytes} : blt a b = false ↔ ble b a = true := by simp [ble]

theorem blt_append_left (p a b : Bytes) : blt (p ++ a) (p ++ b) = blt a b := by
  induction p with
  | nil => rfl
  | cons x xs ih => simp [blt_cons, ih]

theorem blt_append_self (a c : Bytes) : blt a (a ++ c) = !c.isEmpty := by
  have := blt_append_left a [] c
  simp only [List.append_nil] at this
  rw [this]; cases c <;> rfl

/-- two keys that differ before either ends keep their order whatever is appended -/
theorem blt_append_of_not_prefix {a b : Bytes} (h : blt a b = true) (hp : ¬ a <+: b) (s t : Bytes) :
    blt (a ++ s) (b ++ t) = true := by
  induction a generalizing b with
  | nil => exact absurd (List.nil_prefix) hp
  | cons x xs ih =>
    cases b with
    | nil => simp at h
    | cons y ys =>
      simp only [blt_cons, Bool.or_eq_true, Bool.and_eq_true, decide_eq_true_eq] at h
      simp only [List.cons_append, blt_cons, Bool.or_eq_true, Bool.and_eq_true, decide_eq_true_eq]
      rcases h with h | ⟨h1, h2⟩
      · exact Or.inl h
      · right
        refine ⟨h1, ih h2 ?_⟩
        intro hpre
        have : x = y := UInt8.toNat_inj.mp h1
        subst this
        exact hp (List.cons_prefix_cons.mpr ⟨rfl, hpre⟩)

theorem blt_uk_of_blt_key {u1 u2 : Bytes} {i1 i2 : Bytes} (hne : u1 ≠ u2) (h21 : ¬ u2 <+: u1)
    (h : blt (u1 ++ i1) (u2 ++ i2) = true) : blt u1 u2 = true := by
  rcases blt_trichotomy u1 u2 with h' | h' | h'
  · exact h'
  · exact absurd h' hne
  · have := blt_append_of_not_prefix h' h21 i2 i1
    rw [blt_asymm this] at h; cases h

theorem hasPrefix_iff {p k : Bytes} : hasPrefix p k = true ↔ p <+: k := by
  simp [hasPrefix, List.isPrefixOf_iff_prefix]

theorem prefix_of_range {p k t : Bytes} (h1 : ble p k = true) (h2 : blt k (p ++ t) = true) : p <+: k := by
  by_cases hp : p <+: k
  · exact hp
  · rcases ble_iff.mp h1 with h | rfl
    · have := blt_append_of_not_prefix h hp t []
      rw [List.append_nil] at this
      rw [blt_asymm this] at h2; simp at h2
    · exact absurd (List.prefix_refl _) hp

theorem ble_of_prefix {p k : Bytes} (h : p <+: k) : ble p k = true := by
  obtain ⟨c, rfl⟩ := h
  rw [ble_iff]
  cases c with
  | nil => right; simp
  | cons x xs => left; rw [blt_append_self]; rfl

theorem blt_replicate_ff (r : Bytes) (n : Nat) (h : r.length < n) : blt r (List.replicate n 255) = true := by
  induction r generalizing n with
  | nil => cases n with
    | zero => simp at h
    | succ n => rfl
  | cons x xs ih =>
    cases n with
    | zero => simp at h
    | succ n =>
      simp only [List.replicate_succ, blt_cons, Bool.or_eq_true, Bool.and_eq_true, decide_eq_true_eq]
      have hx := x.toNat_lt
      have : (255 : UInt8).toNat = 255 := rfl
      by_cases hx' : x.toNat < 255
      · left; omega
      · right; exact ⟨by omega, ih n (by simpa using h)⟩

theorem blt_prefixEnd {p r : Bytes} (h : r.length ≤ 256) : blt (p ++ r) (prefixEnd p) = true := by
  unfold prefixEnd endBytes
  rw [blt_append_left]
  exact blt_replicate_ff r 257 (by omega)

theorem prefixEnd_length (p : Bytes) : (prefixEnd p).length = p.length + 257 := by
  unfold prefixEnd endBytes
  rw [List.length_append, List.length_replicate]

theorem foldl_be (xs : Bytes) (acc : Nat) :
    xs.foldl (fun acc x => acc * 256 + x.toNat) acc
      = acc * 256 ^ xs.length + xs.foldl (fun acc x => acc * 256 + x.toNat) 0 := by
  induction xs generalizing acc with
  | nil => simp
  | cons x xs ih =>
    simp only [List.foldl_cons, List.length_cons]
    rw [ih (acc * 256 + x.toNat), ih (0 * 256 + x.toNat)]
    rw [Nat.pow_succ, Nat.add_mul, Nat.zero_mul, Nat.zero_add, Nat.mul_assoc, Nat.mul_comm 256, Nat.add_assoc]

theorem beNat_cons (x : UInt8) (xs : Bytes) : beNat (x :: xs) = x.toNat * 256 ^ xs.length + beNat xs := by
  unfold beNat
  rw [List.foldl_cons, foldl_be]; simp

theorem beNat_lt (xs : Bytes) : beNat xs < 256 ^ xs.length := by
  induction xs with
  | nil => simp [beNat]
  | cons x xs ih =>
    rw [beNat_cons, List.length_cons, Nat.pow_succ]
    have h2 : x.toNat * 256 ^ xs.length + 256 ^ xs.length ≤ 256 * 256 ^ xs.length :=
      Nat.succ_mul x.toNat _ ▸ Nat.mul_le_mul_right _ (Nat.succ_le_of_lt x.toNat_lt)
    omega

theorem lex_arith (x y r r' B : Nat) (hr : r < B) (hr' : r' < B) :
    (x * B + r < y * B + r') ↔ (x < y ∨ (x = y ∧ r < r')) := by
  rcases Nat.lt_trichotomy x y with h | rfl | h
  · have : x * B + B ≤ y * B := Nat.succ_mul x B ▸ Nat.mul_le_mul_right B h
    exact iff_of_true (by omega) (Or.inl h)
  · simp
  · have : y * B + B ≤ x * B := Nat.succ_mul y B ▸ Nat.mul_le_mul_right B h
    exact iff_of_false (by omega) (by omega)

theorem blt_eq_beNat_lt (a b : Bytes) (h : a.length = b.length) : blt a b = decide (beNat a < beNat b) := by
  induction a generalizing b with
  | nil => cases b with
    | nil => simp [blt, beNat]
    | cons _ _ => simp at h
  | cons x xs ih => cases b with
    | nil => simp at h
    | cons y ys =>
      simp only [List.length_cons, Nat.add_right_cancel_iff] at h
      rw [blt, ih ys h, beNat_cons, beNat_cons, h]
      rw [Bool.eq_iff_iff]
      simp only [Bool.or_eq_true, Bool.and_eq_true, decide_eq_true_eq]
      rw [lex_arith _ _ _ _ _ (h ▸ beNat_lt xs) (beNat_lt ys)]

theorem be8_length (n : Nat) : (be8 n).length = 8 := rfl

/-- the `k` low base-256 digits of `n`, most significant first, read back -/
theorem beNat_digits (n : Nat) : ∀ k : Nat,
    beNat ((List.range k).reverse.map fun i => UInt8.ofNat (n / 256 ^ i % 256)) = n % 256 ^ k
  | 0 => by simp [beNat, Nat.mod_one]
  | k + 1 => by
    rw [List.range_succ, List.reverse_append, List.reverse_singleton, List.singleton_append, List.map_cons,
      beNat_cons, beNat_digits n k, UInt8.toNat_ofNat', Nat.mod_mod, List.length_map, List.length_reverse,
      List.length_range, Nat.mod_pow_succ, Nat.mul_comm, Nat.add_comm]

theorem beNat_be8 (n : Nat) (hn : n < 18446744073709551616) : beNat (be8 n) = n := by
  have h : be8 n = (List.range 8).reverse.map fun i => UInt8.ofNat (n / 256 ^ i % 256) := by
    -- the same eight digits, the last one written `n / 256 ^ 0 % 256`
    show _ = [_, _, _, _, _, _, _, UInt8.ofNat (n / 256 ^ 0 % 256)]
    rw [Nat.pow_zero, Nat.div_one]
    rfl
  rw [h, beNat_digits, Nat.mod_eq_of_lt hn]

theorem be8_inj {a b : Nat} (ha : a < 18446744073709551616) (hb : b < 18446744073709551616)
    (h : be8 a = be8 b) : a = b := by
  have := congrArg beNat h
  rwa [beNat_be8 a ha, beNat_be8 b hb] at this

theorem blt_be8 (n m : Nat) (hn : n < 18446744073709551616) (hm : m < 18446744073709551616) :
    blt (be8 n) (be8 m) = decide (n < m) := by
  rw [blt_eq_beNat_lt _ _ (by simp [be8]), beNat_be8 n hn, beNat_be8 m hm]

theorem invVer_length (v : Nat) : (invVer v).length = 8 := rfl

theorem maxVer_sub_lt (v : Nat) : maxVer - v < 18446744073709551616 := Nat.lt_succ_of_le (Nat.sub_le _ _)

/-- newer versions sort first -/
theorem blt_invVer {v w : Nat} (hv : v ≤ maxVer) (hw : w ≤ maxVer) :
    blt (invVer v) (invVer w) = decide (w < v) := by
  unfold invVer
  rw [blt_be8 _ _ (maxVer_sub_lt v) (maxVer_sub_lt w), decide_eq_decide]
  omega

theorem invVer_injective {v w : Nat} (hv : v ≤ maxVer) (hw : w ≤ maxVer) (h : invVer v = invVer w) : v = w := by
  have h1 := blt_invVer hv hw
  have h2 := blt_invVer hw hv
  rw [h, blt_irrefl] at h1
  rw [h, blt_irrefl] at h2
  simp only [Bool.false_eq, decide_eq_false_iff_not] at h1 h2
  omega

theorem mkKey_inj {u u' : Bytes} {w w' : Nat} (hw : w ≤ maxVer) (hw' : w' ≤ maxVer)
    (h : mkKey u w = mkKey u' w') : u = u' ∧ w = w' := by
  unfold mkKey at h
  have hl : u.length = u'.length := by
    have := congrArg List.length h
    simp [invVer_length] at this; exact this
  obtain ⟨h1, h2⟩ := List.append_inj h hl
  exact ⟨h1, invVer_injective hw hw' h2⟩

theorem versionOf_mkKey (uk : Bytes) {v : Nat} (hv : v ≤ maxVer) : versionOf (mkKey uk v) = v := by
  unfold versionOf mkKey
  have hl : (uk ++ invVer v).length = uk.length + 8 := by simp [invVer_length]
  rw [hl, if_neg (by omega)]
  have : (uk ++ invVer v).drop (uk.length + 8 - 8) = invVer v := by
    rw [Nat.add_sub_cancel, List.drop_left]
  rw [this]; unfold invVer
  rw [beNat_be8 _ (maxVer_sub_lt v)]
  exact Nat.sub_sub_self hv

theorem userKeyOf_mkKey {uk : Bytes} (v : Nat) (h : uk ≠ []) : userKeyOf? (mkKey uk v) = some uk := by
  unfold userKeyOf? mkKey
  have hl : (uk ++ invVer v).length = uk.length + 8 := by simp [invVer_length]
  have : 0 < uk.length := List.length_pos_iff.mpr h
  rw [hl, if_neg (by omega), Nat.add_sub_cancel, List.take_left]

theorem userKeyOf_ne_of_blt {k uk : Bytes} (h : ∀ t, blt k (uk ++ t) = true) : userKeyOf? k ≠ some uk := by
  intro hk
  have hlt := h (k.drop (k.length - 8))
  unfold userKeyOf? at hk
  split at hk
  · cases hk
  · rw [← Option.some.inj hk, List.take_append_drop, blt_irrefl] at hlt
    cases hlt

theorem blt_mkKey_same (uk : Bytes) {v w : Nat} (hv : v ≤ maxVer) (hw : w ≤ maxVer) :
    blt (mkKey uk v) (mkKey uk w) = decide (w < v) := by
  unfold mkKey; rw [blt_append_left, blt_invVer hv hw]

end Canopy.Store
