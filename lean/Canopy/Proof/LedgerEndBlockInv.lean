import Canopy.Proof.LedgerSlashInv
import Canopy.Proof.LedgerPercents
/-! C12: the full `InvStaking` through `EndBlock`: max-pause force-unstake, finished unstaking, reward distribution
with auto-compounding. -/
namespace Canopy.Ledger
open AMap

/-- an address that holds no record, or one that is unstaking, has no paused marker (at any height) -/
theorem not_paused_of_unstaking {L : Ledger} {a : Addr} (hm : Markers L)
    (h : ∀ v, valGet? L a = some v → v.unstakingHeight ≠ 0) (k : Nat) : KSet.has L.paused (k, a) = false :=
  Bool.eq_false_iff.2 fun hp => by
    obtain ⟨v, hv, he, hne⟩ := (hm.paused k a).1 hp
    exact hne (he ▸ hm.exclusive a v hv (h v hv))

/-- last clause: afterwards `a` holds no record or is unstaking -/
theorem forceUnstakeValidator_inv {L : Ledger} (a : Addr) (hs : InvStaking L) (hh : (L.height + L.params.unstakingBlocks) % U64 ≠ 0) :
    InvStaking (forceUnstakeValidator L a) ∧ SameCtx L (forceUnstakeValidator L a) ∧
    (∀ k, KSet.has (forceUnstakeValidator L a).paused k = true → KSet.has L.paused k = true) ∧
    ∀ v, valGet? (forceUnstakeValidator L a) a = some v → v.unstakingHeight ≠ 0 := by
  rcases forceUnstakeValidator_cases L a with ⟨e, hn⟩ | ⟨val, hv, hu, e⟩
  · rw [e]; exact ⟨hs, SameCtx.refl L, fun k hk => hk, hn⟩
  · rw [e]
    refine ⟨setValidatorUnstaking_inv hs hv hu hh, setValidatorUnstaking_ctx .., ?_, ?_⟩
    · intro k hk
      rw [setValidatorUnstaking_eq] at hk
      dsimp only at hk
      split at hk
      · exact has_del_of _ _ _ hk
      · exact hk
    · intro v hv'
      unfold valGet? at hv'
      rw [setValidatorUnstaking_validators, find?_set_self] at hv'
      cases hv'
      exact hh

theorem foldl_forceUnstake_inv : ∀ (as : List Addr) (L : Ledger), InvStaking L → (L.height + L.params.unstakingBlocks) % U64 ≠ 0 →
    InvStaking (as.foldl forceUnstakeValidator L) ∧ SameCtx L (as.foldl forceUnstakeValidator L) ∧
    (∀ k, KSet.has (as.foldl forceUnstakeValidator L).paused k = true → KSet.has L.paused k = true) ∧
    (∀ b ∈ as, KSet.has (as.foldl forceUnstakeValidator L).paused (L.height, b) = false)
  | [], L, hs, _ => ⟨hs, SameCtx.refl L, fun k hk => hk, fun b hb => by simp at hb⟩
  | a :: as, L, hs, hh => by
    obtain ⟨i1, c1, mono1, u1⟩ := forceUnstakeValidator_inv a hs hh
    have abs1 := not_paused_of_unstaking i1.markers u1 L.height
    obtain ⟨i2, c2, mono2, abs2⟩ := foldl_forceUnstake_inv as _ i1 (by rw [c1.height, c1.params]; exact hh)
    refine ⟨i2, c1.trans c2, fun k hk => mono1 k (mono2 k hk), ?_⟩
    intro b hb
    simp only [List.mem_cons] at hb
    rcases hb with rfl | hb
    · exact Bool.eq_false_iff.2 fun hd => by rw [mono2 _ hd] at abs1; cases abs1
    · have := abs2 b hb; rw [c1.height] at this; exact this

/-- `ForceUnstakeMaxPaused` keeps `InvStaking`: the paused markers it deletes at the end are gone already -/
theorem forceUnstakeMaxPaused_inv {L : Ledger} (hs : InvStaking L) (hh : (L.height + L.params.unstakingBlocks) % U64 ≠ 0) :
    InvStaking (forceUnstakeMaxPaused L) ∧ SameCtx L (forceUnstakeMaxPaused L) := by
  unfold forceUnstakeMaxPaused
  dsimp only
  rw [foldl_pausedDel]
  obtain ⟨i1, c1, _, abs1⟩ := foldl_forceUnstake_inv (dueAt L.paused L.height) L hs hh
  obtain ⟨n', j⟩ := has_foldl_del_at (dueAt L.paused L.height) _ _ i1.wf.paused
  refine ⟨⟨i1.tallies.of_same rfl rfl rfl rfl rfl, ⟨i1.markers.unstaking, fun h b => ?_, i1.markers.exclusive⟩,
    ⟨i1.wf.validators, i1.wf.unstaking, n', i1.wf.committee, i1.wf.delegated⟩⟩, c1.trans ⟨rfl, rfl, rfl, rfl⟩⟩
  refine Iff.trans ((j h b).trans (and_iff_left_of_imp fun hp e => ?_)) (i1.markers.paused h b)
  rw [e.1, c1.height, abs1 b e.2] at hp
  cases hp

theorem finishUnstakingStep_paused {L L' : Ledger} {a : Addr} (h : finishUnstakingStep L a = .ok L') : L'.paused = L.paused := by
  obtain ⟨val, L1, _, h1, h2⟩ := finishUnstakingStep_ok h
  obtain ⟨acc, vs, rfl, _⟩ := accountAdd_ok h1
  exact (deleteValidator_frame h2).2.paused

theorem foldlM_finishUnstaking_paused : ∀ (as : List Addr) (L L' : Ledger), as.foldlM finishUnstakingStep L = .ok L' → L'.paused = L.paused
  | [], L, L', h => by obtain rfl := Except.ok.inj h; rfl
  | a :: as, L, L', h => by
    simp only [List.foldlM_cons] at h
    obtain ⟨L1, h1, h2⟩ := bind_ok h
    exact (foldlM_finishUnstaking_paused as L1 L' h2).trans (finishUnstakingStep_paused h1)

/-- `DeleteFinishedUnstaking` succeeds and keeps the full `InvStaking` -/
theorem deleteFinishedUnstaking_inv {L : Ledger} (hi : InvSupply L) (hs : InvStaking L) :
    ∃ L', deleteFinishedUnstaking L = .ok L' ∧ InvStaking L' ∧ SameCtx L L' := by
  unfold deleteFinishedUnstaking
  dsimp only
  have hdue : ∀ a, a ∈ dueAt L.unstaking L.height ↔ KSet.has L.unstaking (L.height, a) = true := by
    intro a; rw [mem_dueAt, has_iff_mem_keys]
  obtain ⟨L1, h1, i1, t1, n1, p1, u1, c1, hget⟩ :=
    foldlM_finishUnstaking_ok (dueAt L.unstaking L.height) L hi hs.tallies hs.wf.validators hs.pools
      (nodup_dueAt L.unstaking L.height hs.wf.unstaking) (fun a ha => by
        obtain ⟨v, hv, _⟩ := (hs.markers.unstaking _ _).1 ((hdue a).1 ha)
        exact ⟨v, hv⟩)
  have pa1 := foldlM_finishUnstaking_paused _ L L1 h1
  rw [h1]
  dsimp only
  rw [foldl_unstakingDel]
  obtain ⟨j4, j5⟩ := has_foldl_del_at (dueAt L.unstaking L.height) L1.height L1.unstaking (by rw [u1]; exact hs.wf.unstaking)
  -- a validator whose unstaking finishes now has its marker at this height, and is not paused
  have hfin : ∀ b v, valGet? L b = some v → b ∈ dueAt L.unstaking L.height → v.unstakingHeight = L.height ∧ v.unstakingHeight ≠ 0 := by
    intro b v hv hm
    obtain ⟨v2, hv2, he2, hne2⟩ := (hs.markers.unstaking _ _).1 ((hdue b).1 hm)
    rw [hv] at hv2; cases hv2
    exact ⟨he2, by rw [he2]; exact hne2⟩
  refine ⟨_, rfl, InvStaking.mk' (t1.of_same rfl rfl rfl rfl rfl)
    ⟨Marks.remove hs.markers.unstaking hget fun h b => ?_, Marks.remove hs.markers.paused hget fun h b => ?_, ?_⟩
    ⟨n1, j4, by rw [pa1]; exact hs.wf.paused⟩ ⟨p1.committee, p1.delegated⟩, c1.trans ⟨rfl, rfl, rfl, rfl⟩⟩
  · refine (j5 h b).trans ?_
    rw [u1, c1.height]
    refine and_congr_right fun q => not_congr ⟨fun e => e.2, fun hm => ⟨?_, hm⟩⟩
    obtain ⟨v, hv, he, _⟩ := (hs.markers.unstaking h b).1 q
    rw [← he]; exact (hfin b v hv hm).1
  · show KSet.has L1.paused (h, b) = true ↔ _
    rw [pa1]
    refine (and_iff_left_of_imp fun q hm => ?_).symm
    obtain ⟨v, hv, he, hne⟩ := (hs.markers.paused h b).1 q
    rw [hs.markers.exclusive b v hv (hfin b v hv hm).2] at he
    exact hne he.symm
  · intro b v hv
    have hv : valGet? L1 b = some v := hv
    rw [hget] at hv
    split at hv
    · cases hv
    · exact hs.markers.exclusive b v hv

theorem distributeReward_inv {L L1 : Ledger} {a : Addr} {p pool samples d : Nat} (hs : InvStaking L)
    (hw : ∀ val, valGet? L a = some val → val.stake + fullOf p pool samples < U64)
    (h : distributeReward L a p pool samples = .ok (d, L1)) : InvStaking L1 ∧ SameBlock L L1 := by
  rcases distributeReward_cases h with ⟨b, _, h1⟩ | ⟨val, hv, rfl, h1⟩
  · have ss := sameStaking_accountAdd h1
    exact ⟨hs.of_sameStaking ss, ss.ctx.block⟩
  · have hr := rewardAmounts_le L p pool samples
    have hw' := hw val hv
    exact ⟨updateValidatorStake_inv (old := val) hs hv rfl rfl rfl rfl rfl (by omega) h1, (updateValidatorStake_frame h1).2.ctx.block⟩

theorem distributeStubs_inv {chain pool samples : Nat} : ∀ (ps : List (Addr × Nat)) (L L1 : Ledger) (tot tot' : Nat),
    InvStaking L → poolGet L chain = pool → bal L + fullSum ps pool samples < U64 + pool →
    distributeStubs L pool samples ps tot = .ok (tot', L1) → InvStaking L1 ∧ SameBlock L L1
  | [], L, L1, tot, tot', hs, hp, hb, h => by
    simp only [distributeStubs, Except.ok.injEq, Prod.mk.injEq] at h
    obtain ⟨_, rfl⟩ := h
    exact ⟨hs, SameBlock.refl _⟩
  | (a, p) :: rest, L, L1, tot, tot', hs, hp, hb, h => by
    obtain ⟨d, L2, h1, h2⟩ := distributeStubs_cons_ok h
    simp only [fullSum, List.map_cons, List.sum_cons] at hb
    obtain ⟨hw, _, _, hp2, _, hb2⟩ := distributeReward_step hp hb h1
    obtain ⟨i2, b2⟩ := distributeReward_inv hs hw h1
    obtain ⟨i3, b3⟩ := distributeStubs_inv rest L2 L1 (tot + d) tot' i2 hp2 hb2 h2
    exact ⟨i3, b2.trans b3⟩

theorem distributeFor_inv {L L' : Ledger} {d : CommitteeData} (hi : InvSupply L) (hs : InvStaking L)
    (hd : percentSum d.percents ≤ 100 * d.samples) (h : distributeFor L d = .ok L') : InvStaking L' ∧ SameBlock L L' := by
  rcases distributeFor_run h with rfl | ⟨tot, L1, hds, hf⟩
  · exact ⟨hs, SameBlock.refl _⟩
  · obtain ⟨s1, b1⟩ := distributeStubs_inv (chain := d.chainId) d.percents L L1 0 tot hs rfl (distributeFor_bound hi hd).2.2 hds
    unfold distributeFinish at hf
    obtain ⟨L2, h2, hf⟩ := bind_ok hf
    obtain rfl := Except.ok.inj hf
    have ss := sameStaking_subFromTotal h2
    have s3 : InvStaking (poolPut L2 d.chainId 0) := (s1.of_sameStaking ss).of_same rfl rfl rfl rfl rfl rfl rfl
    refine ⟨(putCommitteeData_staking _ _).2 s3, b1.trans (ss.ctx.block.trans ?_)⟩
    unfold putCommitteeData
    split <;> exact ⟨rfl, rfl, rfl⟩

theorem distributeCommitteeRewards_inv {L L' : Ledger} (hi : InvSupply L) (hp : PercentsOK L) (hs : InvStaking L)
    (h : distributeCommitteeRewards L = .ok L') : InvStaking L' ∧ SameBlock L L' :=
  (foldlM_keeps (fun A => InvSupply A ∧ InvStaking A ∧ SameBlock L A) L.committeesData
    (fun d hd _ _ ⟨iA, sA, bA⟩ h1 =>
      have ⟨s1, b1⟩ := distributeFor_inv iA sA (hp d hd) h1
      ⟨(distributeFor_burns iA (hp d hd) h1).inv iA, s1, bA.trans b1⟩)
    L L' ⟨hi, hs, SameBlock.refl _⟩ h).2

/-- **`EndBlock` keeps the full `InvStaking`** -/
theorem endBlock_inv {L L' : Ledger} (hi : InvSupply L) (hp : PercentsOK L) (hs : InvStaking L) (hh : (L.height + L.params.unstakingBlocks) % U64 ≠ 0)
    (h : endBlock L = .ok L') : InvStaking L' := by
  obtain ⟨L1, L3, h1, h3, rfl⟩ := endBlock_run h
  obtain ⟨b1, _⟩ := distributeCommitteeRewards_burns hi hp h1
  obtain ⟨s1, e⟩ := distributeCommitteeRewards_inv hi hp hs h1
  have s2 := (forceUnstakeMaxPaused_inv s1 (by rw [e.height, e.params]; exact hh)).1
  have i2 := (forceUnstakeMaxPaused_moves L1).inv (b1.inv hi)
  obtain ⟨L3', h3', s3, _⟩ := deleteFinishedUnstaking_inv i2 s2
  obtain rfl := Except.ok.inj (h3'.symm.trans h3)
  exact s3.of_same rfl rfl rfl rfl rfl rfl rfl

end Canopy.Ledger
