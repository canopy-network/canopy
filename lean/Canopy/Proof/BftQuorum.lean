import Canopy.Model.Bft
import Canopy.Proof.Lex
/-! View order and quorum intersection (M-quorum) for `Canopy.Bft`: any committee list, any stake function. -/
namespace Canopy.Bft
open Canopy.Lex

theorem View.lt_irrefl (a : View) : ¬ a < a :=
  fun h => h.elim (Nat.lt_irrefl _) fun h => Nat.lt_irrefl _ h.2
theorem View.lt_trans {a b c : View} (h1 : a < b) (h2 : b < c) : a < c := nat.lex_trans Nat.lt_trans h1 h2
theorem View.lt_asymm {a b : View} : a < b → ¬ b < a := fun h1 h2 => View.lt_irrefl a (View.lt_trans h1 h2)
theorem View.le_lt_trans {a b c : View} (h1 : a ≤ b) (h2 : b < c) : a < c :=
  Or.elim h1 (fun h => View.lt_trans h h2) (fun h => h ▸ h2)
theorem View.lt_le_trans {a b c : View} (h1 : a < b) (h2 : b ≤ c) : a < c :=
  Or.elim h2 (View.lt_trans h1) (fun h => h ▸ h1)
theorem View.le_trans {a b c : View} (h1 : a ≤ b) (h2 : b ≤ c) : a ≤ c :=
  Or.elim h1 (fun h => .inl (View.lt_le_trans h h2)) (fun h => h ▸ h2)
theorem View.le_refl (a : View) : a ≤ a := Or.inr rfl
theorem View.le_of_lt {a b : View} (h : a < b) : a ≤ b := Or.inl h
theorem View.lt_or_ge (a b : View) : a < b ∨ b ≤ a := by
  rcases nat.lex_tri (x := a.root) (y := b.root) ((Nat.lt_trichotomy a.round b.round).imp_right Or.symm) with h | h | ⟨h1, h2⟩
  · exact .inl h
  · exact .inr (.inl h)
  · obtain ⟨ar, an⟩ := a
    cases h1
    cases h2
    exact .inr (.inr rfl)

theorem sum_filter_mono {α : Type} (f : α → Nat) (l : List α) (p q : α → Bool)
    (h : ∀ x ∈ l, p x = true → q x = true) : ((l.filter p).map f).sum ≤ ((l.filter q).map f).sum := by
  induction l with
  | nil => exact Nat.le_refl _
  | cons a l ih =>
    have ih' := ih (fun x hx => h x (List.mem_cons_of_mem _ hx))
    cases hp : p a
    · cases hq : q a
      · simpa only [List.filter, hp, hq] using ih'
      · simp only [List.filter, hp, hq, List.map_cons, List.sum_cons]
        exact Nat.le_trans ih' (Nat.le_add_left _ _)
    · simp only [List.filter, hp, h a List.mem_cons_self hp, List.map_cons, List.sum_cons]
      exact Nat.add_le_add_left ih' _

namespace Cfg
variable (c : Cfg)

def pwr (l : List Nat) (p : Nat → Bool) : Nat := ((l.filter p).map c.pw).sum

theorem pwr_cons (a : Nat) (l : List Nat) (p : Nat → Bool) :
    c.pwr (a :: l) p = (if p a then c.pw a else 0) + c.pwr l p := by
  unfold pwr
  by_cases h : p a <;> simp [List.filter, h]

theorem pwr_split (l : List Nat) (p b : Nat → Bool) :
    c.pwr l p = c.pwr l (fun r => p r && b r) + c.pwr l (fun r => p r && !b r) := by
  induction l with
  | nil => rfl
  | cons a l ih =>
    rw [pwr_cons, pwr_cons, pwr_cons, ih, Nat.add_add_add_comm]
    cases p a <;> cases b a <;> simp

theorem pwr_mono (l : List Nat) {p q : Nat → Bool} (h : ∀ r, p r = true → q r = true) :
    c.pwr l p ≤ c.pwr l q := sum_filter_mono c.pw l p q fun r _ => h r

theorem pwr_and_le (l : List Nat) (p b : Nat → Bool) : c.pwr l (fun r => p r && b r) ≤ c.pwr l b :=
  c.pwr_mono _ fun _ h => (Bool.and_eq_true_iff.mp h).2

/-- inclusion and exclusion: split `p` and the whole list along `q` -/
theorem pwr_add_le (l : List Nat) (p q : Nat → Bool) :
    c.pwr l p + c.pwr l q ≤ c.pwr l (fun _ => true) + c.pwr l (fun r => p r && q r) := by
  have h1 := c.pwr_split l p q
  have h2 : c.pwr l (fun _ => true) = c.pwr l q + c.pwr l (fun r => !q r) := c.pwr_split l (fun _ => true) q
  have h3 := c.pwr_and_le l p (fun r => !q r)
  omega

theorem pwr_pos_exists (l : List Nat) (p : Nat → Bool) (h : 0 < c.pwr l p) : ∃ r ∈ l, p r = true := by
  cases hf : l.filter p with
  | nil =>
    rw [pwr, hf] at h
    cases h
  | cons r _ =>
    have hr := List.mem_filter.mp (hf ▸ List.mem_cons_self)
    exact ⟨r, hr.1, hr.2⟩

theorem total_eq : c.total = c.pwr c.committee (fun _ => true) := by
  rw [total, pwr, List.filter_eq_self.mpr fun _ _ => rfl]

theorem powerOf_eq (p : Nat → Bool) : c.powerOf p = c.pwr c.committee p := rfl

theorem powerOf_mono {p q : Nat → Bool} (h : ∀ r, p r = true → q r = true) : c.powerOf p ≤ c.powerOf q :=
  c.pwr_mono _ h

/-- two quorums share a replica outside the Byzantine set -/
theorem quorum_intersect (hb : 3 * c.powerOf c.byz < c.total) {p q : Nat → Bool}
    (hp : c.maj ≤ c.powerOf p) (hq : c.maj ≤ c.powerOf q) :
    ∃ r ∈ c.committee, p r = true ∧ q r = true ∧ c.byz r = false := by
  have h1 := c.pwr_add_le c.committee p q
  have h2 := c.pwr_split c.committee (fun r => p r && q r) c.byz
  have h3 := c.pwr_and_le c.committee (fun r => p r && q r) c.byz
  have hpos : 0 < c.pwr c.committee (fun r => (p r && q r) && !c.byz r) := by
    simp only [powerOf_eq] at hp hq hb
    rw [← total_eq] at h1
    unfold maj at hp hq
    omega
  obtain ⟨r, hr, h⟩ := c.pwr_pos_exists _ _ hpos
  simp only [Bool.and_eq_true, Bool.not_eq_true'] at h
  exact ⟨r, hr, h.1.1, h.1.2, h.2⟩

theorem quorum_honest (hb : 3 * c.powerOf c.byz < c.total) {p : Nat → Bool}
    (hp : c.maj ≤ c.powerOf p) : ∃ r ∈ c.committee, p r = true ∧ c.byz r = false := by
  obtain ⟨r, hr, h1, _, h3⟩ := c.quorum_intersect hb hp hp
  exact ⟨r, hr, h1, h3⟩

end Cfg
end Canopy.Bft
